/-
  Spec: what a selector DENOTES on a graph of blocks, independently of the walk (DESIGN §5 C07).

  The walk (`Model/Walk.lean`) is a stateful, fuel-indexed, error-propagating loop that threads budgets, a
  seen-set, a start-at path and an event log.  The denotation here is written the other way round: it is
  indexed by the PATH.  `selectorAt store s root path` follows `path` from `root`, one segment at a time, and
  answers the node and the residual selector found there, or `none` when the selector does not lead there.
  It is structurally recursive on the path: no fuel, no state, no errors, no log.

  One step (`stepAt`) from a node `n` under selector `s` along segment `seg`:
    * `seg` must be one of the segments tried at `n` (`segsAt`): the selector's explicit interest list when it
      has one (`Interests()` non-nil), otherwise the node's own segments (map keys, list indices);
    * the child is found by random access (`LookupBySegment`), not by iteration;
    * `Explore(n, seg)` must answer a residual selector `s'` (an error or "do not explore" ends the path);
    * if the child is a link it is loaded from `store` and the path goes on in the loaded block, AT THE SAME
      PATH: the link node itself is never a position of its own (this mirrors `exploreChild`, which loads
      before calling `walkAdv` on the block and never calls `walkAdv` on the link child).  A link is only
      ever a position when it is the root handed to the walk or the root of a loaded block (no second hop:
      the block's root is taken as it is).

  `Selected store s root path` = the selector leads to `path`.  The visit there is a match iff the residual
  selector decides the node (`Match` answers), a candidate otherwise; the node reported is `Match`'s answer
  (the slice, for a matcher with a subset) or the node itself (`visitOf`).

  `denote store depth s root` enumerates the selected positions of depth `< depth` in document order
  (pre-order; the children of a node in the order of `segsAt`: the node's own order when the selector has no
  explicit interests, the interest order otherwise).  Its membership is characterised through `selectorAt`
  (`Lemmas/SelectorAt.lean`, `mem_denote`), and its order through `DocBefore` (`Lemmas/DenoteOrder.lean`:
  `denote_sorted`; `denote_unique`: it is the only list of the selected paths sorted that way).

  `cleanFrom store depth root s` says that nothing can go wrong (no ADL clause, no failing `Explore`, no
  unloadable link) and that the selection is no deeper than `depth`: exactly when a walk with enough fuel
  succeeds (`Lemmas/WalkOk.lean`).

  Also here: the selector-free positions of a graph (`nodeAt`, `preorder`), to state what "explore everything"
  means.  Core Lean only.
-/
import IpldModel.Model.Selector
import IpldModel.Model.Walk
namespace Ipld
namespace Spec
open Sel
open Walk (Reason)

abbrev Store := List (Bytes × DM)

/-- the segments under which a node lists its own children, in the node's order -/
def ownSegs : DM → List Seg
  | .map es => es.keys.map .str
  | .list xs => (List.range xs.length).map .idx
  | _ => []

/-- the segments tried at node `n` under selector `s`, in order: the explicit interests if the selector has
    them, the node's own segments otherwise -/
def segsAt (n : DM) (s : S) : List Seg := (interests s).getD (ownSegs n)

/-- the child value under `seg`, if `seg` is tried at all -/
def childAt (n : DM) (s : S) (seg : Seg) : Option DM :=
  if seg ∈ segsAt n s then lookupBySegment n seg else none

/-- a link child stands for the block it names (`none`: not loadable); anything else for itself -/
def deref (store : Store) : DM → Option DM
  | .link c => store.lookup c
  | v => some v

/-- one step of a path: the node entered and the selector that applies there -/
def stepAt (store : Store) (n : DM) (s : S) (seg : Seg) : Option (DM × S) :=
  match childAt n s seg, explore s n seg with
  | some v, .ok (some s') => (deref store v).map fun n' => (n', s')
  | _, _ => none

/-- the node and residual selector reached by following `path` from `root` under `s` -/
def selectorAt (store : Store) (s : S) (root : DM) : Path → Option (DM × S)
  | [] => some (root, s)
  | seg :: rest =>
    match stepAt store root s seg with
    | some (n', s') => selectorAt store s' n' rest
    | none => none

/-- the selector leads to this position -/
def Selected (store : Store) (s : S) (root : DM) (path : Path) : Prop :=
  (selectorAt store s root path).isSome = true

instance (store : Store) (s : S) (root : DM) (path : Path) : Decidable (Selected store s root path) := by
  unfold Selected; exact inferInstance

/-- does the selector decide (match) the node -/
def decides (s : S) (n : DM) : Bool := (matchNode s n).isSome

/-- what an observer is told about position `path`, where node `n` is under residual selector `s` -/
def visitOf (path : Path) (n : DM) (s : S) : Path × DM × Reason :=
  match matchNode s n with
  | some m => (path, m, .matched)
  | none => (path, n, .candidate)

/-- selected positions below (and including) `path`, where `n` is under `s`, to relative depth `< depth`,
    in document order -/
def denoteFrom (store : Store) : Nat → Path → DM → S → List (Path × DM × Reason)
  | 0, _, _, _ => []
  | depth + 1, path, n, s =>
    visitOf path n s :: (segsAt n s).flatMap fun seg =>
      match stepAt store n s seg with
      | some (n', s') => denoteFrom store depth (path ++ [seg]) n' s'
      | none => []

/-- all selected positions of depth `< depth`, in document order -/
def denote (store : Store) (depth : Nat) (s : S) (root : DM) : List (Path × DM × Reason) :=
  denoteFrom store depth [] root s

/-! ### when nothing goes wrong -/

/-- is the selector an ADL clause (`interpretAs`)?  No ADL is configured in the modelled link system, so
    arriving at a position under such a selector is an error, not a visit. -/
def needsAdl : S → Bool
  | .interpretAs _ _ => true
  | _ => false

/-- nothing goes wrong at or below a position (node `n` under selector `s`) and the selection below it ends
    within relative depth `< depth`: the selector is not an ADL clause; for every segment tried and present,
    `Explore` does not fail, and if it answers a selector, a link child can be loaded and the position entered
    is clean to `depth - 1` -/
def cleanFrom (store : Store) : Nat → DM → S → Bool
  | 0, _, _ => false
  | depth + 1, n, s =>
    !needsAdl s && (segsAt n s).all fun seg =>
      match childAt n s seg with
      | none => true
      | some v =>
        match explore s n seg with
        | .error _ => false
        | .ok none => true
        | .ok (some s') =>
          match deref store v with
          | none => false
          | some n' => cleanFrom store depth n' s'

/-! ### document order, stated on paths -/

/-- `a` is tried strictly before `b` in the list `l`: it sits at an earlier index -/
def TriedBefore (l : List Seg) (a b : Seg) : Prop := ∃ i j : Nat, i < j ∧ l[i]? = some a ∧ l[j]? = some b

/-- `p` comes before `q` in document order under selector `s` from `root`: `p` is a proper ancestor of `q`, or
    they part ways below a common ancestor `r`, `p` through a segment tried earlier at `r` than `q`'s -/
def DocBefore (store : Store) (s : S) (root : DM) (p q : Path) : Prop :=
  (∃ t, t ≠ [] ∧ q = p ++ t) ∨
  ∃ r a b p' q' n s', p = r ++ a :: p' ∧ q = r ++ b :: q' ∧ selectorAt store s root r = some (n, s') ∧
    TriedBefore (segsAt n s') a b

/-! ### the graph without a selector -/

/-- the node at `path`, following the node's own segments and loading links -/
def nodeAt (store : Store) (root : DM) : Path → Option DM
  | [] => some root
  | seg :: rest =>
    if seg ∈ ownSegs root then
      match (lookupBySegment root seg).bind (deref store) with
      | some n' => nodeAt store n' rest
      | none => none
    else none

/-- every position of relative depth `< depth` below (and including) `path`, in pre-order -/
def preorder (store : Store) : Nat → Path → DM → List (Path × DM)
  | 0, _, _ => []
  | depth + 1, path, n =>
    (path, n) :: (ownSegs n).flatMap fun seg =>
      match (lookupBySegment n seg).bind (deref store) with
      | some n' => preorder store depth (path ++ [seg]) n'
      | none => []

end Spec
end Ipld

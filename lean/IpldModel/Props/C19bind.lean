/-
  C19, second part — Wrap and Unwrap themselves (`Model/GoBind.lean`: what node.go does, not an idealisation), over
  every Go type of the shape vocabulary and every value.  Every theorem holds for the code as it is in /repo, bindnode
  repairs included; the only hypotheses are `t.wf` and `compatible`, i.e. what the schema compiler and
  `verifyCompatibility` establish before any node exists; each is needed (`view_assign_needs_wf`,
  `assign_refuses_iff_needs_wf`, `assign_refuses_iff_needs_compatible`).
-/
import IpldModel.Lemmas.GoBindAssign
import IpldModel.Lemmas.SchemaRoundTrip
namespace Ipld.Props.C19
open Ipld Ipld.Schema Ipld.GoBind

/-! ## Wrap of what was built -/

/-- The Go value behind a built node is a well-typed inhabitant of the schema type (integers
    within their kinds, enum values that name a member, exactly one union field set, `Keys` and `Values` in step). -/
theorem unwrap_well_typed (g : GoTy) (t : Ty) (tl : TL) (gv : GoVal) (hwf : t.wf = true)
    (hc : compatible g t false = true) (ha : assign g t tl = some gv) : wt g t false gv = true :=
  (assign_sound g t tl gv hwf hc ha).1

/-- For every compatible pair of a Go type and a well-formed schema type and every type-level tree
    `tl`: if the builder accepts `tl` and `gv` is the Go value behind the built node, then wrapping `gv` shows exactly
    what was assembled (the normal form of `tl`: fields in declaration order, unset optional fields explicit). -/
theorem view_assign (g : GoTy) (t : Ty) (tl : TL) (gv : GoVal) (hwf : t.wf = true)
    (hc : compatible g t false = true) (ha : assign g t tl = some gv) :
    view g t false gv = some (normalize t tl) :=
  (assign_sound g t tl gv hwf hc ha).2

/-- The known finding `C19/nilable-slot-empty-list-becomes-absent`, repaired.  `struct { a optional [String] }` bound to
    `struct{ A []string }` (no pointer: `verifyCompatibility` accepts a nilable type for an optional field), the
    nullable variant, and nullable Bytes in a `[]byte`: the builder accepts `{a: []}` and stores a NON-NIL empty slice
    (`BeginList` makes it), which reads as the empty list; nil is stored for absent / null only.  Go:
    `ipld.Unmarshal([]byte(`{"A":[]}`), dagjson.Decode, &v, T)` then `Marshal` gives `{"A":[]}` again. -/
theorem empty_list_in_bare_nilable_slot_stays_empty :
    compatible (.struct (GoFields.ofList [([97], .slice .str)]))
      (.struct (Fields.ofList [⟨[97], [97], true, false, .list .str false⟩]) .map) false = true ∧
    assign (.struct (GoFields.ofList [([97], .slice .str)]))
      (.struct (Fields.ofList [⟨[97], [97], true, false, .list .str false⟩]) .map)
      (.map (TLKVs.ofList [([97], .list .nil)])) = some (.struct (GoVals.ofList [.slice .nil])) ∧
    view (.struct (GoFields.ofList [([97], .slice .str)]))
      (.struct (Fields.ofList [⟨[97], [97], true, false, .list .str false⟩]) .map) false
      (.struct (GoVals.ofList [.slice .nil])) = some (.map (TLKVs.ofList [([97], .list .nil)])) ∧
    assign (.struct (GoFields.ofList [([97], .slice .str)]))
      (.struct (Fields.ofList [⟨[97], [97], true, false, .list .str false⟩]) .map)
      (.map .nil) = some (.struct (GoVals.ofList [.nilBare])) ∧
    -- the nullable variant
    assign (.struct (GoFields.ofList [([97], .slice .str)]))
      (.struct (Fields.ofList [⟨[97], [97], false, true, .list .str false⟩]) .map)
      (.map (TLKVs.ofList [([97], .list .nil)])) = some (.struct (GoVals.ofList [.slice .nil])) ∧
    view (.struct (GoFields.ofList [([97], .slice .str)]))
      (.struct (Fields.ofList [⟨[97], [97], false, true, .list .str false⟩]) .map) false
      (.struct (GoVals.ofList [.slice .nil])) = some (.map (TLKVs.ofList [([97], .list .nil)])) ∧
    assign (.struct (GoFields.ofList [([97], .slice .str)]))
      (.struct (Fields.ofList [⟨[97], [97], false, true, .list .str false⟩]) .map)
      (.map (TLKVs.ofList [([97], .null)])) = some (.struct (GoVals.ofList [.nilBare])) ∧
    -- empty bytes in a nullable `[]byte` (was `C19/nilable-slot-empty-bytes-becomes-absent-dagcbor`)
    assign (.struct (GoFields.ofList [([97], .bytes)]))
      (.struct (Fields.ofList [⟨[97], [97], false, true, .bytes⟩]) .map)
      (.map (TLKVs.ofList [([97], .bytes [])])) = some (.struct (GoVals.ofList [.bytes []])) ∧
    view (.struct (GoFields.ofList [([97], .bytes)]))
      (.struct (Fields.ofList [⟨[97], [97], false, true, .bytes⟩]) .map) false
      (.struct (GoVals.ofList [.bytes []])) = some (.map (TLKVs.ofList [([97], .bytes [])])) ∧
    -- behind a pointer (the vocabulary the property names) likewise
    assign (.struct (GoFields.ofList [([97], .ptr (.slice .str))]))
      (.struct (Fields.ofList [⟨[97], [97], true, false, .list .str false⟩]) .map)
      (.map (TLKVs.ofList [([97], .list .nil)])) = some (.struct (GoVals.ofList [.ptr (.slice .nil)])) ∧
    view (.struct (GoFields.ofList [([97], .ptr (.slice .str))]))
      (.struct (Fields.ofList [⟨[97], [97], true, false, .list .str false⟩]) .map) false
      (.struct (GoVals.ofList [.ptr (.slice .nil)])) = some (.map (TLKVs.ofList [([97], .list .nil)])) := by decide +kernel

/-- Nullable list elements and map values bound to bare nilable Go types
    (`[][]byte`, `[][]string`, `map[string]datamodel.Link`): nil is null, every other value - the empty ones
    included - is itself, in both directions (reading such elements used to panic:
    `C19/nullable-element-bare-slice-read-panics`, repaired). -/
theorem nullable_elements_in_bare_nilable :
    compatible (.slice .bytes) (.list .bytes true) false = true ∧
    view (.slice .bytes) (.list .bytes true) false (.slice (GoVals.ofList [.nilBare, .bytes [], .bytes [1]]))
      = some (.list (TLs.ofList [.null, .bytes [], .bytes [1]])) ∧
    assign (.slice .bytes) (.list .bytes true) (.list (TLs.ofList [.null, .bytes [], .bytes [1]]))
      = some (.slice (GoVals.ofList [.nilBare, .bytes [], .bytes [1]])) ∧
    view (.slice (.slice .str)) (.list (.list .str false) true) false
      (.slice (GoVals.ofList [.nilBare, .slice .nil, .slice (GoVals.ofList [.str [120]])]))
      = some (.list (TLs.ofList [.null, .list .nil, .list (TLs.ofList [.str [120]])])) ∧
    assign (.slice (.slice .str)) (.list (.list .str false) true)
      (.list (TLs.ofList [.null, .list .nil, .list (TLs.ofList [.str [120]])]))
      = some (.slice (GoVals.ofList [.nilBare, .slice .nil, .slice (GoVals.ofList [.str [120]])])) ∧
    compatible (.omap (.link .iface)) (.map .link true) false = true ∧
    view (.omap (.link .iface)) (.map .link true) false
      (.omap (some [[97], [98]]) false (GoKVs.ofList [([97], .nilBare), ([98], .link [1])]))
      = some (.map (TLKVs.ofList [([97], .null), ([98], .link [1])])) ∧
    assign (.omap (.link .iface)) (.map .link true) (.map (TLKVs.ofList [([97], .null), ([98], .link [1])]))
      = some (.omap (some [[97], [98]]) false (GoKVs.ofList [([97], .nilBare), ([98], .link [1])])) ∧
    -- a type that is not nilable without a pointer is not accepted there, nor a concrete link type
    compatible (.slice .str) (.list .str true) false = false ∧
    compatible (.slice (.link .cid)) (.list .link true) false = false := by decide +kernel

/-- One pointer more than the slot needs: `**int64` for a nullable Int, `***string` for an
    optional nullable String.  nil at the outermost level is null (absent for the optional field), the value sits
    behind fresh pointers at every level (building such a value used to panic:
    `C19/nullable-double-pointer-build-panics`, repaired). -/
theorem double_pointer_slots :
    compatible (.slice (.ptr (.ptr (.int .i64)))) (.list .int true) false = true ∧
    assign (.slice (.ptr (.ptr (.int .i64)))) (.list .int true) (.list (TLs.ofList [.null, .int 7]))
      = some (.slice (GoVals.ofList [.nilPtr, .ptr (.ptr (.int 7))])) ∧
    view (.slice (.ptr (.ptr (.int .i64)))) (.list .int true) false
      (.slice (GoVals.ofList [.nilPtr, .ptr (.ptr (.int 7))])) = some (.list (TLs.ofList [.null, .int 7])) ∧
    compatible (.struct (GoFields.ofList [([97], .ptr (.ptr (.ptr .str)))]))
      (.struct (Fields.ofList [⟨[97], [97], true, true, .str⟩]) .map) false = true ∧
    assign (.struct (GoFields.ofList [([97], .ptr (.ptr (.ptr .str)))]))
      (.struct (Fields.ofList [⟨[97], [97], true, true, .str⟩]) .map) (.map .nil)
      = some (.struct (GoVals.ofList [.nilPtr])) ∧
    assign (.struct (GoFields.ofList [([97], .ptr (.ptr (.ptr .str)))]))
      (.struct (Fields.ofList [⟨[97], [97], true, true, .str⟩]) .map) (.map (TLKVs.ofList [([97], .null)]))
      = some (.struct (GoVals.ofList [.ptr .nilPtr])) ∧
    assign (.struct (GoFields.ofList [([97], .ptr (.ptr (.ptr .str)))]))
      (.struct (Fields.ofList [⟨[97], [97], true, true, .str⟩]) .map) (.map (TLKVs.ofList [([97], .str [120])]))
      = some (.struct (GoVals.ofList [.ptr (.ptr (.ptr (.str [120])))])) ∧
    view (.struct (GoFields.ofList [([97], .ptr (.ptr (.ptr .str)))]))
      (.struct (Fields.ofList [⟨[97], [97], true, true, .str⟩]) .map) false
      (.struct (GoVals.ofList [.ptr (.ptr (.ptr (.str [120])))])) = some (.map (TLKVs.ofList [([97], .str [120])])) ∧
    -- two pointers where one too many is already there are refused; an optional nullable field needs two
    compatible (.slice (.ptr (.ptr (.int .i64)))) (.list .int false) false = false ∧
    compatible (.slice (.ptr (.ptr (.ptr (.int .i64))))) (.list .int true) false = false ∧
    compatible (.struct (GoFields.ofList [([97], .ptr .str)]))
      (.struct (Fields.ofList [⟨[97], [97], true, true, .str⟩]) .map) false = false := by decide +kernel

/-- A required, non-nullable Int bound to a Go POINTER (`Count *uint64`, `[]*uint64`):
    `newNode` looks through the pointer (`nonPtrVal`) when it decides on the unsigned view, so 2^64-1 is stored behind
    a fresh pointer and reads back exactly; a nil pointer in such a slot is not a value of the type (unreadable). -/
theorem pointer_uint64_reads_back :
    compatible (.ptr (.int .u64)) .int false = true ∧
    assign (.ptr (.int .u64)) .int (.int 18446744073709551615) = some (.ptr (.int 18446744073709551615)) ∧
    view (.ptr (.int .u64)) .int false (.ptr (.int 18446744073709551615)) = some (.int 18446744073709551615) ∧
    view (.slice (.ptr (.int .u64))) (.list .int false) false
      (.slice (GoVals.ofList [.ptr (.int 9223372036854775808)])) = some (.list (TLs.ofList [.int 9223372036854775808])) ∧
    view (.ptr (.int .u64)) .int false .nilPtr = none ∧ wt (.ptr (.int .u64)) .int false .nilPtr = false ∧
    assign (.ptr (.int .u64)) .int .null = none := by decide +kernel

/-- An optional field bound to a bare nilable Go type (`Tags []string`,
    `Blob []byte`, `Ref datamodel.Link`): nil is absent - by iteration as by lookup - and absent is stored as nil. -/
theorem optional_in_bare_nilable_is_absent :
    view (.struct (GoFields.ofList [([97], .slice .str), ([98], .bytes), ([99], .link .iface)]))
      (.struct (Fields.ofList [⟨[97], [97], true, false, .list .str false⟩, ⟨[98], [98], true, false, .bytes⟩,
        ⟨[99], [99], true, false, .link⟩]) .map) false
      (.struct (GoVals.ofList [.nilBare, .nilBare, .nilBare]))
      = some (.map (TLKVs.ofList [([97], .absent), ([98], .absent), ([99], .absent)])) ∧
    assign (.struct (GoFields.ofList [([97], .slice .str), ([98], .bytes), ([99], .link .iface)]))
      (.struct (Fields.ofList [⟨[97], [97], true, false, .list .str false⟩, ⟨[98], [98], true, false, .bytes⟩,
        ⟨[99], [99], true, false, .link⟩]) .map) (.map .nil)
      = some (.struct (GoVals.ofList [.nilBare, .nilBare, .nilBare])) ∧
    view (.struct (GoFields.ofList [([97], .slice .str), ([98], .bytes), ([99], .link .iface)]))
      (.struct (Fields.ofList [⟨[97], [97], true, false, .list .str false⟩, ⟨[98], [98], true, false, .bytes⟩,
        ⟨[99], [99], true, false, .link⟩]) .map) false
      (.struct (GoVals.ofList [.slice (GoVals.ofList [.str [120]]), .bytes [], .link [1]]))
      = some (.map (TLKVs.ofList [([97], .list (TLs.ofList [.str [120]])), ([98], .bytes []), ([99], .link [1])])) := by
  decide +kernel

/-- Well-formedness of the schema type is needed: an int-represented enum two of whose
    members share the representation int (`Ty.wf` excludes it; `schema.SpawnTypeSystem` does not check it).  `"B"`
    is stored as 1 and reads back as the first member with that int, `"A"`. -/
theorem view_assign_needs_wf :
    (Ty.enum [⟨[65], [65], 1⟩, ⟨[66], [66], 1⟩] .int).wf = false ∧
    compatible (.int .i8) (.enum [⟨[65], [65], 1⟩, ⟨[66], [66], 1⟩] .int) false = true ∧
    assign (.int .i8) (.enum [⟨[65], [65], 1⟩, ⟨[66], [66], 1⟩] .int) (.str [66]) = some (.int 1) ∧
    view (.int .i8) (.enum [⟨[65], [65], 1⟩, ⟨[66], [66], 1⟩] .int) false (.int 1) = some (.str [65]) := by decide +kernel

/-- Repaired by library commit 7093040.
    `type E enum { A ("300") | B ("1") } representation int` bound to a Go `int8`: the builder refuses `"A"` (nothing
    is stored; 44, what `SetInt` used to truncate 300 to, is not a member and would not read), and stores `"B"`. -/
theorem enum_300_into_int8_is_refused :
    compatible (.int .i8) (.enum [⟨[65], [65], 300⟩, ⟨[66], [66], 1⟩] .int) false = true ∧
    assign (.int .i8) (.enum [⟨[65], [65], 300⟩, ⟨[66], [66], 1⟩] .int) (.str [65]) = none ∧
    view (.int .i8) (.enum [⟨[65], [65], 300⟩, ⟨[66], [66], 1⟩] .int) false (.int 44) = none ∧
    assign (.int .i8) (.enum [⟨[65], [65], 300⟩, ⟨[66], [66], 1⟩] .int) (.str [66]) = some (.int 1) ∧
    view (.int .i8) (.enum [⟨[65], [65], 300⟩, ⟨[66], [66], 1⟩] .int) false (.int 1) = some (.str [66]) ∧
    assign (.int .i16) (.enum [⟨[65], [65], 300⟩, ⟨[66], [66], 1⟩] .int) (.str [65]) = some (.int 300) := by decide +kernel

/-- Repaired by library commit f5ad5bb.  A schema Int bound to a Go `uint`: 2^63 and 2^64-1 are stored by the builder, are
    well-typed, and read back exactly - like a `uint64`. -/
theorem uint_above_int64_reads_back :
    assign (.int .uint) .int (.int 9223372036854775808) = some (.int 9223372036854775808) ∧
    wt (.int .uint) .int false (.int 9223372036854775808) = true ∧
    view (.int .uint) .int false (.int 9223372036854775808) = some (.int 9223372036854775808) ∧
    view (.int .uint) .int false (.int 18446744073709551615) = some (.int 18446744073709551615) ∧
    view (.int .u64) .int false (.int 9223372036854775808) = some (.int 9223372036854775808) ∧
    assign (.int .uint) .int (.int 18446744073709551616) = none := by decide +kernel

/-! ## Unwrap of what a wrapped value shows -/

/-- For every compatible pair, every well-typed Go value `gv` of the Go type and the content `v`
    that wrapping it shows: building `v` through the type-level builder and unwrapping gives `gv` up to the stated
    normalisation (`GoVal.norm`: a nil slice that stands for an empty list becomes the non-nil empty slice, empty
    `Keys` becomes nil, `Values` is made and lists exactly `Keys`). -/
theorem assign_view (g : GoTy) (t : Ty) (gv : GoVal) (v : TL) (hwf : t.wf = true)
    (hc : compatible g t false = true) (hwt : wt g t false gv = true) (hv : view g t false gv = some v) :
    assign g t v = some gv.norm :=
  GoBind.view_assign g t gv v hwf hc hwt hv

theorem assign_view_normal (g : GoTy) (t : Ty) (gv : GoVal) (v : TL) (hwf : t.wf = true)
    (hc : compatible g t false = true) (hwt : wt g t false gv = true) (hv : view g t false gv = some v)
    (hn : gv.norm = gv) : assign g t v = some gv := by
  rw [assign_view g t gv v hwf hc hwt hv, hn]

/-- The normalisation is not the identity: a nil slice comes back as the non-nil empty slice, nil `Values` comes
    back made. -/
theorem norm_is_needed :
    view (.slice .str) (.list .str false) false .nilSlice = some (.list .nil) ∧
    assign (.slice .str) (.list .str false) (.list .nil) = some (.slice .nil) ∧
    GoVal.nilSlice.norm = .slice .nil ∧
    view (.omap .str) (.map .str false) false (.omap (some []) true .nil) = some (.map .nil) ∧
    assign (.omap .str) (.map .str false) (.map .nil) = some (.omap none false .nil) := by decide +kernel

/-- The normalisation does not change the data held: the normalised value shows what the value
    shows. -/
theorem view_norm (g : GoTy) (t : Ty) (gv : GoVal) (v : TL) (hwf : t.wf = true)
    (hc : compatible g t false = true) (hwt : wt g t false gv = true) (hv : view g t false gv = some v) :
    view g t false gv.norm = some v := by
  have hn := (view_good gv g t false hwf hc hwt v hv).2.1
  have := view_assign g t v gv.norm hwf hc (assign_view g t gv v hwf hc hwt hv)
  rwa [hn] at this

/-- The known finding `C19/nilable-slot-empty-list-becomes-absent` seen from the Go value, repaired:
    `struct{ A []string }{A: []string{}}` with `a` optional shows `{a: []}`, is its own normal form, and is what
    building `{a: []}` (or Marshal → Unmarshal) gives. -/
theorem norm_keeps_empty_list_in_nilable_slot :
    wt (.struct (GoFields.ofList [([97], .slice .str)]))
      (.struct (Fields.ofList [⟨[97], [97], true, false, .list .str false⟩]) .map) false
      (.struct (GoVals.ofList [.slice .nil])) = true ∧
    view (.struct (GoFields.ofList [([97], .slice .str)]))
      (.struct (Fields.ofList [⟨[97], [97], true, false, .list .str false⟩]) .map) false
      (.struct (GoVals.ofList [.slice .nil])) = some (.map (TLKVs.ofList [([97], .list .nil)])) ∧
    (GoVal.struct (GoVals.ofList [.slice .nil])).norm = .struct (GoVals.ofList [.slice .nil]) ∧
    assign (.struct (GoFields.ofList [([97], .slice .str)]))
      (.struct (Fields.ofList [⟨[97], [97], true, false, .list .str false⟩]) .map)
      (.map (TLKVs.ofList [([97], .list .nil)])) = some (.struct (GoVals.ofList [.slice .nil])) := by decide +kernel

/-! ## Every well-typed value can be wrapped and read -/

/-- Every well-typed Go value of a compatible type has a view: reading the wrapped value never
    fails. -/
theorem view_total (g : GoTy) (t : Ty) (gv : GoVal) (hc : compatible g t false = true)
    (hwt : wt g t false gv = true) : ∃ v, view g t false gv = some v :=
  (view_sound gv g t false hc hwt).imp fun _ h => h.1

/-- … and then Unwrap∘build gives the value back (both directions together). -/
theorem wrap_build_unwrap (g : GoTy) (t : Ty) (gv : GoVal) (hwf : t.wf = true) (hc : compatible g t false = true)
    (hwt : wt g t false gv = true) : ∃ v, view g t false gv = some v ∧ assign g t v = some gv.norm := by
  obtain ⟨v, hv⟩ := view_total g t gv hc hwt
  exact ⟨v, hv, assign_view g t gv v hwf hc hwt hv⟩

/-- Well-typedness is what makes a value readable: a union struct with no field set, an enum integer no member
    has, a key that `Values` does not hold. -/
theorem view_total_needs_wt :
    view (.struct (GoFields.ofList [([83], .ptr .str)])) (.union (Members.ofList [⟨[83], [115], .str, .str⟩]) .keyed)
      false (.struct (GoVals.ofList [.nilPtr])) = none ∧
    view (.int .i8) (.enum [⟨[65], [65], 1⟩] .int) false (.int 2) = none ∧
    view (.omap .str) (.map .str false) false (.omap (some [[107]]) false .nil) = none := by decide +kernel

/-! ## What Wrap exposes conforms to the schema type -/

theorem view_conforms (g : GoTy) (t : Ty) (gv : GoVal) (v : TL) (hwf : t.wf = true)
    (hc : compatible g t false = true) (hwt : wt g t false gv = true) (hv : view g t false gv = some v) :
    conforms t false v = true :=
  (view_good gv g t false hwf hc hwt v hv).1

/-- … and has the canonical shape of a typed node (it is its own normal form). -/
theorem view_normal (g : GoTy) (t : Ty) (gv : GoVal) (v : TL) (hwf : t.wf = true)
    (hc : compatible g t false = true) (hwt : wt g t false gv = true) (hv : view g t false gv = some v) :
    normalize t v = v :=
  (view_good gv g t false hwf hc hwt v hv).2.1

/-- Well-typedness is needed: a Go string that names no member of the enum it is bound to is shown as it is. -/
theorem view_conforms_needs_wt :
    view .str (.enum [⟨[65], [65], 0⟩] .str) false (.str [66]) = some (.str [66]) ∧
    conforms (.enum [⟨[65], [65], 0⟩] .str) false (.str [66]) = false := by decide +kernel

/-! ## When the builder refuses -/

/-- For every compatible pair with a well-formed schema type, the builder refuses a tree
    exactly when it does not conform to the schema type or an integer of it (an enum member's representation int
    included) does not fit the Go kind it is bound to. -/
theorem assign_refuses_iff (g : GoTy) (t : Ty) (tl : TL) (hwf : t.wf = true)
    (hc : compatible g t false = true) :
    assign g t tl = none ↔ (conforms t false tl = false ∨ intsFit g t false (normalize t tl) = false) :=
  assign_none_iff g t tl hwf hc

/-- Compatibility is needed: a Go `string` "bound" to a schema Int (which
    `verifyCompatibility` refuses at bind time) - the tree conforms, no integer fails to fit, and nothing can be
    stored. -/
theorem assign_refuses_iff_needs_compatible :
    compatible .str .int false = false ∧ assign .str .int (.int 1) = none ∧
    conforms .int false (.int 1) = true ∧ intsFit .str .int false (normalize .int (.int 1)) = true := by decide +kernel

/-- Well-formedness is needed: a struct type with two fields of the same name
    and different types (no type system declares it).  `{a: 1}` conforms (the name is looked up, the first field
    answers), the canonical value gives BOTH fields the value 1, and the second field, a string, cannot hold it. -/
theorem assign_refuses_iff_needs_wf :
    (Ty.struct (Fields.ofList [⟨[97], [97], false, false, .int⟩, ⟨[97], [97], false, false, .str⟩]) .map).wf = false ∧
    compatible (.struct (GoFields.ofList [([97], .int .i64), ([97], .str)]))
      (.struct (Fields.ofList [⟨[97], [97], false, false, .int⟩, ⟨[97], [97], false, false, .str⟩]) .map) false = true ∧
    assign (.struct (GoFields.ofList [([97], .int .i64), ([97], .str)]))
      (.struct (Fields.ofList [⟨[97], [97], false, false, .int⟩, ⟨[97], [97], false, false, .str⟩]) .map)
      (.map (TLKVs.ofList [([97], .int 1)])) = none ∧
    conforms (.struct (Fields.ofList [⟨[97], [97], false, false, .int⟩, ⟨[97], [97], false, false, .str⟩]) .map) false
      (.map (TLKVs.ofList [([97], .int 1)])) = true ∧
    intsFit (.struct (GoFields.ofList [([97], .int .i64), ([97], .str)]))
      (.struct (Fields.ofList [⟨[97], [97], false, false, .int⟩, ⟨[97], [97], false, false, .str⟩]) .map) false
      (normalize (.struct (Fields.ofList [⟨[97], [97], false, false, .int⟩, ⟨[97], [97], false, false, .str⟩]) .map)
        (.map (TLKVs.ofList [([97], .int 1)]))) = true := by decide +kernel

/-- Widths: the boundary of each side, for a narrow signed and a narrow unsigned kind. -/
theorem assign_width_boundaries :
    assign (.int .i8) .int (.int 127) = some (.int 127) ∧ assign (.int .i8) .int (.int 128) = none ∧
    assign (.int .i8) .int (.int (-128)) = some (.int (-128)) ∧ assign (.int .i8) .int (.int (-129)) = none ∧
    assign (.int .u16) .int (.int 65535) = some (.int 65535) ∧ assign (.int .u16) .int (.int 65536) = none ∧
    assign (.int .u16) .int (.int (-1)) = none ∧
    assign (.int .u64) .int (.int 18446744073709551615) = some (.int 18446744073709551615) ∧
    assign (.int .i64) .int (.int 9223372036854775808) = none := by decide +kernel

/-! ## Marshal, then Unmarshal into a fresh value -/

/-- Model-level composition of `Marshal` and `Unmarshal`: the wrapped value's content `v`,
    its representation `d` (C08 `repr`), a codec that gives the representation back (`dec (enc d) = some d`: proved
    for dag-cbor in C02 `decode_encode` up to the canonical order of map entries - the key order of ordered-map
    structs that the property text excepts), the representation builder (`ofRepr`, C08 `ofRepr_repr_partial`, i.e. `Schema.rt`), and
    `Unwrap`: the fresh Go value is the normalised original.  `unambig` is C08's side condition on string
    strategies (a stringjoin field holding the delimiter does not survive ANY codec).  The codec enters through the
    hypothesis `hcodec` alone, which is handed back as the first conjunct: what is proved here is `rt` and
    `assign_view`, composed. -/
theorem marshal_unmarshal {β : Type} (enc : DM → β) (dec : β → Option DM)
    (g : GoTy) (t : Ty) (gv : GoVal) (v : TL) (d : DM) (hwf : t.wf = true)
    (hc : compatible g t false = true) (hwt : wt g t false gv = true) (hv : view g t false gv = some v)
    (hu : unambig t v = true) (hr : repr t v = some d) (hcodec : dec (enc d) = some d) :
    ∃ d' v', dec (enc d) = some d' ∧ ofRepr Engine.ideal t d' = .ok v' ∧ assign g t v' = some gv.norm :=
  ⟨d, v, hcodec,
    rt hwf (view_conforms g t gv v hwf hc hwt hv) hu hr,
    assign_view g t gv v hwf hc hwt hv⟩

/-! ## Non-vacuity: one binding that uses the whole vocabulary -/

/-- `struct { a Int; b optional String; c optional nullable Int; d [nullable Bool]; e {String:Int};
             f union { | S String "s" | I enum{A=1,B=2}/int "i" } keyed;
             g Int; h optional [String]; i nullable Bytes; j optional Link;
             k [nullable Link]; l nullable Int; m optional nullable String }` -/
def exSchema : Ty :=
  .struct (Fields.ofList [⟨[97], [97], false, false, .int⟩, ⟨[98], [98], true, false, .str⟩,
    ⟨[99], [99], true, true, .int⟩, ⟨[100], [100], false, false, .list .bool true⟩,
    ⟨[101], [101], false, false, .map .int false⟩,
    ⟨[102], [102], false, false, .union (Members.ofList [⟨[83], [115], .str, .str⟩,
      ⟨[73], [105], .int, .enum [⟨[65], [65], 1⟩, ⟨[66], [66], 2⟩] .int⟩]) .keyed⟩,
    ⟨[103], [103], false, false, .int⟩, ⟨[104], [104], true, false, .list .str false⟩,
    ⟨[105], [105], false, true, .bytes⟩, ⟨[106], [106], true, false, .link⟩,
    ⟨[107], [107], false, false, .list .link true⟩, ⟨[108], [108], false, true, .int⟩,
    ⟨[109], [109], true, true, .str⟩]) .map

/-- `struct { A int8; B *string; C **uint64; D []*bool; E struct{Keys []string; Values map[string]uint16};
             F struct{ S *string; I *uint8 }; G *uint64; H []string; I []byte; J datamodel.Link;
             K []datamodel.Link; L **int64; M ***string }`
    (G: one pointer on a required field; H, I, J: bare nilable types for optional / nullable fields; K: for nullable
    elements; L, M: one pointer more than nullable / optional nullable need) -/
def exGo : GoTy :=
  .struct (GoFields.ofList [([97], .int .i8), ([98], .ptr .str), ([99], .ptr (.ptr (.int .u64))),
    ([100], .slice (.ptr .bool)), ([101], .omap (.int .u16)),
    ([102], .struct (GoFields.ofList [([83], .ptr .str), ([73], .ptr (.int .u8))])),
    ([103], .ptr (.int .u64)), ([104], .slice .str), ([105], .bytes), ([106], .link .iface),
    ([107], .slice (.link .iface)), ([108], .ptr (.ptr (.int .i64))), ([109], .ptr (.ptr (.ptr .str)))])

/-- `{A: -5, B: nil, C: &nil, D: {nil, &true}, E: {Keys: {"b","a"}, Values: {"a":1, "b":2}}, F: {I: &2},
      G: &(1<<64-1), H: {"x"}, I: nil, J: nil, K: {nil, cid}, L: &&7, M: &nil}` -/
def exVal : GoVal :=
  .struct (GoVals.ofList [.int (-5), .nilPtr, .ptr .nilPtr, .slice (GoVals.ofList [.nilPtr, .ptr (.bool true)]),
    .omap (some [[98], [97]]) false (GoKVs.ofList [([97], .int 1), ([98], .int 2)]),
    .struct (GoVals.ofList [.nilPtr, .ptr (.int 2)]),
    .ptr (.int 18446744073709551615), .slice (GoVals.ofList [.str [120]]), .nilBare, .nilBare,
    .slice (GoVals.ofList [.nilBare, .link [1]]), .ptr (.ptr (.int 7)), .ptr .nilPtr])

/-- `{a: -5, b: absent, c: null, d: [null, true], e: {"b": 2, "a": 1}, f: {I: "B"},
      g: 2^64-1, h: ["x"], i: null, j: absent, k: [null, cid], l: 7, m: null}` -/
def exTL : TL :=
  .map (TLKVs.ofList [([97], .int (-5)), ([98], .absent), ([99], .null),
    ([100], .list (TLs.ofList [.null, .bool true])),
    ([101], .map (TLKVs.ofList [([98], .int 2), ([97], .int 1)])),
    ([102], .map (TLKVs.ofList [([73], .str [66])])),
    ([103], .int 18446744073709551615), ([104], .list (TLs.ofList [.str [120]])), ([105], .null),
    ([106], .absent), ([107], .list (TLs.ofList [.null, .link [1]])), ([108], .int 7), ([109], .null)])

/-- the same tree with the fields in another order and the unset fields left out, as a builder may be fed -/
def exTLShuffled : TL :=
  .map (TLKVs.ofList [([102], .map (TLKVs.ofList [([73], .str [66])])), ([97], .int (-5)), ([109], .null),
    ([105], .null), ([101], .map (TLKVs.ofList [([98], .int 2), ([97], .int 1)])), ([99], .null),
    ([108], .int 7), ([104], .list (TLs.ofList [.str [120]])), ([100], .list (TLs.ofList [.null, .bool true])),
    ([107], .list (TLs.ofList [.null, .link [1]])), ([103], .int 18446744073709551615)])

-- the hypotheses of every theorem above are satisfiable together, on a value that uses every construction
example : exSchema.wf = true ∧ compatible exGo exSchema false = true ∧
    wt exGo exSchema false exVal = true := by decide +kernel
-- view_total / view_conforms / view_normal
example : view exGo exSchema false exVal = some exTL ∧ conforms exSchema false exTL = true ∧
    normalize exSchema exTL = exTL := by decide +kernel
-- assign_view / view_norm: here the value is in normal form except for the order of the association list
example : assign exGo exSchema exTL = some exVal.norm ∧ exVal.norm ≠ exVal ∧ exVal.norm.norm = exVal.norm ∧
    view exGo exSchema false exVal.norm = some exTL := by decide +kernel
-- view_assign / unwrap_well_typed, fed in another field order
example : assign exGo exSchema exTLShuffled = some exVal.norm ∧ normalize exSchema exTLShuffled = exTL ∧
    view exGo exSchema false exVal.norm = some exTL ∧ wt exGo exSchema false exVal.norm = true := by decide +kernel
-- assign_refuses_iff: 200 does not fit the int8 field `a`; an unknown union member does not conform
example : assign exGo exSchema (.map (TLKVs.ofList [([97], .int 200), ([99], .null), ([100], .list .nil),
      ([101], .map .nil), ([102], .map (TLKVs.ofList [([83], .str [])])), ([103], .int 1), ([105], .bytes []),
      ([107], .list .nil), ([108], .null)])) = none ∧
    intsFit exGo exSchema false (normalize exSchema (.map (TLKVs.ofList [([97], .int 200), ([99], .null),
      ([100], .list .nil), ([101], .map .nil), ([102], .map (TLKVs.ofList [([83], .str [])])), ([103], .int 1),
      ([105], .bytes []), ([107], .list .nil), ([108], .null)]))) = false ∧
    -- ... and with 100 in its place the same tree is stored
    (assign exGo exSchema (.map (TLKVs.ofList [([97], .int 100), ([99], .null), ([100], .list .nil),
      ([101], .map .nil), ([102], .map (TLKVs.ofList [([83], .str [])])), ([103], .int 1), ([105], .bytes []),
      ([107], .list .nil), ([108], .null)]))).isSome = true := by decide +kernel
-- marshal_unmarshal: the representation of the example (keyed union, enum as int, absent fields omitted)
example : unambig exSchema exTL = true ∧
    repr exSchema exTL = some (.map (DMKVs.ofList [([97], .int (-5)), ([99], .null),
      ([100], .list (DMs.ofList [.null, .bool true])),
      ([101], .map (DMKVs.ofList [([98], .int 2), ([97], .int 1)])),
      ([102], .map (DMKVs.ofList [([105], .int 2)])),
      ([103], .int 18446744073709551615), ([104], .list (DMs.ofList [.str [120]])), ([105], .null),
      ([107], .list (DMs.ofList [.null, .link [1]])), ([108], .int 7), ([109], .null)])) := by decide +kernel

end Ipld.Props.C19

/-
  C19 — binding Go values is faithful, reversible and a pure function of its inputs.
  Property theorems only: the integer-width rule and the registry of inferred types.  The reflection walk
  (`Wrap`/`Unwrap`) is modelled in `Model/GoBind.lean`, with its theorems in `Props/C19bind.lean`.
-/
import IpldModel.Model.Bind
import IpldModel.Generated.GlobalWrites
namespace Ipld.Props.C19
open Ipld Ipld.Bind

/-- The (repaired) code stores an integer exactly when it fits the Go field, and then stores
    exactly that integer; everything else is refused — for every width and every integer. -/
theorem width_guard (w : Width) (i : Int) : assignCode true w i = assignIdeal w i := by
  unfold assignCode assignIdeal
  cases hs : w.signed
  · cases hn : decide (i < 0)
    · rfl
    · -- the explicit refusal of a negative value agrees with `fits`
      have : fits w i = false := by
        unfold fits; rw [hs]; exact decide_eq_false fun h => Int.not_lt.2 h.1 (of_decide_eq_true hn)
      rw [this]; rfl
  · rfl

theorem stored_is_value (w : Width) (i j : Int) (h : assignCode true w i = .stored j) : j = i ∧ fits w j = true := by
  rw [width_guard] at h
  unfold assignIdeal at h
  split at h
  · rename_i hf; cases h; exact ⟨rfl, hf⟩
  · cases h

/-- the unrepaired code deviates exactly on the values that do not fit: there it stores a different number -/
theorem truncating_code_witness : assignCode false .i8 300 = .stored 44 ∧ assignIdeal .i8 300 = .rejected := by decide +kernel

/-- uint64 above MaxInt64 into an int64 field wrapped to a negative number -/
theorem truncating_code_witness_u64 :
    assignCode false .i64 9223372036854775808 = .stored (-9223372036854775808) ∧ assignIdeal .i64 9223372036854775808 = .rejected := by decide +kernel

/-- An explicit schema: the answer never depends on the history, under any treatment of inference. -/
theorem binding_pure_explicit (m : Mode) (reg : Registry) (g s : Nat) :
    (bindStep m reg (.explicit g s)).2 = single (.explicit g s) := by
  cases m <;> rfl

/-- The code as it is (inferred schemas are remembered per Go type): every call — explicit or
    inferred — answers what it answers alone in a fresh process, whatever was bound before. -/
theorem binding_pure (reg : Registry) (c : Call) : (bindStep .memo reg c).2 = single c := by
  cases c with
  | explicit g s => rfl
  | inferred g => simp only [bindStep]; split <;> rfl

/-- … lifted to every history of Wrap / Prototype calls, from every state of the registry. -/
theorem binding_pure_history (reg : Registry) (h : List Call) : bindRun .memo reg h = h.map single := by
  induction h generalizing reg with
  | nil => rfl
  | cons c cs ih =>
    show (bindStep .memo reg c).2 :: bindRun .memo (bindStep .memo reg c).1 cs = _
    rw [ih, binding_pure]; rfl

/-- the same for a design without any shared state -/
theorem binding_pure_perCall (reg : Registry) (h : List Call) : bindRun .perCall reg h = h.map single := by
  induction h generalizing reg with
  | nil => rfl
  | cons c cs ih =>
    show (bindStep .perCall reg c).2 :: bindRun .perCall (bindStep .perCall reg c).1 cs = _
    rw [ih]; cases c <;> rfl

/-- The repaired defect, stated: in the pinned commit's code (`accumulate`) the second inference of the same Go type
    panicked, which the memoising code does not. -/
theorem binding_inferred_twice_was_a_panic :
    bindRun .accumulate [] [.inferred 7, .inferred 7] = [.ok 7 7, .panic] ∧
    bindRun .memo [] [.inferred 7, .inferred 7] = [.ok 7 7, .ok 7 7] ∧
    [Call.inferred 7, .inferred 7].map single = [.ok 7 7, .ok 7 7] := by decide +kernel

/-- (T) Inventory, re-extracted from source on every run, of the package-level variables that any function other
    than `init` writes in the anchored packages (bindnode, schema, multicodec, traversal, selector, linking, cidlink,
    basicnode, datamodel, the two DAG codecs, memstore): exactly the registry of inferred schema types with its memo table (`bindStep`'s
    state, written under a mutex by `inferSchemaLocked` only) and the codec registry through its registration functions (set-up only by contract).
    A new global write breaks this theorem. -/
theorem globalWrites_src_inventory :
    Generated.globalWrites_src =
      [("node/bindnode", "defaultTypeSystem", ["inferSchemaLocked"]),
       ("node/bindnode", "inferredSchemas", ["inferSchemaLocked"]),
       ("multicodec", "DefaultRegistry", ["RegisterDecoder", "RegisterEncoder"])] := rfl

example : assignCode true .u8 255 = .stored 255 ∧ assignCode true .u8 256 = .rejected ∧ assignCode true .i8 (-128) = .stored (-128) := by decide +kernel
example : bindRun .memo [] [.inferred 1, .explicit 1 5, .inferred 1] = [.ok 1 1, .ok 1 5, .ok 1 1] := by decide +kernel

end Ipld.Props.C19

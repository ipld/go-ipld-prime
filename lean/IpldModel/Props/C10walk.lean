/-
  C10 (walk part) — the walk and selector compilation never reach a Go panic.
-/
import IpldModel.Lemmas.Walk
import IpldModel.Lemmas.WalkExamples
namespace Ipld.Props.C10walk
open Ipld Ipld.Sel Ipld.Walk

/-- `Explore` of anything but a bare recursive edge never panics. -/
theorem explore_no_panic (s : S) (h : s ≠ .edge) (n : DM) (p : Seg) : explore s n p ≠ .error .panic :=
  Sel.explore_no_panic s h n p

/-- A union skips its bare-edge members, so exploring the member list never panics. -/
theorem exploreList_no_panic (ms : SList) (n : DM) (p : Seg) : exploreList ms n p ≠ .error .panic :=
  Sel.exploreList_no_panic ms n p

/-- `walkAdv` never ends in a panic, whatever the selector, node, configuration and state
    (a bare edge has no interests, so its `Explore` is never called). -/
theorem walk_no_panic (cfg : Cfg) (fuel : Nat) (past : Bool) (path : Path) (n : DM) (s : S) (st : St) :
    (walkAdv cfg fuel past path n s st).2 ≠ .error .panic :=
  (no_panic_all cfg fuel).1 past path n s st

/-- The per-node loop never panics, given it runs for a selector that is not a bare edge or over no children
    (the only way `walkAdv` calls it). -/
theorem walkChildren_no_panic (cfg : Cfg) (fuel : Nat) (path : Path) (n : DM) (s : S) (l : List (Seg × DM))
    (lp : Loop) (st : St) (h : s ≠ .edge ∨ l = []) :
    (walkChildren cfg fuel path n s l lp st).2 ≠ .error .panic :=
  (no_panic_all cfg fuel).2.1 path n s l lp st h

/-- Exploring one child never panics unless the selector is a bare edge. -/
theorem exploreChild_no_panic (cfg : Cfg) (fuel : Nat) (past : Bool) (path : Path) (n : DM) (s : S) (ps : Seg)
    (v : DM) (st : St) (h : s ≠ .edge) :
    (exploreChild cfg fuel past path n s ps v st).2 ≠ .error .panic :=
  (no_panic_all cfg fuel).2.2 past path n s ps v st h

/-- The hypothesis of `exploreChild_no_panic` cannot be dropped: on a bare edge `Explore` is the Go panic. -/
theorem exploreChild_edge_panics (cfg : Cfg) (fuel : Nat) (past : Bool) (path : Path) (n : DM) (ps : Seg)
    (v : DM) (st : St) : (exploreChild cfg (fuel + 1) past path n .edge ps v st).2 = .error .panic := by
  rw [exploreChild_succ]; rfl

/-- The whole walk never panics. -/
theorem walk_outcome_no_panic (cfg : Cfg) (fuel : Nat) (nb lb : Option Int) (root : DM) (s : S) :
    (walk cfg fuel nb lb root s).outcome ≠ .error .panic :=
  walk_no_panic cfg fuel false [] root s _

/-- Selector compilation rejects or succeeds; it never panics. -/
theorem compile_no_panic (d : DM) : compileSelector d ≠ .error .panic := by
  unfold compileSelector
  cases h : compile (2 * d.size + 2) 0 d with
  | error e => exact fun hp => Sel.compile_no_panic _ _ _ (h.trans (congrArg Except.error (Except.error.inj hp)))
  | ok a => nofun

section Examples
open Ipld.Walk.Ex
/-- the explore-everything selector compiles from its spec (to `Ex.selAll`: same walk) -/
example : (compileSelector selAllSpec).toBool = true := by decide +kernel
example : (compileSelector selAllSpec).toOption.map (fun s => (walk Ex.cfg 20 none none Ex.root s).events)
    = some (walk Ex.cfg 20 none none Ex.root selAll).events := by decide +kernel
/-- a bare edge outside a recursion is rejected, not a panic -/
example : (match compileSelector (.map (.cons (key "@") (.map .nil) .nil)) with
    | .error .reject => true | _ => false) = true := by decide +kernel
/-- walking with a bare edge selector (reachable as the child selector of `all(edge)`) visits and stops -/
example : (walk Ex.cfg 5 none none Ex.root .edge).outcome = .ok () := by decide +kernel
end Examples

end Ipld.Props.C10walk

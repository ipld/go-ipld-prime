/-
  C16 (selector-driven part) — `traversal.WalkTransforming` is a pure functional update: the model `WalkT.walkT`
  (`Model/WalkTransform.lean`, a statement-by-statement transcription of `walkTransforming` and its two iterate
  functions, tied to the code by the `xform.walkt` correspondence of `go/internal/checks/c16.go`) against the rewriting
  spec `Spec.Rewrites` (`Spec/WalkTransformSpec.lean`) and the matching walk `Walk.walk` (C07's model of `WalkMatching`).
-/
import IpldModel.Lemmas.WalkTransformCheck
import IpldModel.Lemmas.WalkTransformSound
import IpldModel.Lemmas.WalkVisits
import IpldModel.Lemmas.WalkTransformExamples
namespace Ipld.Props.C16walk
open Ipld Ipld.Sel Ipld.Walk Ipld.WalkT Ipld.Spec

/-- Whatever `walkTransforming` returns — any selector, callback, configuration, shared
    state, fuel — is its input rewritten exactly where the events it logged say (`Spec.Rewrites`; `evs` are the new
    events in the order they happened): a position differs from the input only if the callback was called there and
    answered another node (then it holds that very node, and nothing below it was visited) or if it held a link that
    was requested, not skipped, and found (then it holds the block, rewritten in turn); every other entry is the same
    value under the same segment at the same place, and every logged call / request is accounted for by one position. -/
theorem walkT_replaces_exactly (cfg : Cfg) (fn : TFn) (fuel : Nat) (path : Path) (n : DM) (s : S) (st st' : St) (r : DM)
    (h : walkT cfg fn fuel path n s st = (st', .ok r)) :
    ∃ evs, st'.events = evs.reverse ++ st.events ∧ Rewrites cfg fn path n r evs :=
  walkT_sound cfg fn fuel h

/-- The same for a whole run from the root. -/
theorem run_replaces_exactly (cfg : Cfg) (fn : TFn) (fuel : Nat) (nb lb : Option Int) (root : DM) (s : S) (r : DM)
    (h : (run cfg fn fuel nb lb root s).outcome = .ok r) :
    Rewrites cfg fn [] root r (run cfg fn fuel nb lb root s).events :=
  run_rewrites h

/-- Entries keep their place: the rewritten children of a container sit under the original segments, in the
    original order. -/
theorem rewritten_entries_in_order (cfg : Cfg) (fn : TFn) (path : Path) (l out : List (Seg × DM)) (evs : List Event)
    (h : RewritesCh cfg fn path l out evs) : out.map (·.1) = l.map (·.1) := by
  induction h using RewritesCh.rec (motive_1 := fun _ _ _ _ _ => True) with
  | nil => rfl
  | cons _ _ _ _ ih => rw [List.map_cons, List.map_cons, ih]
  | kept _ ih => rw [List.map_cons, List.map_cons, ih]
  | skipped _ _ ih => rw [List.map_cons, List.map_cons, ih]
  | inlined _ _ _ _ _ ih => rw [List.map_cons, List.map_cons, ih]
  | _ => trivial

/-- A rebuilt map has the keys of the original, in the original order; a rebuilt list the original length. -/
theorem rebuilt_map_keeps_keys (cfg : Cfg) (fn : TFn) (path : Path) (es : DMKVs) (out : List (Seg × DM))
    (evs : List Event) (h : RewritesCh cfg fn path (children (.map es)) out evs) :
    ∃ fs, rebuild (.map es) out = .map fs ∧ fs.keys = es.keys := by
  refine ⟨_, rfl, ?_⟩
  simp only [DMKVs.keys, DMKVs.toList_ofList, List.map_map]
  show List.map (Seg.toString ∘ (·.1)) out = _
  rw [← List.map_map, rewritten_entries_in_order cfg fn path _ out evs h]
  simp only [children, List.map_map]
  rfl

theorem rebuilt_list_keeps_length (cfg : Cfg) (fn : TFn) (path : Path) (xs : DMs) (out : List (Seg × DM))
    (evs : List Event) (h : RewritesCh cfg fn path (children (.list xs)) out evs) :
    ∃ ys, rebuild (.list xs) out = .list ys ∧ ys.length = xs.length := by
  refine ⟨_, rfl, ?_⟩
  have hl := congrArg List.length (rewritten_entries_in_order cfg fn path _ out evs h)
  rw [List.length_map, List.length_map] at hl
  simp only [DMs.length, DMs.toList_ofList, List.length_map, hl, children, List.length_zipIdx]

/-- In every run — any selector, callback, budgets, fuel,
    WHATEVER THE OUTCOME (also a run that ends in an error after some calls) — over a duplicate-free graph none of whose
    blocks is a bare link, every call of the callback is made with the path of a position and the node
    `traversal.Get` resolves that path to (links on the way loaded from the store).  The two hypotheses are the ones
    C14's `visit_resolves` needs of the walk, for the same reasons (a path does not name one position in a map with a
    repeated key; `Get` keeps following a block that is a bare link where the traversal hands the link node on). -/
theorem walkT_callback_sees_current (cfg : Cfg) (fn : TFn) (F : Nat) (root : DM) (hroot : root.NoDup)
    (hstore : ∀ c blk, storeGet cfg.store c = some blk → blk.NoDup ∧ ∀ c', blk ≠ .link c')
    (fuel : Nat) (nb lb : Option Int) (s : S)
    (p : Path) (m : DM) (hc : (p, m) ∈ callsOf (run cfg fn fuel nb lb root s).events) :
    get cfg.store (F + 2) root p = .ok m :=
  run_calls_resolve_anyOutcome hroot hstore hc

/-- The same read off the rewriting spec of a successful run (the calls are the spec's `replaced` / `called…`
    positions, and each of those sits where `get` arrives). -/
theorem rewrites_calls_see_current (cfg : Cfg) (fn : TFn) (F : Nat) (root : DM)
    (hstore : ∀ c blk, storeGet cfg.store c = some blk → blk.NoDup ∧ ∀ c', blk ≠ .link c')
    (path : Path) (n r : DM) (evs : List Event) (h : Rewrites cfg fn path n r evs) (hn : n.NoDup)
    (hg : get cfg.store (F + 2) root path = .ok n) (p : Path) (m : DM) (rs : Reason)
    (he : Event.visit p m rs ∈ evs) : rs = .matched ∧ get cfg.store (F + 2) root p = .ok m :=
  (rewrites_events (getsTo_inherits cfg F root hstore) callResolves_call
    (fun _ => callResolves_load)).1 h ⟨hg, hn⟩ _ he

/-- With a callback that never answers another node, a successful run in which no request to
    the loader was answered with a block (every requested link is one the loader skips) returns the root itself:
    equal, entries in their original order.  (When a block WAS loaded the result holds that block inlined where the
    link was — `walkT_replaces_exactly`, constructor `inlined` — which is the known finding
    `C16/walk-transform-inlines-linked-blocks`, not an identity.) -/
theorem walkT_identity (cfg : Cfg) (fn : TFn) (hfn : ∀ p d e, fn p d ≠ .replace e) (fuel : Nat) (nb lb : Option Int)
    (root : DM) (s : S) (r : DM) (h : (run cfg fn fuel nb lb root s).outcome = .ok r)
    (hl : ∀ c ∈ loadsOf (run cfg fn fuel nb lb root s).events, cfg.skip.contains c = true) : r = root :=
  (rewrites_identity_both hfn).1 (run_rewrites h) fun c hc => hl c (mem_loadsOf.2 hc)

/-- A tree without links makes no request to the loader, whatever the selector and callback. -/
theorem walkT_linkFree_no_load (cfg : Cfg) (fn : TFn) (fuel : Nat) (nb lb : Option Int) (root : DM) (s : S) (r : DM)
    (h : (run cfg fn fuel nb lb root s).outcome = .ok r) (hn : hasLink root = false) :
    loadsOf (run cfg fn fuel nb lb root s).events = [] :=
  List.eq_nil_iff_forall_not_mem.2 fun c hc =>
    rewrites_linkFree_both.1 (run_rewrites h) hn _ (mem_loadsOf.1 hc) c rfl

/-- The identity transform of a tree without links, under any selector, store,
    budget and fuel, returns the tree it was given whenever it returns a tree. -/
theorem walkT_identity_linkFree (cfg : Cfg) (fn : TFn) (hfn : ∀ p d e, fn p d ≠ .replace e) (fuel : Nat)
    (nb lb : Option Int) (root : DM) (s : S) (r : DM) (h : (run cfg fn fuel nb lb root s).outcome = .ok r)
    (hn : hasLink root = false) : r = root :=
  walkT_identity cfg fn hfn fuel nb lb root s r h (by
    rw [walkT_linkFree_no_load cfg fn fuel nb lb root s r h hn]; intro c hc; cases hc)

/-- The same from the rewriting spec alone: no replacement and no loaded block mean no change. -/
theorem rewrites_without_change (cfg : Cfg) (fn : TFn) (hfn : ∀ p d e, fn p d ≠ .replace e) (path : Path) (n r : DM)
    (evs : List Event) (h : Rewrites cfg fn path n r evs)
    (hl : ∀ c, Event.load c ∈ evs → cfg.skip.contains c = true) : r = n :=
  (rewrites_identity_both hfn).1 h hl

/-- A link child for which the loader answers SkipMe, or which is in the seen-set under
    `LinkVisitOnlyOnce`, is assigned to the rebuilt container as the link it is — the level below is not entered,
    whatever it would do — unless the link budget, or `Explore`, ends the transform with an error. -/
theorem walkT_skip_keeps_link (cfg : Cfg) (rec : Path → DM → S → St → TR) (path : Path) (n : DM) (s : S)
    (attn : Option (List Seg)) (ps : Seg) (c : Bytes) (st : St)
    (h : cfg.skip.contains c = true ∨ (cfg.linkOnce = true ∧ st.seen.contains c = true)) :
    (tChild cfg rec path n s attn ps (.link c) st).2 = .ok (.link c) ∨
    (tChild cfg rec path n s attn ps (.link c) st).2 = .error (.walk .budgetLink) ∨
    (tChild cfg rec path n s attn ps (.link c) st).2 = .error (.walk .selector) ∨
    (tChild cfg rec path n s attn ps (.link c) st).2 = .error (.walk .panic) := by
  rcases tChild_cases cfg rec path n s attn ps (.link c) st with h' | ⟨e, he, h'⟩ | ⟨sNext, c', hc, h'⟩ | ⟨_, hnl, _⟩
  · exact Or.inl (congrArg Prod.snd h')
  · rw [h']
    rcases he with rfl | rfl
    · exact Or.inr (Or.inr (Or.inr rfl))
    · exact Or.inr (Or.inr (Or.inl rfl))
  · cases hc
    rw [h']
    rcases h with h | ⟨h1, h2⟩
    · have hk := linkStep_skip st h
      generalize linkStep cfg c st = ls at hk
      obtain ⟨st', r⟩ := ls
      rcases hk with rfl | rfl
      · exact Or.inl rfl
      · exact Or.inr (Or.inl rfl)
    · rw [linkStep_seen h1 h2]
      exact Or.inl rfl
  · exact absurd rfl (hnl c)

/-- A link that was seen before is not even requested: the shared state does not change. -/
theorem seen_link_not_requested (cfg : Cfg) (c : Bytes) (st : St) (hl : cfg.linkOnce = true)
    (hc : st.seen.contains c = true) : loadStep cfg c st = (st, .ok none) :=
  linkStep_seen hl hc

/-- In the result: the entry of a container that held a skipped link holds that link, at the same index, under the
    same segment — anywhere in the tree (`RewritesCh` relates the children of every rebuilt container). -/
theorem skipped_link_stays (cfg : Cfg) (fn : TFn) (path : Path) (l out : List (Seg × DM)) (evs : List Event)
    (h : RewritesCh cfg fn path l out evs) (i : Nat) (ps : Seg) (c : Bytes) (hi : l[i]? = some (ps, .link c))
    (hk : cfg.skip.contains c = true) : out[i]? = some (ps, .link c) := by
  revert i
  -- in every case index 0 is settled by the constructor, index `i + 1` by the induction hypothesis
  induction h using RewritesCh.rec (motive_1 := fun _ _ _ _ _ => True) with
  | nil => intro i h; cases h
  | cons hnl _ _ _ ih =>
    intro i h
    cases i with
    | zero => cases h; exact absurd rfl (hnl c)
    | succ i => exact ih i h
  | kept _ ih =>
    intro i h
    cases i with
    | zero => exact h
    | succ i => exact ih i h
  | skipped _ _ ih =>
    intro i h
    cases i with
    | zero => exact h
    | succ i => exact ih i h
  | inlined hk' _ _ _ _ ih =>
    intro i h
    cases i with
    | zero => cases h; rw [hk] at hk'; cases hk'
    | succ i => exact ih i h
  | _ => trivial

/-- Under `LinkVisitOnlyOnce`, from ANY shared state in which no link was requested
    twice and every requested link is in the seen-set, `walkTransforming` — at any level of the recursion, any path,
    node, selector — ends in such a state: the seen-set is one for the whole transform.  (The defect repaired by
    8278c1e was a seen-set per level; a model with that defect fails this theorem at the link
    step, hypothesis `q_link` of `walkT_inv`.) -/
theorem walkT_once_inv (cfg : Cfg) (hl : cfg.linkOnce = true) (fn : TFn) (fuel : Nat) (path : Path) (n : DM) (s : S)
    (st : St) (h : (loadsOf st.events).Nodup ∧ ∀ c ∈ loadsOf st.events, c ∈ st.seen) :
    (loadsOf (walkT cfg fn fuel path n s st).1.events).Nodup ∧
      ∀ c ∈ loadsOf (walkT cfg fn fuel path n s st).1.events, c ∈ (walkT cfg fn fuel path n s st).1.seen :=
  walkT_onceInv cfg hl fn fuel path n s st h

/-- Under `LinkVisitOnlyOnce` a whole transform requests each distinct link at most once (so, by
    `walkT_replaces_exactly`, inlines each distinct link at most once: every `inlined` entry has its own request in
    the log). -/
theorem walkT_once (cfg : Cfg) (hl : cfg.linkOnce = true) (fn : TFn) (fuel : Nat) (nb lb : Option Int) (root : DM)
    (s : S) : (loadsOf (run cfg fn fuel nb lb root s).events).Nodup := by
  unfold run
  simp only [loadsOf_reverse, nodup_reverse']
  exact (walkT_onceInv cfg hl fn fuel [] root s { nodeBudget := nb, linkBudget := lb }
    ⟨List.nodup_nil, fun c hc => nomatch hc⟩).1

/-- With a callback that always answers the node it was given, the transform and the
    walk of the same graph under the same selector, store, skip set, visit-once switch and budgets run in lock step:
    the same observed log (matched visits — path text and node — and loader requests, interleaved as they happened), so
    in particular the callback's calls are `WalkMatching`'s visits, in the same order; the same outcome; the same
    budgets left; the same seen-set.  `f` and `g` are the fuels of the two models (they consume fuel differently);
    the statement is for all `f`, `g` that do not run out.

    Hypotheses, each forced (counterexamples below, by evaluation):
      * `cfg.startAt = []`: `walkTransforming` does not read `StartAtPath`; the walk skips what lies before it.
      * `AlignedAt n s'` at every position the walk can reach: the walk runs over the selector's interests IN THE
        SELECTOR'S ORDER and finds each by `LookupBySegment`; the transform runs over the node's children IN THE NODE'S
        ORDER and keeps those `contains(attn, ps)` accepts.  A fields clause naming `l` before `a` over a map holding `a`
        before `l` is visited `l, a` and transformed `a, l`; a fields clause naming a list element "01" is visited
        (index 1) and not transformed ("01" ≠ "1": the known finding `C16/walk-transform-noncanonical-index-field`).
        Holds of every selector without explicit interests (`aligned_of_no_interests`), of explore-everything
        selectors everywhere (`walkT_calls_eq_matches_all`), and is decidable position by position
        (`walkT_calls_eq_matches_checked`).
      * `PlainMatch s' n` at every such position: a matcher with a subset clause `Decide`s every node (the callback is
        called) but `Match`es only strings and bytes, sliced (the walk reports a candidate, or a slice). -/
theorem walkT_calls_eq_matches (cfg : Cfg) (hs : cfg.startAt = []) (fn : TFn) (hfn : ∀ p d, fn p d = .same)
    (root : DM) (s : S)
    (hal : ∀ path n s', Reach cfg root s path n s' → AlignedAt n s' ∧ PlainMatch s' n)
    (f g : Nat) (nb lb : Option Int)
    (hf : (walk cfg f nb lb root s).outcome ≠ .error .fuel)
    (hg : (run cfg fn g nb lb root s).outcome ≠ .error (.walk .fuel)) :
    observedLog (run cfg fn g nb lb root s).events = observedLog (walk cfg f nb lb root s).events ∧
    callTexts (callsOf (run cfg fn g nb lb root s).events) = callTexts (matchesOf (walk cfg f nb lb root s).events) ∧
    loadsOf (run cfg fn g nb lb root s).events = loadsOf (walk cfg f nb lb root s).events :=
  let h := (run_corr hs hfn hal hf hg).1
  ⟨h, observedLog_projections h⟩

/-- Under the hypotheses of `walkT_calls_eq_matches` the transform succeeds exactly when the walk does, fails with the
    walk's error otherwise (node budget, link budget, missing block, failing `Explore`, missing reifier) — never with
    a callback error — and leaves the same node budget, link budget and seen-set behind. -/
theorem walkT_outcome_eq_walk (cfg : Cfg) (hs : cfg.startAt = []) (fn : TFn) (hfn : ∀ p d, fn p d = .same)
    (root : DM) (s : S)
    (hal : ∀ path n s', Reach cfg root s path n s' → AlignedAt n s' ∧ PlainMatch s' n)
    (f g : Nat) (nb lb : Option Int)
    (hf : (walk cfg f nb lb root s).outcome ≠ .error .fuel)
    (hg : (run cfg fn g nb lb root s).outcome ≠ .error (.walk .fuel)) :
    ((walk cfg f nb lb root s).outcome = .ok () ↔ ∃ r, (run cfg fn g nb lb root s).outcome = .ok r) ∧
    (∀ e, (walk cfg f nb lb root s).outcome = .error e ↔ (run cfg fn g nb lb root s).outcome = .error (.walk e)) ∧
    (run cfg fn g nb lb root s).outcome ≠ .error .callback ∧
    (run cfg fn g nb lb root s).st.nodeBudget = (walk cfg f nb lb root s).st.nodeBudget ∧
    (run cfg fn g nb lb root s).st.linkBudget = (walk cfg f nb lb root s).st.linkBudget ∧
    (run cfg fn g nb lb root s).st.seen = (walk cfg f nb lb root s).st.seen :=
  let ⟨_, hst, ho⟩ := run_corr hs hfn hal hf hg
  let ⟨h1, h2, h3⟩ := outRel_outcomes ho
  ⟨h1, h2, h3, hst.nb.symm, hst.lb.symm, hst.seen.symm⟩

/-- A selector without explicit interests (`Interests()` nil: explore-all, a large range, a union with such a member,
    a recursion currently at one) is aligned at every node; so is one with an empty interest list (a matcher). -/
theorem aligned_of_no_interests (s : S) (n : DM) (h : interests s = none ∨ interests s = some []) : AlignedAt n s :=
  h.elim alignedAt_of_noInterests alignedAt_of_emptyInterests

/-- `Match` and `Decide` agree wherever `Match` answers the node itself. -/
theorem plain_match_of_match (s : S) (n : DM) (h : matchNode s n = some n) : PlainMatch s n :=
  plainMatch_of_matchesAll h

/-- Whatever `Match` answers for, `Decide` accepts. -/
theorem decide_of_match (s : S) (n m : DM) (h : matchNode s n = some m) : decideNode s n = true :=
  WalkT.decide_of_match s n m h

/-- For a selector that explores every child with
    itself and matches every node (`R(none, |[., a(@)])` is one: `C07.selAll_explores_all`), any graph, store, skip
    set, budgets, visit-once: the identity transform's callback sees exactly the positions `WalkMatching` visits, in
    the same order, and requests the same links. -/
theorem walkT_calls_eq_matches_all (cfg : Cfg) (hs : cfg.startAt = []) (fn : TFn) (hfn : ∀ p d, fn p d = .same)
    (root : DM) (s : S) (hall : ExploresAll s) (f g : Nat) (nb lb : Option Int)
    (hf : (walk cfg f nb lb root s).outcome ≠ .error .fuel)
    (hg : (run cfg fn g nb lb root s).outcome ≠ .error (.walk .fuel)) :
    observedLog (run cfg fn g nb lb root s).events = observedLog (walk cfg f nb lb root s).events ∧
    callTexts (callsOf (run cfg fn g nb lb root s).events) = callTexts (matchesOf (walk cfg f nb lb root s).events) ∧
    loadsOf (run cfg fn g nb lb root s).events = loadsOf (walk cfg f nb lb root s).events :=
  walkT_calls_eq_matches cfg hs fn hfn root s (aligned_of_exploresAll hall) f g nb lb hf hg

/-- `alignedFrom cfg d root s` evaluates the two hypotheses position by position (greedy
    pairing of the two child lists, comparing segment text, index and child; `Match` against `Decide`) down to depth
    `d`; when it answers `true` they hold at every position the walk can reach. -/
theorem walkT_calls_eq_matches_checked (cfg : Cfg) (hs : cfg.startAt = []) (fn : TFn) (hfn : ∀ p d, fn p d = .same)
    (root : DM) (s : S) (d : Nat) (hchk : alignedFrom cfg d root s = true) (f g : Nat) (nb lb : Option Int)
    (hf : (walk cfg f nb lb root s).outcome ≠ .error .fuel)
    (hg : (run cfg fn g nb lb root s).outcome ≠ .error (.walk .fuel)) :
    observedLog (run cfg fn g nb lb root s).events = observedLog (walk cfg f nb lb root s).events ∧
    callTexts (callsOf (run cfg fn g nb lb root s).events) = callTexts (matchesOf (walk cfg f nb lb root s).events) ∧
    loadsOf (run cfg fn g nb lb root s).events = loadsOf (walk cfg f nb lb root s).events :=
  walkT_calls_eq_matches cfg hs fn hfn root s
    (fun _ _ _ h => let ⟨_, hd⟩ := alignedFrom_reach hchk h; alignedFrom_here hd) f g nb lb hf hg

/-- `Explore` reads a segment only through its text and its index: the string segment "1" a fields clause hands to
    the walk and the int segment 1 the list iterator hands to the transform get the same answer. -/
theorem explore_reads_text_and_index (a b : Seg) (h1 : a.toString = b.toString) (h2 : a.index = b.index) (s : S)
    (n : DM) : explore s n a = explore s n b :=
  explore_congr h1 h2 s n

section Examples
open Ipld.Walk.Ex Ipld.WalkT.Ex

/-! The example graph (`Lemmas/WalkExamples.lean`): root `{"a": [1, 2], "l": <link cid>}`, block `{"x": "hi"}`. -/

/-- successor of every matched int, explore-everything selector: `a`'s elements are replaced, everything else is in
    place and in order, the explored link comes back inlined (the known finding) -/
example : (run Ex.cfg fnSucc 20 none none Ex.root selAll).outcome = .ok rootSucc := by decide +kernel
/-- `walkT_replaces_exactly` applies to it -/
example : Rewrites Ex.cfg fnSucc [] Ex.root rootSucc (run Ex.cfg fnSucc 20 none none Ex.root selAll).events :=
  run_replaces_exactly Ex.cfg fnSucc 20 none none Ex.root selAll rootSucc (by decide +kernel)
/-- a derivation of the spec by hand, for `[1]` under a matcher-for-everything: the list is rebuilt, its element replaced -/
example : Rewrites {} fnSucc [] (.list (.cons (.int 1) .nil)) (.list (.cons (.int 2) .nil))
    [callEvent [] (.list (.cons (.int 1) .nil)), callEvent [.idx 0] (.int 1)] :=
  .calledRebuilt (out := [(.idx 0, .int 2)]) rfl rfl
    (.cons (e1 := [callEvent [.idx 0] (.int 1)]) (e2 := []) (fun c h => by cases h) (.replaced (fnSucc_int _)) (.nil _))
/-- the callback saw the nodes currently at its paths (hypotheses of `walkT_callback_sees_current` met) -/
example : ∀ p m, (p, m) ∈ callsOf (run Ex.cfg fnSucc 20 none none Ex.root selAll).events →
    get Ex.cfg.store 2 Ex.root p = .ok m :=
  fun p m h => walkT_callback_sees_current Ex.cfg fnSucc 0 Ex.root Ex.root_noDup
    (fun c blk hb => ⟨Ex.store_noDup c blk hb, by
      simp only [Ex.cfg, storeGet, List.find?_cons, List.find?_nil] at hb
      split at hb
      · cases hb; exact nofun
      · cases hb⟩)
    20 none none selAll p m h
/-- … also in a run that fails: with an empty store the link cannot be loaded, after four calls -/
example : (run {} fnSucc 20 none none Ex.root selAll).outcome = .error (.walk .load) ∧
    (callsOf (run {} fnSucc 20 none none Ex.root selAll).events).length = 4 := by decide +kernel
example : callsOf (run Ex.cfg fnSucc 20 none none Ex.root selAll).events =
    [([], Ex.root), ([.str [0x61]], .list (.cons (.int 1) (.cons (.int 2) .nil))), ([.str [0x61], .idx 0], .int 1),
     ([.str [0x61], .idx 1], .int 2), ([.str [0x6c]], Ex.blk), ([.str [0x6c], .str [0x78]], .str [0x68, 0x69])] := by
  decide +kernel

/-- identity: with the link skipped the result is the root (`walkT_identity`, hypotheses met: the one request is for
    the skipped link) … -/
example : (run { Ex.cfg with skip := [Ex.cid] } fnId 20 none none Ex.root selAll).outcome = .ok Ex.root := by
  decide +kernel
example : loadsOf (run { Ex.cfg with skip := [Ex.cid] } fnId 20 none none Ex.root selAll).events = [Ex.cid] := by
  decide +kernel
/-- … with the link explored it is not: the block sits where the link was (the known finding) -/
example : (run Ex.cfg fnId 20 none none Ex.root selAll).outcome =
    .ok (.map (.cons [0x61] (.list (.cons (.int 1) (.cons (.int 2) .nil))) (.cons [0x6c] Ex.blk .nil))) := by
  decide +kernel
/-- a link-free tree (`walkT_identity_linkFree`) -/
example : hasLink Ex.blk = false := by decide
example : (run {} fnId 20 none none Ex.blk selAll).outcome = .ok Ex.blk := by decide +kernel

/-- visit-once over `[<link>, <link>]`: one request, the first entry inlined, the second left a link (`walkT_once`,
    `walkT_skip_keeps_link`); without visit-once two requests -/
example : (run { Ex.cfg with linkOnce := true } fnId 20 none none
      (.list (.cons (.link Ex.cid) (.cons (.link Ex.cid) .nil))) selAll).outcome =
    .ok (.list (.cons Ex.blk (.cons (.link Ex.cid) .nil))) := by decide +kernel
example : loadsOf (run { Ex.cfg with linkOnce := true } fnId 20 none none
      (.list (.cons (.link Ex.cid) (.cons (.link Ex.cid) .nil))) selAll).events = [Ex.cid] := by decide +kernel
example : loadsOf (run Ex.cfg fnId 20 none none
      (.list (.cons (.link Ex.cid) (.cons (.link Ex.cid) .nil))) selAll).events = [Ex.cid, Ex.cid] := by decide +kernel
/-- the seen-set is shared across levels: `[[<link>], <link>]` requests once -/
example : loadsOf (run { Ex.cfg with linkOnce := true } fnId 20 none none
      (.list (.cons (.list (.cons (.link Ex.cid) .nil)) (.cons (.link Ex.cid) .nil))) selAll).events = [Ex.cid] := by
  decide +kernel

/-- `walkT_calls_eq_matches`: hypotheses met by the example graph under the explore-everything selector … -/
example : callTexts (callsOf (run Ex.cfg fnId 20 none none Ex.root selAll).events) =
    callTexts (matchesOf (walk Ex.cfg 20 none none Ex.root selAll).events) :=
  (walkT_calls_eq_matches_all Ex.cfg rfl fnId (fun _ _ => rfl) Ex.root selAll selAll_exploresAll 20 20 none none
    (by decide +kernel) (by decide +kernel)).2.1
/-- … and under a fields selector naming `a`, `l` in the node's order, with clauses below them (checked: `alignedFrom`) -/
example : alignedFrom Ex.cfg 5 Ex.root selFields = true := by decide +kernel
example : callTexts (callsOf (run Ex.cfg fnId 20 none none Ex.root selFields).events) =
    callTexts (matchesOf (walk Ex.cfg 20 none none Ex.root selFields).events) :=
  (walkT_calls_eq_matches_checked Ex.cfg rfl fnId (fun _ _ => rfl) Ex.root selFields 5 (by decide +kernel) 20 20 none none
    (by decide +kernel) (by decide +kernel)).2.1
example : callTexts (callsOf (run Ex.cfg fnId 20 none none Ex.root selFields).events) =
    [([[0x61], [0x30]], .int 1), ([[0x61], [0x31]], .int 2), ([[0x6c], [0x78]], .str [0x68, 0x69])] := by decide +kernel
/-- … with budgets: both stop on the node budget after the same calls (`walkT_outcome_eq_walk`) -/
example : (run Ex.cfg fnId 20 (some 3) none Ex.root selAll).outcome = .error (.walk .budgetNode) ∧
    (walk Ex.cfg 20 (some 3) none Ex.root selAll).outcome = .error .budgetNode ∧
    callsOf (run Ex.cfg fnId 20 (some 3) none Ex.root selAll).events =
      matchesOf (walk Ex.cfg 20 (some 3) none Ex.root selAll).events := by decide +kernel

/-- interests in the selector's order: the walk visits `l` then `a`, the transform calls at `a` then `l` -/
example : (matchesOf (walk Ex.cfg 20 none none Ex.root selFieldsRev).events).map (·.1) = [[.str [0x6c]], [.str [0x61]]] ∧
    (callsOf (run Ex.cfg fnId 20 none none Ex.root selFieldsRev).events).map (·.1) = [[.str [0x61]], [.str [0x6c]]] ∧
    alignedFrom Ex.cfg 5 Ex.root selFieldsRev = false := by decide +kernel
/-- … and under visit-once the order decides WHICH occurrence of a repeated link is explored, so even the sets differ:
    over `{"a": <X>, "b": <X>}`, X = `[1]`, with `b` (explore all) named before `a` (match), the walk matches `b/0` and
    leaves `a` alone; the transform calls at `a` (with the block) and leaves `b` a link.  The real code does exactly
    this (run on it: WalkMatching reports "b/0", WalkTransforming's callback is called at "a" only). -/
example : matchesOf (walk cfgOnce 20 none none rootAB selBA).events = [([.str [0x62], .idx 0], .int 1)] ∧
    callsOf (run cfgOnce fnSucc 20 none none rootAB selBA).events = [([.str [0x61]], .list (.cons (.int 1) .nil))] ∧
    (run cfgOnce fnSucc 20 none none rootAB selBA).outcome =
      .ok (.map (.cons [0x61] (.list (.cons (.int 1) .nil)) (.cons [0x62] (.link cidX) .nil))) := by decide +kernel
/-- a non-canonical numeral: the walk matches element 1 of `[7, 8]` at path "01", the transform calls nowhere -/
example : matchesOf (walk {} 20 none none list78 sel01).events = [([.str [0x30, 0x31]], .int 8)] ∧
    callsOf (run {} fnId 20 none none list78 sel01).events = [] ∧
    alignedFrom {} 5 list78 sel01 = false := by decide +kernel
/-- a subset matcher on an int: `Decide` calls the callback, `Match` refuses (the walk reports a candidate) -/
example : matchesOf (walk {} 20 none none (.int 5) selSlice).events = [] ∧
    callsOf (run {} fnId 20 none none (.int 5) selSlice).events = [([], .int 5)] ∧
    alignedFrom {} 5 (.int 5) selSlice = false := by decide +kernel
/-- a start-at path: the walk begins at `l`, the transform does not read it -/
example : (matchesOf (walk { Ex.cfg with startAt := [.str [0x6c]] } 20 none none Ex.root selAll).events).length = 2 ∧
    (callsOf (run { Ex.cfg with startAt := [.str [0x6c]] } fnId 20 none none Ex.root selAll).events).length = 6 := by
  decide +kernel
end Examples

end Ipld.Props.C16walk

/-
  C06 (companion) — `Load` (Fill into a fresh builder, then the reifier) over the same abstract stream, decoder and
  hash function as `Fill` / `LoadRaw` (Props/C06.lean; `LoadPlusRaw` is there too): no entry point hands out data that
  does not hash to its link.  The statement skeletons of `Load` and `LoadPlusRaw` are tied in Props/C06skel.lean.
  Property theorems only.
-/
import IpldModel.Props.C06
namespace Ipld.Props.C06
open Ipld Ipld.Link

variable (H : Nat → Bytes → Bytes)

/-- `Load` succeeds only where `Fill` does: the reifier can turn a success into an error, never the reverse. -/
theorem load_ok_fill_ok (trusted : Bool) (l : Lnk) (s : Stream) (d : DecRun) (reifyOk : Bool)
    (h : load H trusted l s d reifyOk = .res .ok) : fill H trusted l s d = .ok ∧ reifyOk = true :=
  (load_ok_iff H trusted l s d reifyOk).mp h

/-- Untrusted `Load` returning a node means the hasher saw bytes that hash to the link. -/
theorem load_ok_hashes (l : Lnk) (s : Stream) (d : DecRun) (reifyOk : Bool)
    (h : load H false l s d reifyOk = .res .ok) : hashesTo H l (hasherSaw s d) = true :=
  fill_ok_hashes H l s d (load_ok_fill_ok H false l s d reifyOk h).1

/-- non-vacuity: under the identity "hash" a matching stream loads, a corrupted one is refused, a failing reifier
    turns the success into its own error. -/
example : load (fun _ b => b) false ⟨1, 0x71, 0, [1, 2]⟩ ⟨[1, 2], none⟩ ⟨2, false⟩ = .res .ok ∧
    load (fun _ b => b) false ⟨1, 0x71, 0, [1, 2]⟩ ⟨[1, 3], none⟩ ⟨2, false⟩ = .res .hashMismatch ∧
    load (fun _ b => b) false ⟨1, 0x71, 0, [1, 2]⟩ ⟨[1, 2], none⟩ ⟨2, false⟩ false = .reifyErr := by decide +kernel

end Ipld.Props.C06

/-
  C12 for the REPRESENTATION-level builders of schema-bound types (`Model/ReprAssembler.lean`): the same properties as at
  type level (Props/C12typed.lean), and the ties to the whole-value model of C08/C09 (`Model/Schema.lean`).  For all
  types, histories and states; no bounds.  Tied to both engines by the correspondences `C12/corr-typed-assembler`
  (bindnode: `c12Typed`) and `C13/corr-typed-assembler` (both: `c13Histories`, `c13Retry`, `c13Reset`).
-/
import IpldModel.Lemmas.ReprAssemblerExamples
import IpldModel.Lemmas.ReprAssemblerErase
import IpldModel.Lemmas.SchemaRepr
import IpldModel.Lemmas.SchemaRoundTrip
import IpldModel.Lemmas.SchemaNoPanic
import IpldModel.Props.C12typed
namespace Ipld.Props.C12
open Ipld Ipld.Asm Ipld.RAsm
open Ipld.Schema (Ty Fields Field TL TLs TLKVs conforms conformsRepr ofRepr)
open Ipld.TAsm (Call hasReset tailOps int64s)

/-! ### (a) a refused call has no effect -/

/-- If a call on a representation builder is answered with an error, the state afterwards is
    the state before the call - in particular a KINDED UNION whose member refused the value has NO member: the next call,
    of whatever kind, is dispatched afresh (`repr_retry`, and the example below) - with two exceptions, as at type level:
    * the call was made on a KEY assembler and ended it (`KeyReset`: a repeated key; for generated code also a key that
      cannot get a value): the map-like assembler is back where it was before `AssembleKey`; nothing has been recorded;
    * the engine leaves a refused `AssignNode` of a map/list node half done (`Engine.anPartial`: generated code, known
      finding `C13/gen-refused-assignnode-wedges-builder`): the state is marked, the model makes no further claim. -/
theorem repr_reject_no_effect {e : RAsm.Engine} {s s' : RAsm.St} {op : Op} {c : ErrClass}
    (h : RAsm.step e s op = (s', .err c)) :
    s' = s ∨ RAsm.KeyReset s s' ∨
    (e.anPartial = true ∧ s' = { s with tainted := true } ∧ ∃ v, op = .assignNode v ∧ TAsm.isRec v = true) :=
  RAsm.step_err h

/-- Outside a key assembler, for an engine that rolls a refused `AssignNode` back (the reflection binding), EVERY refusal -
    wrong kind, a string no strategy can parse, repeated key given to `AssembleEntry`, `Finish` while a field or the
    union's member is missing, a node refused part of the way through its copy - leaves the state exactly as it was. -/
theorem repr_reject_no_effect_outside_key {e : RAsm.Engine} (he : e.anPartial = false) {s s' : RAsm.St} {op : Op}
    {c : ErrClass} (hk : RAsm.inKey s = false) (h : RAsm.step e s op = (s', .err c)) : s' = s := by
  rcases RAsm.step_err h with h1 | h1 | ⟨h1, _⟩
  · exact h1
  · rw [h1.inKey] at hk; cases hk
  · rw [he] at h1; cases h1

/-- the kinded union: a bool (no member of that kind) and a string its stringjoin member cannot split are refused and leave
    no member behind - the list that follows is dispatched to the tuple member and built -/
example :
    (RAsm.run .bindnode (RAsm.init exKindedTy) exKindedHistory).2 =
      [.err .wrongKind, .err .wrongKind, .ok, .ok, .ok, .ok] ∧
    (RAsm.run .gen (RAsm.init exKindedTy) exKindedHistory).2 =
      [.err .wrongKind, .err .wrongKind, .ok, .ok, .ok, .ok] ∧
    RAsm.build (RAsm.run .gen (RAsm.init exKindedTy) exKindedHistory).1 = some exKindedBuilt := by decide +kernel

/-- why the third case is there: the struct is handed `{"x":1,"b":2}`.  The reflection binding refuses and is as before;
    generated code refuses and is wedged - the model stops there. -/
example :
    (RAsm.run .bindnode (RAsm.init exStructTy) exRefusedNode).2 = [.err .wrongKind, .ok, .ok, .ok, .ok] ∧
    (RAsm.run .gen (RAsm.init exStructTy) exRefusedNode).2 = [.err .wrongKind, .panic] ∧
    (RAsm.run .gen (RAsm.init exStructTy) exRefusedNode).1.tainted = true := by decide +kernel

/-! ### (b) a repeated key is refused at the call that supplies it -/

/-- For `AssembleEntry`.  The current object is a typed map's assembler, or the
    assembler of a struct with the map representation, expecting a key.  `AssembleEntry(k)` with a key the map has
    accepted - for the struct: with the REPRESENTATION key (`keyName`: the rename) of a field that has its value - is
    answered by that very call with the repeated-key error, and nothing changes.  Every engine. -/
theorem repr_repeated_key_rejected_at_call {e : RAsm.Engine} {s : RAsm.St} (ht : s.tainted = false)
    (hx : RAsm.expectsKey s = true) {k n : Bytes} (hn : RAsm.keyName s k = some n) (hk : n ∈ RAsm.acceptedKeys s) :
    RAsm.step e s (.assembleEntry k) = (s, .err .repeatedKey) := by
  rw [RAsm.step_of_not_tainted ht]
  show RAsm.stepPrim e s (.assembleEntry k) = _
  unfold RAsm.expectsKey at hx
  unfold RAsm.keyName at hn
  unfold RAsm.acceptedKeys at hk
  unfold RAsm.stepPrim
  split at hx
  · -- a typed map: the key itself
    rename_i hf
    simp only [hf, Option.some.injEq] at hn hk ⊢
    subst hn
    simp [TAsm.hasKey_iff.2 hk]
  · -- a struct: the name of the field the representation key addresses
    rename_i hf
    simp only [hf, Option.map_eq_some_iff] at hn hk ⊢
    obtain ⟨f, hfo, rfl⟩ := hn
    simp [hfo, TAsm.hasKey_iff.2 hk]
  · rename_i hf
    simp [hf] at hn
  · cases hx

/-- ... and through the KEY ASSEMBLER (`AssembleKey().AssignString(k)` or `.AssignNode(string node)`): answered by that
    very call with the repeated-key error, the key assembler ends.  For a struct this holds of every engine; for a typed
    map `keyAsmDupMapKey = false` is needed (generated code: known finding `C13/gen-keyAsmDupMapKey`, example below). -/
theorem repr_repeated_key_rejected_by_key_assembler {e : RAsm.Engine} {s : RAsm.St} (ht : s.tainted = false)
    (hx : RAsm.pos s = .key) {k n : Bytes} (hn : RAsm.keyName s k = some n) (hk : n ∈ RAsm.acceptedKeys s)
    (he : e.keyAsmDupMapKey = false ∨ RAsm.inStruct s = true) :
    ∃ s', RAsm.KeyReset s s' ∧
      RAsm.step e s (.assign (.str k)) = (s', .err .repeatedKey) ∧
      RAsm.step e s (.assignNode (.str k)) = (s', .err .repeatedKey) := by
  have h1 : RAsm.step e s (.assign (.str k)) = RAsm.supplyKey e s k := by
    rw [RAsm.step_of_not_tainted ht]; exact RAsm.stepPrim_at_key hx _
  have h2 : RAsm.step e s (.assignNode (.str k)) = RAsm.supplyKey e s k := by
    rw [RAsm.step_of_not_tainted ht]; exact RAsm.stepPrim_at_key hx _
  rw [h1, h2]
  suffices ∃ s', RAsm.KeyReset s s' ∧ RAsm.supplyKey e s k = (s', .err .repeatedKey) from
    this.imp fun s' h => ⟨h.1, h.2, h.2⟩
  unfold RAsm.pos RAsm.posOf at hx
  unfold RAsm.keyName at hn
  unfold RAsm.acceptedKeys at hk
  unfold RAsm.inStruct at he
  unfold RAsm.supplyKey
  split at hx
  all_goals first | (cases hx; done) | (split at hx <;> cases hx) | skip
  · -- a typed map: the key itself
    rename_i hf
    simp only [hf, Option.some.injEq] at hn hk he ⊢
    subst hn
    have he' : e.keyAsmDupMapKey = false := he.resolve_right nofun
    exact ⟨_, ⟨_, _, _, hf, rfl, rfl⟩, by simp [TAsm.hasKey_iff.2 hk, he']⟩
  · -- a struct: the name of the field the representation key addresses
    rename_i hf
    simp only [hf, Option.map_eq_some_iff] at hn hk ⊢
    obtain ⟨f, hfo, rfl⟩ := hn
    exact ⟨_, ⟨_, _, _, hf, rfl, rfl⟩, by simp [hfo, TAsm.hasKey_iff.2 hk]⟩
  · rename_i hf
    simp [hf] at hn

/-- the hypotheses are met: the struct of the example after `b` and `x` (= field `a`) - it expects a key, `"x"` is the
    representation key of `a`, which has its value; `AssembleEntry "x"` and `"b"` through the key assembler are refused as
    repeated keys (calls 12 and 14 of the history) -/
example :
    let s := (RAsm.run .bindnode (RAsm.init exStructTy) (exStructHistory.take 12)).1
    s.tainted = false ∧ RAsm.expectsKey s = true ∧ RAsm.keyName s [120] = some [97] ∧ [97] ∈ RAsm.acceptedKeys s ∧
    (RAsm.run .bindnode (RAsm.init exStructTy) exStructHistory).2 =
      [.ok, .err .other, .ok, .err .wrongKind, .err .wrongKind, .err .wrongKind, .ok, .ok, .ok, .ok, .ok, .ok,
       .err .repeatedKey, .ok, .err .repeatedKey, .ok] := by decide +kernel

/-- the engine hypothesis is needed: the generated typed map takes `"a"` a second time through its key assembler -/
example :
    (RAsm.run .gen (RAsm.init exMapTy) exDupViaKeyAsm).2 = [.ok, .ok, .ok, .ok, .ok] ∧
    (RAsm.run .bindnode (RAsm.init exMapTy) exDupViaKeyAsm).2 = [.ok, .ok, .ok, .ok, .err .repeatedKey] := by decide +kernel

/-! ### (c) a value of a kind the position cannot hold is refused -/

/-- The current object is the representation assembler for type `t` in a slot that is
    nullable iff `nul` (`pos s = .value t nul`: the root builder, a list element, a map value, a struct field reached by its
    representation key or its tuple position, the member of a keyed union).  Of the calls it offers (`TAsm.valueCall`: the
    scalar assignments, `BeginMap`, `BeginList`) it accepts EXACTLY those listed by `RAsm.accepts e t nul` and every other
    one is answered with an error by that call and leaves the state exactly as it was.  Never a panic.  Every engine. -/
theorem repr_wrong_kind_rejected {e : RAsm.Engine} {s : RAsm.St} {t : Ty} {nul : Bool} (ht : s.tainted = false)
    (hp : RAsm.pos s = .value t nul) {op : Op} (hc : TAsm.valueCall op = true) :
    (RAsm.accepts e t nul op = true → (RAsm.step e s op).2 = .ok) ∧
    (RAsm.accepts e t nul op = false → ∃ c, RAsm.step e s op = (s, .err c)) := by
  rw [RAsm.step_prim ht (RAsm.stepPrim_at_value hp op) (by rintro v rfl; cases hc)]
  cases op with
  | assign v =>
    simp only [TAsm.valueCall] at hc
    simp only [accepts, valuePrim, hc, Bool.true_and, Bool.not_true, Bool.false_eq_true, if_false]
    cases hi : intOK v with
    | false => simp
    | true =>
      simp only [Bool.true_and, Bool.not_true, Bool.false_eq_true, if_false]
      cases hb : Schema.build Schema.Engine.ideal .repr t nul none v with
      | ok tv => simp [Schema.Outcome.isOk, (pos_value_spec hp).2]
      | reject => simp [Schema.Outcome.isOk]
      | panic => simp [Schema.Outcome.isOk]
  | beginMap n =>
    simp only [accepts, valuePrim]
    cases opensMap t nul with
    | frame f => simp
    | dead => cases e.beginMapAny <;> simp
    | refused => simp
  | beginList n =>
    simp only [accepts, valuePrim]
    cases opensList t nul <;> simp
  | _ => cases hc

/-- Which scalar assignments `accepts` lists, without reference to the machine: those that CONFORM AT REPRESENTATION LEVEL
    in C09's sense (`Schema.conformsRepr`: the kind of the type, or of the member a kinded union lists under the value's
    kind; a string that splits into the fields of a stringjoin struct, that starts with a discriminant of a stringprefix
    union, that is the representation of an enum member; null where the slot is nullable), an integer moreover within
    int64.  Every engine. -/
theorem repr_accepts_scalar_iff_conformsRepr (e : RAsm.Engine) {t : Ty} (hwf : t.wf = true) (nul : Bool) {v : DM}
    (hs : Asm.isScalar v = true) :
    RAsm.accepts e t nul (.assign v) = true ↔ (conformsRepr t nul v = true ∧ RAsm.intOK v = true) := by
  simp only [RAsm.accepts, hs, Bool.true_and, Bool.and_eq_true, Schema.build_repr_isOk v t nul hwf]
  exact And.comm

/-- `BeginMap` is accepted iff the type the position addresses for a map (through its kinded unions) is a typed map, a
    struct with the MAP representation or a KEYED union - by every engine as the library stands.  An engine with
    `Engine.beginMapAny` (the reflection binding before fix c56a1fe) accepts it on every struct and every union that is
    not kinded; the map assembler it hands out refuses everything (example below): the one place found where a
    representation builder did not refuse a wrong kind at the call that supplies it.  `BeginList`: a typed list or a
    struct with the TUPLE representation; every engine. -/
theorem repr_accepts_begin (e : RAsm.Engine) (t : Ty) (nul : Bool) (n : Int) :
    RAsm.accepts e t nul (.beginMap n) =
      (match Schema.kindedTarget .map t with
       | some (.map _ _) => true
       | some (.struct _ .map) => true
       | some (.union _ .keyed) => true
       | some (.struct _ _) => e.beginMapAny
       | some (.union _ _) => e.beginMapAny
       | _ => false) ∧
    RAsm.accepts e t nul (.beginList n) =
      (match Schema.kindedTarget .list t with
       | some (.list _ _) => true
       | some (.struct _ .tuple) => true
       | _ => false) := by
  constructor
  · simp only [accepts, opensMap, Schema.kindedTarget]
    rw [Schema.resolveKinded_ideal_nul]
    cases Schema.resolveKinded Schema.Engine.ideal false .map t with
    | reject => rfl
    | panic => rfl
    | ok p =>
      obtain ⟨t, path⟩ := p
      cases t with
      | struct F sr => cases sr <;> rfl
      | union M ur => cases ur <;> rfl
      | _ => rfl
  · simp only [accepts, opensList, Schema.kindedTarget]
    rw [Schema.resolveKinded_ideal_nul]
    cases Schema.resolveKinded Schema.Engine.ideal false .list t with
    | reject => rfl
    | panic => rfl
    | ok p =>
      obtain ⟨t, path⟩ := p
      cases t with
      | struct F sr => cases sr <;> rfl
      | _ => rfl

/-- `BeginMap` on the representation builder of a tuple-represented struct: refused by generated code (and the contract);
    accepted by an engine with `beginMapAny` (the reflection binding as found), whose map assembler then refuses `Finish`,
    `AssembleEntry` and - through the error assembler `AssembleKey` hands out - every key -/
example :
    (RAsm.run { beginMapAny := true } (RAsm.init exTupleTy) exTupleBeginMap).2 =
      [.ok, .err .other, .err .wrongKind, .ok, .err .other] ∧
    (RAsm.run .gen (RAsm.init exTupleTy) (exTupleBeginMap.take 1)).2 = [.err .wrongKind] ∧
    (RAsm.run .ideal (RAsm.init exTupleTy) (exTupleBeginMap.take 1)).2 = [.err .wrongKind] := by decide +kernel

/-- A key assembler (the keys of the fragment are Strings) refuses every scalar that is not a string, `BeginMap`,
    `BeginList` and every node that is not a string, at that call, and stays as it was.  Every engine. -/
theorem repr_key_assembler_accepts_only_strings {e : RAsm.Engine} {s : RAsm.St} (ht : s.tainted = false)
    (hp : RAsm.pos s = .key) :
    (∀ v, Asm.isScalar v = true → (∀ k, v ≠ .str k) →
        RAsm.step e s (.assign v) = (s, .err .wrongKind) ∧ RAsm.step e s (.assignNode v) = (s, .err .wrongKind)) ∧
    (∀ n, RAsm.step e s (.beginMap n) = (s, .err .wrongKind)) ∧
    (∀ n, RAsm.step e s (.beginList n) = (s, .err .wrongKind)) ∧
    (∀ v, TAsm.isRec v = true → RAsm.step e s (.assignNode v) = (s, .err .wrongKind)) := by
  have hk : ∀ op, RAsm.stepPrim e s op = keyPrim e s op := RAsm.stepPrim_at_key hp
  rw [RAsm.step_eq]
  obtain ⟨h1, h234⟩ := Mach.step_refuses (RAsm.mach e) ht (fun n => hk (.beginMap n)) (fun n => hk (.beginList n))
  refine ⟨fun v hs hn => h1 v hs ((hk _).trans ?_), h234⟩
  cases v <;> first | (cases hs; done) | rfl | exact absurd rfl (hn _)

/-- An error assembler - the value assembler of a struct key that is no field's representation key (the ORIGINAL name of a
    renamed field is none), of a union key that is no discriminant or comes after the member is set, of a tuple position
    past the last field, and what the reflection binding's dead map assembler hands out - answers every call it offers
    with an error and stays. -/
theorem repr_error_assembler_refuses_everything {e : RAsm.Engine} {s : RAsm.St} (ht : s.tainted = false)
    (hp : RAsm.pos s = .errAsm) {op : Op} (hc : TAsm.valueCall op = true) :
    RAsm.step e s op = (s, .err .other) := by
  rw [RAsm.step_prim ht (RAsm.stepPrim_at_errAsm hp op) (by rintro v rfl; cases hc)]
  cases op <;> first | (cases hc; done) | rfl | simp [RAsm.errPrim, show Asm.isScalar _ = true from hc]

/-- the original name `"a"` of the field renamed to `"x"` is no key of the representation: accepted by the reflection
    binding's struct assembler, its value refused; refused at the key by generated code.  A second entry for a keyed union
    that has its member: the same split. -/
example :
    (RAsm.run .bindnode (RAsm.init exStructTy) exStructUnknown).2 = [.ok, .ok, .err .other] ∧
    (RAsm.run .gen (RAsm.init exStructTy) (exStructUnknown.take 2)).2 = [.ok, .err .other] ∧
    (RAsm.run .bindnode (RAsm.init exKeyedTy) exKeyedSecond).2 = [.ok, .ok, .ok, .ok, .err .other] ∧
    (RAsm.run .gen (RAsm.init exKeyedTy) (exKeyedSecond.take 4)).2 = [.ok, .ok, .ok, .err .other] := by decide +kernel

/-! ### the tie to the whole-value model: `AssignNode` is `Schema.ofRepr` -/

/-- At the representation assembler of a well-formed type `t` of the fragment (slot nullable
    iff `nul`), for every node `v` (any tree, with or without repeated keys) whose integers fit int64 and every engine
    whose key assemblers refuse a repeated map key, `AssignNode(v)` does what C09's ideal whole-value REPRESENTATION builder
    `Schema.build Engine.ideal .repr t nul` does with `v`:
    * it accepts `v` and returns the typed value `w`  ⇒  the call is accepted and delivers `w`;
    * it rejects `v`  ⇒  the call is refused and the state is as it was - or, for an engine with `anPartial`, marked.
    The ideal builder never panics (`Props.C09.ideal_never_panics`), so these are all the cases. -/
theorem repr_assignNode_is_build {e : RAsm.Engine} (he : e.keyAsmDupMapKey = false) {s : RAsm.St} {t : Ty}
    {nul : Bool} (ht : s.tainted = false) (hp : RAsm.pos s = .value t nul) (hwf : t.wf = true)
    (hpl : RAsm.plainR t = true) (v : DM) (hi : int64s v = true) :
    (∀ w, Schema.build Schema.Engine.ideal .repr t nul none v = .ok w →
      RAsm.step e s (.assignNode v) = ((RAsm.deliver s w).1, .ok)) ∧
    (Schema.build Schema.Engine.ideal .repr t nul none v = .reject →
      ∃ c, RAsm.step e s (.assignNode v) = (s, .err c) ∨
        (e.anPartial = true ∧ RAsm.step e s (.assignNode v) = ({ s with tainted := true }, .err c))) := by
  have hspec := RAsm.putNode_spec he v s t nul hp hwf hpl hi
  rw [RAsm.step_eq]
  constructor
  · intro w hb
    rw [hb] at hspec
    exact Mach.step_assignNode_ok ht
      ((RAsm.putNode_eq e v s).symm.trans (hspec.trans (Prod.ext rfl ((pos_value_spec hp).2 w))))
  · intro hb
    rw [hb] at hspec
    obtain ⟨s', c, hpn⟩ := hspec
    refine ⟨c, Mach.step_assignNode_err ht ((RAsm.putNode_eq e v s).symm.trans hpn) fun hr => ?_⟩
    -- a scalar refused by a value assembler leaves the state: no key assembler is out
    rw [RAsm.putNode_eq, Mach.putNode_of_not_rec hr] at hpn
    rcases RAsm.stepPrim_err hpn with h | h
    · exact h
    · exact absurd h.inKey (by rw [(pos_value_spec hp).1]; nofun)

/-- On a fresh representation builder of a well-formed type of the fragment, one
    `AssignNode(d)` and C09's ideal whole-value builder `Schema.ofRepr Engine.ideal` are the same function of `d` (for trees
    whose integers fit int64): the call is accepted iff the ideal builder accepts, and `Build` returns the node the ideal
    builder returns. -/
theorem reprAssignNode_is_ofRepr {e : RAsm.Engine} (he : e.keyAsmDupMapKey = false) {ty : Ty} (hwf : ty.wf = true)
    (hpl : RAsm.plainR ty = true) (d : DM) (hi : int64s d = true) :
    RAsm.build (RAsm.run e (RAsm.init ty) [.assignNode d]).1 =
      (match ofRepr Schema.Engine.ideal ty d with
       | .ok w => some w
       | _ => none) := by
  obtain ⟨h1, h2⟩ := repr_assignNode_is_build he (s := RAsm.init ty) (t := ty) (nul := false) rfl rfl hwf hpl d hi
  unfold ofRepr
  cases hb : Schema.build Schema.Engine.ideal .repr ty false none d with
  | ok w =>
    rw [RAsm.run_eq_hist, Hist.run_cons_ok (h1 w hb)]
    rfl
  | reject =>
    obtain ⟨c, hs | ⟨_, hs⟩⟩ := h2 hb
    · rw [RAsm.run_eq_hist, Hist.run_cons_err hs]; rfl
    · rw [RAsm.run_eq_hist, Hist.run_cons_err hs]; rfl
  | panic => exact absurd hb (Schema.build_noPanic _ Schema.Engine.ideal_noPanicFlags .repr ty false none d)

/-- ... hence `AssignNode(d)` on a fresh representation builder is accepted exactly when `d` conforms at representation
    level (`Schema.conformsRepr`, Props/C09 `ofRepr_isOk_eq`). -/
theorem repr_assignNode_accepted_iff_conformsRepr {e : RAsm.Engine} (he : e.keyAsmDupMapKey = false) {ty : Ty}
    (hwf : ty.wf = true) (hpl : RAsm.plainR ty = true) (d : DM) (hi : int64s d = true) :
    (RAsm.build (RAsm.run e (RAsm.init ty) [.assignNode d]).1).isSome = conformsRepr ty false d := by
  rw [reprAssignNode_is_ofRepr he hwf hpl d hi, ← Schema.build_repr_isOk d ty false hwf]
  unfold ofRepr
  cases Schema.build Schema.Engine.ideal .repr ty false none d <;> rfl

/-- both branches occur: the struct takes its representation `{"b":null,"x":5}` whole (and lists `a` first), and refuses
    `{"b":null,"a":5}` - `"a"` is the field's name, not its representation key; the kinded union takes `"u:v"` (its
    stringjoin member) and `[7]` (its tuple member) -/
example :
    RAsm.build (RAsm.run .bindnode (RAsm.init exStructTy)
      [.assignNode (.map (.cons [98] .null (.cons [120] (.int 5) .nil)))]).1
      = some (.map (.cons [97] (.int 5) (.cons [98] .null .nil))) ∧
    (RAsm.run .bindnode (RAsm.init exStructTy)
      [.assignNode (.map (.cons [98] .null (.cons [97] (.int 5) .nil)))]).2 = [.err .other] ∧
    RAsm.build (RAsm.run .gen (RAsm.init exKindedTy) [.assignNode (.str [117, 58, 118])]).1
      = some (.map (.cons [74] (.map (.cons [102] (.str [117]) (.cons [103] (.str [118]) .nil))) .nil)) ∧
    RAsm.build (RAsm.run .gen (RAsm.init exKindedTy) [.assignNode (.list (.cons (.int 7) .nil))]).1
      = some exKindedBuilt := by decide +kernel

/-- `plainR` is needed: at a position of type `any` the code accepts every scalar, the machine (which does not model `any`
    below a `Begin…`) accepts scalars too but no map - while `Schema.ofRepr` accepts the map -/
example : ofRepr Schema.Engine.ideal .any (.map .nil) = .ok (.map .nil) ∧
    (RAsm.run .bindnode (RAsm.init .any) [.assignNode (.map .nil)]).2 = [.err .wrongKind] := by decide +kernel

/-! ### (d) what is built conforms to the type and has a representation -/

theorem repr_inv_init {ty : Ty} (hwf : ty.wf = true) : RAsm.Inv (RAsm.init ty) := RAsm.init_inv hwf

/-- Every call preserves the invariant, whatever its outcome (accepted, refused, misuse) and whatever node is handed
    to `AssignNode` - for an engine whose key assemblers refuse a repeated map key.  The invariant (`RAsm.Inv`): every
    value held - entries of the open containers, the member of an open keyed union, the finished root - conforms to the
    type of the position it was delivered to and has the shape of a value with a representation (`RGood`); the keys of
    every open map / struct are pairwise distinct, a struct's entries are under field names, a tuple's entries are its first
    fields in order, a pending key does not address a field that has its value; every open container was begun at a
    position whose type - through the kinded unions named in the frame - is its own. -/
theorem repr_inv_step {e : RAsm.Engine} (he : e.keyAsmDupMapKey = false) {s : RAsm.St} (op : Op) (hi : RAsm.Inv s) :
    RAsm.Inv (RAsm.step e s op).1 := RAsm.step_inv he s op hi

/-- For every well-formed type, every history of calls on a fresh REPRESENTATION builder - with
    refused calls, with misuse, with any nodes handed to `AssignNode` - and every engine whose key assemblers refuse a
    repeated map key: if `Build` returns a node `v` (the typed node), then
    * `v` conforms to the type at TYPE level in C09's sense (`Schema.conforms`: kinds right, null only where nullable, no
      unknown and no repeated field or key, every required field present, a union with exactly one known member);
    * no map anywhere in `v` carries a key twice;
    * `v` is in canonical form (structs list all their fields in declaration order, unset optional fields `absent`);
    * `v` HAS A REPRESENTATION (`Schema.repr`): in particular no tuple in it has an absent field before a present one -
      which the type-level builders do not guarantee (`Props.C08.ofType_built_may_lack_repr`). -/
theorem repr_built_conforms {e : RAsm.Engine} (he : e.keyAsmDupMapKey = false) {ty : Ty} (hwf : ty.wf = true)
    (h : List Op) {v : TL} (hb : RAsm.build (RAsm.run e (RAsm.init ty) h).1 = some v) :
    conforms ty false v = true ∧ TAsm.NoDup v ∧ Schema.normalize ty v = v ∧ ∃ d, Schema.repr ty v = some d := by
  have hi : RAsm.Inv (RAsm.run e (RAsm.init ty) h).1 := RAsm.run_inv h he (RAsm.init_inv hwf)
  have hg := RAsm.build_good hi hb
  rw [RAsm.run_ty] at hg
  exact ⟨hg.1, hg.noDup, hg.canon hwf, hg.has_repr hwf⟩

/-- (d) tied to C08/C09: where the strategies are unambiguous for the node built
    (`Schema.unambig`: no field string containing its stringjoin delimiter, no discriminant that is a prefix of another
    member's text, …), feeding the node's representation to the IDEAL whole-value representation builder gives the node
    back.  `unambig` is C08's condition, shown necessary there (`Props.C08.roundtrip_fails_stringjoin`, …). -/
theorem repr_built_is_ideal_build {e : RAsm.Engine} (he : e.keyAsmDupMapKey = false) {ty : Ty} (hwf : ty.wf = true)
    (h : List Op) {v : TL} (hb : RAsm.build (RAsm.run e (RAsm.init ty) h).1 = some v)
    (hu : Schema.unambig ty v = true) : ∃ d, Schema.repr ty v = some d ∧ ofRepr Schema.Engine.ideal ty d = .ok v := by
  obtain ⟨h1, _, _, d, hd⟩ := repr_built_conforms he hwf h hb
  exact ⟨d, hd, Schema.rt hwf h1 hu hd⟩

/-- The engine hypothesis of (d) is needed: generated code takes `"a"` twice through the key assembler of a typed map
    and builds a node that carries it twice. -/
example :
    RAsm.build (RAsm.run .gen (RAsm.init exMapTy) (exDupViaKeyAsm ++ [.assembleValue, .assign (.int 2), .finish])).1
      = some (.map (.cons [97] (.int 1) (.cons [97] (.int 2) .nil))) := by decide +kernel

example : exStructTy.wf = true ∧ exTupleTy.wf = true ∧ exKeyedTy.wf = true ∧ exKindedTy.wf = true ∧
    RAsm.plainR exStructTy = true ∧ RAsm.plainR exKindedTy = true ∧ RAsm.plainR exKeyedTy = true := by decide +kernel

/-- the histories of the examples build: the struct `{a:5, b:["x"]}` from renamed keys in another order; the tuple
    `{p:7, q:"y", r:absent}` (trailing optional field not supplied); the keyed union `{S: {a:5, b:absent}}` -/
example :
    RAsm.build (RAsm.run .bindnode (RAsm.init exStructTy) exStructHistory).1 = some exStructBuilt ∧
    RAsm.build (RAsm.run .bindnode (RAsm.init exTupleTy) exTupleHistory).1 = some exTupleBuilt ∧
    RAsm.build (RAsm.run .gen (RAsm.init exTupleTy) exTupleHistory).1 = some exTupleBuilt ∧
    RAsm.build (RAsm.run .gen (RAsm.init exKeyedTy) exKeyedHistory).1 = some exKeyedBuilt ∧
    (RAsm.run .gen (RAsm.init exKeyedTy) exKeyedHistory).2 = [.ok, .err .other, .ok, .ok, .ok, .ok, .ok, .ok] ∧
    (RAsm.run .gen (RAsm.init exTupleTy) exTupleHistory).2 =
      [.err .wrongKind, .ok, .err .other, .ok, .err .wrongKind, .ok, .ok, .ok, .ok] := by decide +kernel

/-! ### (e) a history with refused calls builds what the history without them builds -/

theorem repr_erase_sublist (e : RAsm.Engine) (s : RAsm.St) (h : List Op) : (RAsm.erase e s h).Sublist h := by
  rw [RAsm.erase, RAsm.eraseFrom_eq_hist]
  exact Hist.eraseFrom_sublist s [] h

/-- Take any history `h` run from a state `s` in which no `AssembleKey` is outstanding, in which no
    call was misuse (no panic) and which did not end in a state an engine with `anPartial` left half done.  Erase from `h`
    every call that was refused, and every `AssembleKey` whose key assembler ended by a refusal (`RAsm.erase`).  Then running
    the erased history from `s` reaches exactly the same final state - so `Build` returns the same node: the node built
    holds exactly the accepted entries - and every call of the erased history is accepted. -/
theorem repr_history_result (e : RAsm.Engine) (s : RAsm.St) (h : List Op) (hk : RAsm.inKey s = false)
    (hn : Out.panic ∉ (RAsm.run e s h).2) (ht : (RAsm.run e s h).1.tainted = false) :
    RAsm.run e s (RAsm.erase e s h) = ((RAsm.run e s h).1, List.replicate (RAsm.erase e s h).length .ok) := by
  unfold RAsm.erase
  rw [RAsm.run_eq_hist, RAsm.eraseFrom_eq_hist, RAsm.step_eq] at *
  exact Hist.eraseFrom_runs (RAsm.keyed e).keyAsm h (.none hk) hn ht

/-- An engine that rolls a refused `AssignNode` back never leaves the contract's machine. -/
theorem repr_never_tainted {e : RAsm.Engine} (he : e.anPartial = false) (s : RAsm.St) (hs : s.tainted = false)
    (h : List Op) : (RAsm.run e s h).1.tainted = false :=
  (RAsm.run_not_tainted he s h).trans hs

/-- `repr_history_result` for a fresh builder of the reflection binding (or any engine without `anPartial`). -/
theorem repr_history_result_init {e : RAsm.Engine} (he : e.anPartial = false) (ty : Ty) (h : List Op)
    (hn : Out.panic ∉ (RAsm.run e (RAsm.init ty) h).2) :
    RAsm.build (RAsm.run e (RAsm.init ty) (RAsm.erase e (RAsm.init ty) h)).1
      = RAsm.build (RAsm.run e (RAsm.init ty) h).1 ∧
    ∀ o ∈ (RAsm.run e (RAsm.init ty) (RAsm.erase e (RAsm.init ty) h)).2, o = .ok := by
  have := repr_history_result e (RAsm.init ty) h rfl hn (repr_never_tainted he _ rfl h)
  rw [this]
  exact ⟨rfl, fun o ho => (List.mem_replicate.1 ho).2⟩

example : RAsm.erase .bindnode (RAsm.init exStructTy) exStructHistory =
    [.beginMap 0, .assembleEntry [98], .beginList 1, .assembleValue, .assign (.str [120]), .finish,
     .assembleEntry [120], .assign (.int 5), .finish] := by decide +kernel

example : RAsm.erase .gen (RAsm.init exKindedTy) exKindedHistory =
    [.beginList 1, .assembleValue, .assign (.int 7), .finish] := by decide +kernel

/-! ### a node built call by call from the representation of `v` is `v` -/

/-- Let `v` be a typed value of a well-formed type of the fragment that conforms
    (`Schema.conforms` - e.g. whatever a TYPE-level builder built, `typed_built_conforms`), for which the strategies are
    unambiguous (`Schema.unambig`: C08's side condition, needed exactly where strings are parsed back) and whose
    representation is `d` (`Schema.repr ty v = some d`, integers within int64).  Then the REPRESENTATION builder, fed `d`
    * as one node (`AssignNode d`), or
    * call by call along the canonical plan of `d` (`Asm.planOf`: `BeginMap` / `AssembleEntry` per entry / `BeginList` /
      `AssembleValue` / scalar assignments / `Finish`) - every call of which it accepts -
    builds exactly `v`.  Every engine whose key assemblers refuse a repeated map key. -/
theorem repr_built_is_type_built {e : RAsm.Engine} (he : e.keyAsmDupMapKey = false) {ty : Ty} (hwf : ty.wf = true)
    (hpl : RAsm.plainR ty = true) {v : TL} (hc : conforms ty false v = true) (hu : Schema.unambig ty v = true)
    {d : DM} (hr : Schema.repr ty v = some d) (hi : int64s d = true) :
    RAsm.build (RAsm.run e (RAsm.init ty) [.assignNode d]).1 = some v ∧
    RAsm.run e (RAsm.init ty) (planOf d) =
      ((RAsm.run e (RAsm.init ty) (planOf d)).1, List.replicate (planOf d).length .ok) ∧
    RAsm.build (RAsm.run e (RAsm.init ty) (planOf d)).1 = some v := by
  have hb : Schema.build Schema.Engine.ideal .repr ty false none d = .ok v := Schema.rt hwf hc hu hr
  have hruns := RAsm.plan_builds he hwf hpl hb hi
  refine ⟨?_, ?_, ?_⟩
  · rw [reprAssignNode_is_ofRepr he hwf hpl d hi]
    unfold ofRepr; rw [hb]
  · unfold RAsm.Runs at hruns
    rw [hruns]
  · unfold RAsm.Runs at hruns
    rw [hruns]; rfl

/-- ... in particular for what the TYPE-level builder of the same type built: run the type-level machine
    (`Model/TypedAssembler.lean`) on any history, take the node `v` it built, let `d` be its representation; the
    representation builder run on the plan of `d` builds `v` again. -/
theorem repr_rebuilds_type_built {e : RAsm.Engine} {e' : TAsm.Engine} (he : e.keyAsmDupMapKey = false)
    (he' : e'.keyAsmDupMapKey = false) {ty : Ty} (hwf : ty.wf = true) (hpl : TAsm.plain ty = true)
    (hplr : RAsm.plainR ty = true) (h : List Op) {v : TL}
    (hb : TAsm.build (TAsm.run e' (TAsm.init ty) h).1 = some v) (hu : Schema.unambig ty v = true)
    {d : DM} (hr : Schema.repr ty v = some d) (hi : int64s d = true) :
    RAsm.build (RAsm.run e (RAsm.init ty) (planOf d)).1 = some v :=
  (repr_built_is_type_built he hwf hplr (typed_built_conforms he' hwf hpl h hb).1 hu hr hi).2.2

/-- the struct: `{a:5, b:["x"]}` is represented by `{"x":5,"b":["x"]}`; its plan, run on the representation builder of
    either engine, builds it -/
example :
    Schema.repr exStructTy exStructBuilt =
      some (.map (.cons [120] (.int 5) (.cons [98] (.list (.cons (.str [120]) .nil)) .nil))) ∧
    RAsm.build (RAsm.run .gen (RAsm.init exStructTy)
      (planOf (.map (.cons [120] (.int 5) (.cons [98] (.list (.cons (.str [120]) .nil)) .nil))))).1
      = some exStructBuilt ∧
    Schema.unambig exStructTy exStructBuilt = true := by decide +kernel

/-! ### after a refused first call -/

/-- A first call that a NEW representation builder refuses - a scalar of a kind the type cannot hold, a
    string no strategy can parse, a `Begin…` of the wrong kind, a node that does not conform (for an engine with
    `anPartial`: a scalar node) - leaves it new: whatever history `h` follows is answered, call for call, as a new builder
    answers it, and `Build` returns what `h` alone builds. -/
theorem repr_retry (e : RAsm.Engine) (ty : Ty) (op : Op) (c : ErrClass) (h : List Op)
    (hfirst : (RAsm.step e (RAsm.init ty) op).2 = .err c)
    (hsc : e.anPartial = false ∨ ∀ v, op = .assignNode v → TAsm.isRec v = false) :
    RAsm.run e (RAsm.init ty) (op :: h) =
      ((RAsm.run e (RAsm.init ty) h).1, .err c :: (RAsm.run e (RAsm.init ty) h).2) := by
  rcases hs : RAsm.step e (RAsm.init ty) op with ⟨s', o⟩
  rw [hs] at hfirst
  simp only at hfirst; subst hfirst
  have : s' = RAsm.init ty := by
    rcases RAsm.step_err hs with h1 | h1 | ⟨h1, _, v, hv, hr⟩
    · exact h1
    · have := h1.inKey
      simp [RAsm.inKey, RAsm.init] at this
    · rcases hsc with hsc | hsc
      · rw [hsc] at h1; cases h1
      · rw [hsc v hv] at hr; cases hr
  subst this
  rw [RAsm.run_eq_hist, Hist.run_cons_err hs]

/-- ... so after a refused first call the canonical plan of a conforming representation `d` (`ofRepr` accepts it and
    returns `v`) is accepted call by call and builds `v`: the statement the harness section `c13Retry` samples on both
    engines. -/
theorem repr_retry_builds {e : RAsm.Engine} (he : e.keyAsmDupMapKey = false) {ty : Ty} (hwf : ty.wf = true)
    (hpl : RAsm.plainR ty = true) (op : Op) (c : ErrClass)
    (hfirst : (RAsm.step e (RAsm.init ty) op).2 = .err c)
    (hsc : e.anPartial = false ∨ ∀ v, op = .assignNode v → TAsm.isRec v = false)
    {d : DM} {v : TL} (hb : ofRepr Schema.Engine.ideal ty d = .ok v) (hi : int64s d = true) :
    (RAsm.run e (RAsm.init ty) (op :: planOf d)).2 = .err c :: List.replicate (planOf d).length .ok ∧
    RAsm.build (RAsm.run e (RAsm.init ty) (op :: planOf d)).1 = some v := by
  have hruns := RAsm.plan_builds he hwf hpl hb hi
  unfold RAsm.Runs at hruns
  rw [repr_retry e ty op c (planOf d) hfirst hsc, hruns]
  exact ⟨rfl, rfl⟩

/-- the kinded union after a refused string: the plan of `[7]` builds the tuple member (both engines) -/
example :
    (RAsm.step .gen (RAsm.init exKindedTy) (.assign (.str [120]))).2 = .err .wrongKind ∧
    ofRepr Schema.Engine.ideal exKindedTy (.list (.cons (.int 7) .nil)) = .ok exKindedBuilt := by decide +kernel

/-! ### `Reset` -/

/-- `Reset()` on a representation builder is accepted in any state and what follows is answered,
    call for call, as a NEW builder of the same type answers it.  Every engine. -/
theorem repr_reset_is_init (e : RAsm.Engine) (b : Bool) (s : RAsm.St) (h : List Call) :
    (RAsm.runC e b s (.reset :: h)).1 = (RAsm.runC e false (RAsm.init s.ty) h).1 ∧
    (RAsm.runC e b s (.reset :: h)).2 = .ok :: (RAsm.runC e false (RAsm.init s.ty) h).2 := by
  cases b <;> exact ⟨rfl, rfl⟩

theorem repr_runC_without_reset (e : RAsm.Engine) (s : RAsm.St) (ops : List Op) :
    RAsm.runC e false s (ops.map .op) = RAsm.run e s ops := by
  rw [RAsm.runC_eq_hist, RAsm.run_eq_hist]
  exact Hist.runC_ops s ops

/-- The state a history with at least one `Reset` ends in - so the node `Build` returns -
    is the one reached by running, on a new builder, only the calls made after the LAST reset.  Every engine. -/
theorem repr_reset_history_result (e : RAsm.Engine) (b : Bool) (s : RAsm.St) (h : List Call)
    (hr : hasReset h = true) :
    (RAsm.runC e b s h).1 = (RAsm.run e (RAsm.init s.ty) (tailOps h)).1 ∧
    RAsm.build (RAsm.runC e b s h).1 = RAsm.build (RAsm.run e (RAsm.init s.ty) (tailOps h)).1 := by
  have : (RAsm.runC e b s h).1 = (RAsm.run e (RAsm.init s.ty) (tailOps h)).1 := by
    rw [RAsm.runC_eq_hist, RAsm.run_eq_hist]
    exact Hist.runC_tail (reset := fun s => RAsm.init s.ty) (fun s op => congrArg RAsm.init (RAsm.step_hdr e s op).1)
      (fun _ => rfl) b s h hr
  exact ⟨this, by rw [this]⟩

/-- (d) for histories with resets. -/
theorem repr_built_conforms_with_resets {e : RAsm.Engine} (he : e.keyAsmDupMapKey = false) {ty : Ty}
    (hwf : ty.wf = true) (h : List Call) {v : TL}
    (hb : RAsm.build (RAsm.runC e false (RAsm.init ty) h).1 = some v) :
    conforms ty false v = true ∧ TAsm.NoDup v ∧ Schema.normalize ty v = v ∧ ∃ d, Schema.repr ty v = some d := by
  have hg := RAsm.build_good (RAsm.runC_inv he false _ h (RAsm.init_inv hwf)) hb
  rw [RAsm.runC_ty] at hg
  exact ⟨hg.1, hg.noDup, hg.canon hwf, hg.has_repr hwf⟩

/-- the tuple begun and cut off, `Reset`, then the whole history: nothing of the first part shows; generated code wedged by
    a refused node is new after the reset -/
example :
    RAsm.build (RAsm.runC .bindnode false (RAsm.init exTupleTy)
      ((exTupleHistory.take 6).map .op ++ [.reset] ++ exTupleHistory.map .op)).1 = some exTupleBuilt ∧
    (RAsm.runC .gen false (RAsm.init exStructTy)
      (exRefusedNode.map .op ++ [.reset] ++ (exRefusedNode.drop 1).map .op)).2
      = [.err .wrongKind, .panic, .ok, .ok, .ok, .ok, .ok] ∧
    RAsm.build (RAsm.runC .gen false (RAsm.init exStructTy)
      (exRefusedNode.map .op ++ [.reset] ++ (exRefusedNode.drop 1).map .op)).1
      = some (.map (.cons [97] (.int 5) (.cons [98] .absent .nil))) := by decide +kernel

end Ipld.Props.C12

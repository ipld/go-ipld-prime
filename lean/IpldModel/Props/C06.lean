/-
  C06 — no load returns data that does not hash to its link, whatever the storage does.
  Property theorems only.  All statements are for an arbitrary hash function `H`
  (hence "modulo collisions" by construction), an arbitrary reader (any content, a read error at any
  offset) and an arbitrary decoder behaviour (pulls any number of bytes, succeeds or fails).
-/
import IpldModel.Model.Link
import IpldModel.Model.Cbor
import IpldModel.Generated.LinkSkeletons
import IpldModel.Lemmas.LinkHistory
import IpldModel.Lemmas.LinkCodecs
import IpldModel.Lemmas.ListMore
namespace Ipld.Props.C06
open Ipld Ipld.Link

variable (H : Nat → Bytes → Bytes)

/-- Untrusted storage: whenever `Fill` succeeds, the bytes the hasher saw hash to the link. -/
theorem fill_ok_hashes (l : Lnk) (s : Stream) (d : DecRun) (h : fill H false l s d = .ok) :
    hashesTo H l (hasherSaw s d) = true := by
  obtain ⟨_, h2, h3⟩ := (Link.fill_ok_iff H l s d).mp h
  rwa [hasherSaw_eq_data d h2]

/-- A successful `Fill` means the *whole block* hashes to the link - for EVERY decoder behaviour.  (Before the library
    fix that drains the stream unconditionally this needed the hypothesis that the decoder consumes the whole block
    whenever it succeeds - true of the bundled codecs in their default configuration, false of a decoder configured
    with `DontParseBeyondEnd`, and at that excluded point the real code accepted an extended block.) -/
theorem fill_ok_whole_block (l : Lnk) (s : Stream) (d : DecRun)
    (h : fill H false l s d = .ok) : s.failAt = none ∧ hashesTo H l s.data = true :=
  ((Link.fill_ok_iff H l s d).mp h).2

/-- The hash verdict takes precedence over the decoder's: with no I/O error, a block that does not
    hash to the link yields `hashMismatch` even though decoding failed (first). -/
theorem mismatch_precedes_decode (l : Lnk) (s : Stream) (d : DecRun)
    (hio : s.failAt = none) (hbad : hashesTo H l s.data = false) (hd : d.failed = true) :
    fill H false l s d = .hashMismatch :=
  (Link.fill_hashMismatch_iff H l s d).mpr ⟨hio, hbad⟩

/-- …and a successful decode - of however much of the stream - is a `hashMismatch` too when the whole stream does not
    hash to the link. -/
theorem mismatch_on_success (l : Lnk) (s : Stream) (d : DecRun) (hio : s.failAt = none)
    (hd : d.failed = false) (hbad : hashesTo H l s.data = false) :
    fill H false l s d = .hashMismatch :=
  (Link.fill_hashMismatch_iff H l s d).mpr ⟨hio, hbad⟩

/-- the verdict on the hash does not depend on what the decoder did -/
theorem mismatch_whatever_the_decoder (l : Lnk) (s : Stream) (d : DecRun) (hio : s.failAt = none)
    (hbad : hashesTo H l s.data = false) : fill H false l s d = .hashMismatch :=
  (Link.fill_hashMismatch_iff H l s d).mpr ⟨hio, hbad⟩

/-- A read error surfaces as an I/O error (never as data, never as a decode verdict), also when the decoder had
    finished before the failure point. -/
theorem io_surfaces (l : Lnk) (s : Stream) (d : DecRun) (f : Nat)
    (hio : s.failAt = some f) :
    fill H false l s d = .ioErr :=
  (Link.fill_ioErr_iff H l s d).mpr ⟨f, hio⟩

/-- A store whose encoder fails, or whose storage writer fails on any write, never reaches the committer. -/
theorem store_fail_no_commit (p : Proto) (e : EncRun)
    (h : e.encFails = true ∨ ∃ j, e.writerFailsAt = some j ∧ j < e.writes.length) :
    store H p e = .failed :=
  (Link.store_failed_iff H p e).mpr h

/-- dag-cbor (model): a successful decode in the default mode has consumed every byte it was given. -/
theorem dagcbor_ok_consumes_all (cfg : Cbor.DecCfg) (bs : Bytes) (v : DM)
    (hm : cfg.dontParseBeyondEnd = false) (h : Cbor.decode cfg bs = .ok v) :
    ∃ st, Cbor.decItem cfg (bs.length + 1) 0 0 none { rest := bs, budget := cfg.budget } = .ok (v, st) ∧ st.rest = [] := by
  unfold Cbor.decode at h
  cases hd : Cbor.decItem cfg (bs.length + 1) 0 0 none { rest := bs, budget := cfg.budget } with
  | error e => simp [hd, bind, Except.bind] at h
  | ok r =>
    obtain ⟨v', st⟩ := r
    simp only [hd, bind, Except.bind, hm, Bool.false_eq_true, if_false, pure, Except.pure] at h
    by_cases he : st.rest.isEmpty = true
    · simp only [he, if_true, Except.ok.injEq] at h
      subst h
      exact ⟨st, rfl, by simpa using he⟩
    · simp [he] at h

/-! Non-vacuity: a concrete run of each shape (with a toy hash so that everything evaluates). -/
def toyH : Nat → Bytes → Bytes := fun _ b => [UInt8.ofNat b.length, b.headD 0]
def toyL : Lnk := ⟨1, 0x71, 0x12, [2, 0xf5]⟩
example : fill toyH false toyL ⟨[0xf5, 0x00], none⟩ ⟨2, false⟩ = .ok := by decide +kernel
example : fill toyH false toyL ⟨[0xf4, 0x00], none⟩ ⟨2, true⟩ = .hashMismatch := by decide +kernel
example : fill toyH false toyL ⟨[0xf5, 0x00], some 1⟩ ⟨1, true⟩ = .ioErr := by decide +kernel
example : store toyH ⟨1, 0x71, 0x12, -1⟩ ⟨[[0xf5], [0x00]], false, some 1⟩ = .failed := by decide +kernel

/-- `Fill` on untrusted storage says `ok` exactly when the decoder succeeded, the stream was read to its end without
    error and the WHOLE stream hashes to the link. -/
theorem fill_ok_iff (l : Lnk) (s : Stream) (d : DecRun) :
    fill H false l s d = .ok ↔ d.failed = false ∧ s.failAt = none ∧ hashesTo H l s.data = true :=
  Link.fill_ok_iff H l s d

/-- A decode error is reported exactly when the whole block was read without I/O error and hashes to
    the link: the decoder's verdict is only ever reported about verified bytes. -/
theorem fill_decodeErr_iff (l : Lnk) (s : Stream) (d : DecRun) :
    fill H false l s d = .decodeErr ↔ d.failed = true ∧ s.failAt = none ∧ hashesTo H l s.data = true :=
  Link.fill_decodeErr_iff H l s d

/-- An I/O error is reported exactly when the stream has a read error: the drain runs into it whatever the decoder
    did. -/
theorem fill_ioErr_iff (l : Lnk) (s : Stream) (d : DecRun) :
    fill H false l s d = .ioErr ↔ ∃ f, s.failAt = some f :=
  Link.fill_ioErr_iff H l s d

/-- …and a hash mismatch exactly when the stream was read to its end and does not hash to the link. -/
theorem fill_hashMismatch_iff (l : Lnk) (s : Stream) (d : DecRun) :
    fill H false l s d = .hashMismatch ↔ s.failAt = none ∧ hashesTo H l s.data = false :=
  Link.fill_hashMismatch_iff H l s d

/-- "Unless storage is explicitly declared trusted": with the flag set nothing is hashed and the
    decoder's verdict is returned as it is. -/
theorem fill_trusted (l : Lnk) (s : Stream) (d : DecRun) :
    fill H true l s d = if d.failed then .decodeErr else .ok := rfl

/-- the flag matters: the same corrupted block is accepted on trusted storage and refused otherwise -/
example : fill toyH true toyL ⟨[0xf4, 0x00], none⟩ ⟨2, false⟩ = .ok ∧
    fill toyH false toyL ⟨[0xf4, 0x00], none⟩ ⟨2, false⟩ = .hashMismatch := by decide +kernel

/-- Untrusted storage, any stream (any content, a read error anywhere), any decoder behaviour: when `Fill`
    (hence `Load`) succeeds, the decoder succeeded, the stream was read to its end, the hasher saw ALL of it - nothing the
    node was built from went unhashed, and nothing the storage delivered beyond what the decoder wanted either - and
    it hashes to the link. -/
theorem no_unverified_data (l : Lnk) (s : Stream) (d : DecRun) (h : fill H false l s d = .ok) :
    d.failed = false ∧ s.failAt = none ∧ hasherSaw s d = s.data ∧ hashesTo H l s.data = true := by
  obtain ⟨h1, h2, h3⟩ := (fill_ok_iff H l s d).mp h
  exact ⟨h1, h2, hasherSaw_eq_data d h2, h3⟩

/-- `LoadRaw` hands out bytes exactly when there was no read error and the whole block hashes to the
    link, and then it hands out the whole block. -/
theorem loadRaw_some_iff (l : Lnk) (s : Stream) (r : Res) (b : Bytes) :
    loadRaw H l s = (r, some b) ↔ r = .ok ∧ s.failAt = none ∧ b = s.data ∧ hashesTo H l s.data = true := by
  rw [loadRaw_eq]
  cases s.failAt <;> cases hashesTo H l s.data <;> simp [eq_comm]

/-- `LoadRaw` returns bytes only together with `ok`, and then they are the whole block and hash to the link. -/
theorem loadRaw_ok_hashes (l : Lnk) (s : Stream) (b : Bytes) (r : Res)
    (h : loadRaw H l s = (r, some b)) : r = .ok ∧ b = s.data ∧ hashesTo H l b = true := by
  obtain ⟨h1, _, h2, h3⟩ := (loadRaw_some_iff H l s r b).mp h
  exact ⟨h1, h2, h2 ▸ h3⟩

/-- …and `ok` never comes without the bytes. -/
theorem loadRaw_ok_some (l : Lnk) (s : Stream) (ob : Option Bytes) (h : loadRaw H l s = (.ok, ob)) :
    ob = some s.data ∧ s.failAt = none ∧ hashesTo H l s.data = true := by
  rw [loadRaw_eq] at h
  cases hfa : s.failAt <;> cases hh : hashesTo H l s.data <;> simp [hfa, hh] at h
  exact ⟨h.symm, rfl, rfl⟩

/-- `LoadPlusRaw` = `LoadRaw`, then the decoder on the verified buffer (`Link.loadPlusRaw`): any bytes it
    returns are the whole block, read without error, and hash to the link; any node it returns was decoded
    from exactly those bytes and comes with `ok`; and on a block that does not hash to the link the decoder
    is not even run. -/
theorem loadPlusRaw_verified (c : Codec) (l : Lnk) (s : Stream) (r : Res) (ov : Option DM) (ob : Option Bytes)
    (h : loadPlusRaw H c l s = (r, ov, ob)) :
    (∀ b, ob = some b → s.failAt = none ∧ b = s.data ∧ hashesTo H l b = true ∧
        ((r = .ok ∧ ov = c.decode b ∧ ov.isSome = true) ∨ (r = .decodeErr ∧ ov = none ∧ c.decode b = none))) ∧
    (∀ v, ov = some v → ob = some s.data) ∧
    (r = .ok → ob = some s.data) := by
  rw [loadPlusRaw_eq] at h
  cases hfa : s.failAt with
  | some f => simp only [hfa] at h; cases h; simp
  | none =>
    cases hh : hashesTo H l s.data with
    | false => simp only [hfa, hh] at h; cases h; simp
    | true =>
      cases hd : c.decode s.data <;> simp only [hfa, hh, hd, if_true] at h <;> cases h <;> simp [hh, hd]

/-- For `LoadPlusRaw` the precedence is absolute: on a block that does not hash to the link it returns the
    mismatch and neither node nor bytes, whatever the decoder would have said. -/
theorem loadPlusRaw_mismatch (c : Codec) (l : Lnk) (s : Stream) (hio : s.failAt = none)
    (hbad : hashesTo H l s.data = false) : loadPlusRaw H c l s = (.hashMismatch, none, none) := by
  simp [loadPlusRaw_eq, hio, hbad]

example : loadPlusRaw toyH rawCodec toyL ⟨[0xf5, 0x00], none⟩ = (.ok, some (.bytes [0xf5, 0x00]), some [0xf5, 0x00]) ∧
    loadPlusRaw toyH rawCodec toyL ⟨[0xf4, 0x00], none⟩ = (.hashMismatch, none, none) ∧
    loadPlusRaw toyH rawCodec toyL ⟨[0xf5, 0x00], some 1⟩ = (.ioErr, none, none) ∧
    loadPlusRaw toyH ⟨fun _ => none, fun _ => none⟩ toyL ⟨[0xf5, 0x00], none⟩ = (.decodeErr, none, some [0xf5, 0x00]) := by
  decide +kernel

/-- The same at the level of histories on one storage, for ANY storage content (nothing is assumed of
    `s`: it may hold arbitrarily corrupted, truncated, extended or misfiled blocks): a `LoadRaw` step that
    returns bytes returns the block filed under the link, and it hashes to the link; a `Load` step that
    returns a node decoded it from such a block. -/
theorem hstep_load_verified (codecs : Nat → Option Codec) (s : Store) (l : Lnk) :
    (∀ b, (hstep H codecs s (.loadRaw l)).2 = .raw b → s.get l = some b ∧ hashesTo H l b = true) ∧
    (∀ v, (hstep H codecs s (.load l)).2 = .node v →
      ∃ c b, codecs l.codec = some c ∧ s.get l = some b ∧ hashesTo H l b = true ∧ c.decode b = some v) := by
  constructor
  · intro b h
    rw [hstep_loadRaw] at h
    split at h
    · cases h; exact Option.filter_eq_some_iff.mp ‹_›
    · cases h
  · intro v h
    rw [hstep_load] at h
    split at h
    · rename_i c b hc hf
      obtain ⟨hg, hh⟩ := Option.filter_eq_some_iff.mp hf
      split at h
      · cases h; exact ⟨c, b, hc, hg, hh, ‹_›⟩
      · cases h
    · cases h

/-- …hence in every history from every initial storage, every `LoadRaw` that returned bytes returned
    bytes that hash to the link it was asked for. -/
theorem history_loadRaw_verified (codecs : Nat → Option Codec) (s : Store) (ops : List HOp) (i : Nat) (l : Lnk)
    (b : Bytes) (hop : ops[i]? = some (.loadRaw l)) (hout : (hrun H codecs s ops).2[i]? = some (.raw b)) :
    hashesTo H l b = true := by
  rw [hrun_getElem?, hop, Option.map_some, Option.some.injEq] at hout
  exact ((hstep_load_verified H codecs _ l).1 b hout).2

/-- a storage whose one block is filed under a link it does not hash to: both loads refuse it -/
example : (hstep toyH toyCodecs [(toyL, [0xf4, 0x00])] (.loadRaw toyL)).2 = .error ∧
    (hstep toyH (fun _ => some rawCodec) [(toyL, [0xf4, 0x00])] (.load toyL)).2 = .error ∧
    (hstep toyH (fun _ => some rawCodec) [(toyL, [0xf5, 0x00])] (.load toyL)).2 = .node (.bytes [0xf5, 0x00]) := by decide +kernel

/-- Any delivered block that does not hash to the link (no read error), ANY decoder behaviour - it may fail, succeed
    having read everything, or succeed having stopped early: `Fill` says `hashMismatch` — not `ok`, not the decode
    error — and so does `LoadRaw`, which returns no bytes.  (Before the unconditional drain this needed "the decoder
    consumes the whole block when it succeeds".) -/
theorem corruption_detected (l : Lnk) (s : Stream) (d : DecRun) (hio : s.failAt = none)
    (hbad : hashesTo H l s.data = false) :
    fill H false l s d = .hashMismatch ∧ loadRaw H l s = (.hashMismatch, none) :=
  ⟨(fill_hashMismatch_iff H l s d).mpr ⟨hio, hbad⟩, by simp [loadRaw_eq, hio, hbad]⟩

/-- in particular the verdict is never `ok`, never the decode error, never an I/O error -/
theorem corruption_verdicts (l : Lnk) (s : Stream) (d : DecRun) (hio : s.failAt = none)
    (hbad : hashesTo H l s.data = false) :
    fill H false l s d ≠ .ok ∧ fill H false l s d ≠ .decodeErr ∧ fill H false l s d ≠ .ioErr := by
  rw [(corruption_detected H l s d hio hbad).1]
  exact ⟨by decide, by decide, by decide⟩

/-- The point the old hypothesis excluded: a decoder that stops at the end of the genuine block (dag-cbor with
    `DontParseBeyondEnd`, say) never pulls the appended bytes through the tee - they are hashed all the same, by the
    drain, and `Fill` refuses, as `LoadRaw` does.  (Before the fix the library accepted here.) -/
example : hashesTo toyH toyL [0xf5, 0x00] = true ∧ hashesTo toyH toyL [0xf5, 0x00, 0xaa] = false ∧
    fill toyH false toyL ⟨[0xf5, 0x00, 0xaa], none⟩ ⟨2, false⟩ = .hashMismatch ∧
    loadRaw toyH toyL ⟨[0xf5, 0x00, 0xaa], none⟩ = (.hashMismatch, none) := by decide +kernel

/-- The three corruption families of the property, for a stored block `b`, with no other hypothesis than
    "the corrupted bytes do not hash to the link" (i.e. no collision) — a changed byte at any offset… -/
theorem bitflip_detected (l : Lnk) (b : Bytes) (i : Nat) (x : UInt8) (d : DecRun)
    (hbad : hashesTo H l (b.set i x) = false) :
    fill H false l ⟨b.set i x, none⟩ d = .hashMismatch ∧ loadRaw H l ⟨b.set i x, none⟩ = (.hashMismatch, none) :=
  corruption_detected H l ⟨b.set i x, none⟩ d rfl hbad

/-- …any truncation… -/
theorem truncation_detected (l : Lnk) (b : Bytes) (n : Nat) (d : DecRun)
    (hbad : hashesTo H l (b.take n) = false) :
    fill H false l ⟨b.take n, none⟩ d = .hashMismatch ∧ loadRaw H l ⟨b.take n, none⟩ = (.hashMismatch, none) :=
  corruption_detected H l ⟨b.take n, none⟩ d rfl hbad

/-- …any extension. -/
theorem extension_detected (l : Lnk) (b x : Bytes) (d : DecRun)
    (hbad : hashesTo H l (b ++ x) = false) :
    fill H false l ⟨b ++ x, none⟩ d = .hashMismatch ∧ loadRaw H l ⟨b ++ x, none⟩ = (.hashMismatch, none) :=
  corruption_detected H l ⟨b ++ x, none⟩ d rfl hbad

/-- Flipping any set of bits of a byte (xor with a non-zero mask) changes it; in particular flipping bit
    `k`.  So "a bit flip at any offset" is an instance of `bitflip_detected`, with `x = b[i] ^^^ mask`. -/
theorem bitflip_changes (a m : UInt8) (hm : m ≠ 0) : a ^^^ m ≠ a := by
  intro h
  apply hm
  have : a ^^^ (a ^^^ m) = a ^^^ a := by rw [h]
  rw [← UInt8.xor_assoc, UInt8.xor_self, UInt8.zero_xor] at this
  exact this

theorem bitflip_changes_bit (a : UInt8) (k : Nat) (hk : k < 8) : a ^^^ (1 <<< UInt8.ofNat k) ≠ a := by
  have : ∀ k : Fin 8, (1 : UInt8) <<< UInt8.ofNat k.val ≠ 0 := by decide
  exact bitflip_changes a _ (this ⟨k, hk⟩)

/-- the three on concrete data (stored block `[0xf5, 0x00]` under `toyL`): bit 0 of byte 0 flipped, cut to one
    byte, one byte appended; the decoder fails, succeeds having read everything, or succeeds having stopped early -/
example : hashesTo toyH toyL [0xf5, 0x00] = true ∧
    ([0xf5, 0x00] : Bytes).set 0 ((0xf5 : UInt8) ^^^ (1 <<< UInt8.ofNat 0)) = [0xf4, 0x00] ∧
    fill toyH false toyL ⟨[0xf4, 0x00], none⟩ ⟨2, false⟩ = .hashMismatch ∧
    fill toyH false toyL ⟨[0xf4, 0x00], none⟩ ⟨1, true⟩ = .hashMismatch ∧
    fill toyH false toyL ⟨([0xf5, 0x00] : Bytes).take 1, none⟩ ⟨1, false⟩ = .hashMismatch ∧
    fill toyH false toyL ⟨[0xf5, 0x00] ++ [0xaa], none⟩ ⟨3, false⟩ = .hashMismatch ∧
    fill toyH false toyL ⟨[0xf5, 0x00] ++ [0xaa], none⟩ ⟨2, false⟩ = .hashMismatch ∧
    loadRaw toyH toyL ⟨[0xf5, 0x00] ++ [0xaa], none⟩ = (.hashMismatch, none) := by decide +kernel

/-- Under the collision assumption for the link (`NoCollision`: the stored block `b` is the only one that
    hashes to `l`), with NO assumption on the decoder: a delivered block other than `b` is refused. -/
theorem corruption_refused_any_decoder (l : Lnk) (b b' : Bytes) (d : DecRun) (hb : NoCollision H l b) (hne : b' ≠ b) :
    fill H false l ⟨b', none⟩ d = .hashMismatch ∧ loadRaw H l ⟨b', none⟩ = (.hashMismatch, none) :=
  corruption_detected H l ⟨b', none⟩ d rfl (Bool.eq_false_iff.mpr fun hh => hne (hb b' hh))

/-- Hence a changed byte, a truncation and an extension are refused whatever the decoder does. -/
theorem bitflip_detected_any_decoder (l : Lnk) (b : Bytes) (i : Nat) (x : UInt8) (d : DecRun)
    (hb : NoCollision H l b) (hi : i < b.length) (hx : x ≠ b[i]) :
    fill H false l ⟨b.set i x, none⟩ d = .hashMismatch ∧ loadRaw H l ⟨b.set i x, none⟩ = (.hashMismatch, none) :=
  corruption_refused_any_decoder H l b (b.set i x) d hb (set_ne_self hi hx)

theorem truncation_detected_any_decoder (l : Lnk) (b : Bytes) (n : Nat) (d : DecRun)
    (hb : NoCollision H l b) (hn : n < b.length) :
    fill H false l ⟨b.take n, none⟩ d = .hashMismatch ∧ loadRaw H l ⟨b.take n, none⟩ = (.hashMismatch, none) :=
  corruption_refused_any_decoder H l b (b.take n) d hb (take_ne_self hn)

theorem extension_detected_nocoll (l : Lnk) (b x : Bytes) (d : DecRun)
    (hb : NoCollision H l b) (hx : x ≠ []) :
    fill H false l ⟨b ++ x, none⟩ d = .hashMismatch ∧ loadRaw H l ⟨b ++ x, none⟩ = (.hashMismatch, none) :=
  corruption_refused_any_decoder H l b (b ++ x) d hb (append_ne_self hx)

/-- `NoCollision` is satisfiable: the identity multihash (`H 0 b = b`) has no collisions; and the
    any-decoder theorems say what they should there. -/
example : NoCollision (fun _ b => b) ⟨1, 0x55, identityCode, [1, 2, 3]⟩ [1, 2, 3] :=
  fun _ h => hashesTo_identity _ rfl h
example : fill (fun _ b => b) false ⟨1, 0x55, identityCode, [1, 2, 3]⟩ ⟨([1, 2, 3] : Bytes).set 1 9, none⟩ ⟨1, false⟩ = .hashMismatch ∧
    fill (fun _ b => b) false ⟨1, 0x55, identityCode, [1, 2, 3]⟩ ⟨([1, 2, 3] : Bytes).take 2, none⟩ ⟨0, false⟩ = .hashMismatch ∧
    fill (fun _ b => b) false ⟨1, 0x55, identityCode, [1, 2, 3]⟩ ⟨[1, 2, 3] ++ [4], none⟩ ⟨3, false⟩ = .hashMismatch ∧
    fill (fun _ b => b) false ⟨1, 0x55, identityCode, [1, 2, 3]⟩ ⟨[1, 2, 3], none⟩ ⟨3, false⟩ = .ok := by decide +kernel

/-- A stream with a read error (after `f` bytes), all cases: `LoadRaw` returns the I/O error and no bytes, and `Fill`
    returns the I/O error whatever the decoder did — also when it had all it needed within the bytes delivered before
    the error: the drain runs into it.  Never data, never a decode error, never a verdict computed from a partial block. -/
theorem read_error_verdicts (l : Lnk) (s : Stream) (d : DecRun) (f : Nat) (hio : s.failAt = some f) :
    loadRaw H l s = (.ioErr, none) ∧ fill H false l s d = .ioErr :=
  ⟨by simp [loadRaw_eq, hio], io_surfaces H l s d f hio⟩

/-- a read error can only come out as the I/O error: in particular never as `ok` -/
theorem read_error_never_ok (l : Lnk) (s : Stream) (d : DecRun) (f : Nat) (hio : s.failAt = some f) :
    fill H false l s d ≠ .ok := by
  rw [io_surfaces H l s d f hio]; decide

/-- the block is `[0xf5, 0x00, …]`, the stream fails after two bytes: the I/O error, whether the decoder needed two
    bytes (and succeeded) or wanted the third -/
example : fill toyH false toyL ⟨[0xf5, 0x00, 0xaa], some 2⟩ ⟨2, false⟩ = .ioErr ∧
    fill toyH false toyL ⟨[0xf5, 0x00, 0xaa], some 2⟩ ⟨2, true⟩ = .ioErr ∧
    fill toyH false toyL ⟨[0xf5, 0x00, 0xaa], some 1⟩ ⟨1, false⟩ = .ioErr ∧
    loadRaw toyH toyL ⟨[0xf5, 0x00, 0xaa], some 2⟩ = (.ioErr, none) := by decide +kernel

/-- `Store` calls the committer exactly when the encoder returned no error, no storage write that was
    performed failed, and `BuildLink` did not panic; the block committed is then the concatenation of ALL
    the encoder's writes and the link is built from the hash of exactly that. -/
theorem store_commit_iff (p : Proto) (e : EncRun) (l : Lnk) (b : Bytes) :
    store H p e = .committed l b ↔
      e.encFails = false ∧ (∀ j, e.writerFailsAt = some j → e.writes.length ≤ j) ∧
      buildLink p (H p.mhType e.writes.flatten) = some l ∧ b = e.writes.flatten :=
  store_committed_iff H p e l b

/-- …and it returns an error without committing exactly when the encoder failed or a performed write
    failed (the converse of `store_fail_no_commit`). -/
theorem store_failed_iff (p : Proto) (e : EncRun) :
    store H p e = .failed ↔ e.encFails = true ∨ ∃ j, e.writerFailsAt = some j ∧ j < e.writes.length :=
  Link.store_failed_iff H p e

/-- Never a prefix: a committed block is never a proper prefix of what the encoder wrote — in particular
    not the writes up to a failure. -/
theorem store_never_commits_prefix (p : Proto) (e : EncRun) (l : Lnk) (n : Nat)
    (hne : (e.writes.drop n).flatten ≠ []) :
    store H p e ≠ .committed l (e.writes.take n).flatten := by
  intro h
  have := ((store_commit_iff H p e l _).mp h).2.2.2
  have e2 : e.writes.flatten = (e.writes.take n).flatten ++ (e.writes.drop n).flatten := by
    rw [← List.flatten_append, List.take_append_drop]
  rw [e2] at this
  exact append_ne_self hne this.symm

example : store toyH ⟨1, 0x71, 0x12, -1⟩ ⟨[[0xf5], [0x00]], false, none⟩ = .committed toyL [0xf5, 0x00] ∧
    store toyH ⟨1, 0x71, 0x12, -1⟩ ⟨[[0xf5], [0x00]], false, some 2⟩ = .committed toyL [0xf5, 0x00] ∧
    store toyH ⟨1, 0x71, 0x12, -1⟩ ⟨[[0xf5], [0x00]], true, none⟩ = .failed ∧
    store toyH ⟨1, 0x71, 0x12, -1⟩ ⟨[[0xf5], [0x00]], false, some 1⟩ = .failed ∧
    store toyH ⟨1, 0x71, 0x12, 5⟩ ⟨[[0xf5], [0x00]], false, none⟩ = .committed toyL [0xf5, 0x00] ∧
    store toyH ⟨0, 0x71, 0x13, -1⟩ ⟨[[0xf5], [0x00]], false, none⟩ = .panicked := by decide +kernel

/-- `store_never_commits_prefix` on concrete data: the writer fails on the second write; the first write
    alone (which would be a perfectly well-formed block with its own link) is not committed. -/
example : buildLink ⟨1, 0x71, 0x12, -1⟩ (toyH 0x12 [0xf5]) = some ⟨1, 0x71, 0x12, [1, 0xf5]⟩ ∧
    store toyH ⟨1, 0x71, 0x12, -1⟩ ⟨[[0xf5], [0x00]], false, some 1⟩ ≠ .committed ⟨1, 0x71, 0x12, [1, 0xf5]⟩ [0xf5] := by
  decide +kernel

/-- `Fill` (and `Load` through it): unless storage is declared trusted the decoder reads through a tee into the
    hasher; whatever it returned, the rest of the stream is then drained into the hasher (an I/O error there is
    returned as such); the hash comparison comes next and returns `ErrHashMismatch`; only then is the decode error
    admitted.  There is no return between the decoder call and the hash comparison other than the I/O error of the
    drain — which is `Link.fill`. -/
theorem fill_src_is_transcribed : Ipld.Generated.fill_skel_src = [
  "if lnkCtx.Ctx == nil",
  ". lnkCtx.Ctx = context.Background()",
  "decoder, err := lsys.DecoderChooser(lnk)",
  "if err != nil",
  ". return ErrLinkingSetup{\"could not choose a decoder\", err}",
  "hasher, err := lsys.HasherChooser(lnk.Prototype())",
  "if err != nil",
  ". return ErrLinkingSetup{\"could not choose a hasher\", err}",
  "if lsys.StorageReadOpener == nil",
  ". return ErrLinkingSetup{\"no storage configured for reading\", io.ErrClosedPipe}",
  "reader, err := lsys.StorageReadOpener(lnkCtx, lnk)",
  "if err != nil",
  ". return err",
  "if closer, ok := reader.(io.Closer); ok",
  ". defer closer.Close()",
  "if lsys.TrustedStorage",
  ". return decoder(na, reader)",
  "tee := io.TeeReader(reader, hasher)",
  "decodeErr := decoder(na, tee)",
  "if _, err := io.Copy(hasher, reader); err != nil",
  ". return err",
  "hash := hasher.Sum(nil)",
  "lnk2 := lnk.Prototype().BuildLink(hash)",
  "if lnk2.Binary() != lnk.Binary()",
  ". return ErrHashMismatch{Actual: lnk2, Expected: lnk}",
  "if decodeErr != nil",
  ". return decodeErr",
  "return nil"
] := rfl

/-- `LoadRaw` buffers the whole stream (an I/O error returns no bytes), hashes the buffer, compares links, and only
    then hands the bytes out (`Link.loadRaw`). -/
theorem loadRaw_src_is_transcribed : Ipld.Generated.loadRaw_skel_src = [
  "if lnkCtx.Ctx == nil",
  ". lnkCtx.Ctx = context.Background()",
  "hasher, err := lsys.HasherChooser(lnk.Prototype())",
  "if err != nil",
  ". return nil, ErrLinkingSetup{\"could not choose a hasher\", err}",
  "if lsys.StorageReadOpener == nil",
  ". return nil, ErrLinkingSetup{\"no storage configured for reading\", io.ErrClosedPipe}",
  "reader, err := lsys.StorageReadOpener(lnkCtx, lnk)",
  "if err != nil",
  ". return nil, err",
  "if closer, ok := reader.(io.Closer); ok",
  ". defer closer.Close()",
  "var buf bytes.Buffer",
  "if _, err := io.Copy(&buf, reader); err != nil",
  ". return nil, err",
  "hasher.Write(buf.Bytes())",
  "hash := hasher.Sum(nil)",
  "lnk2 := lnk.Prototype().BuildLink(hash)",
  "if lnk2.Binary() != lnk.Binary()",
  ". return nil, ErrHashMismatch{Actual: lnk2, Expected: lnk}",
  "return buf.Bytes(), nil"
] := rfl

end Ipld.Props.C06

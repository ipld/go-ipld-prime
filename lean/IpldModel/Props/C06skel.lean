/-
  C06 (companion) — Load and LoadPlusRaw: every loading entry point goes through Fill or LoadRaw, which check the hash.
  Recorded by tools/pin_skeletons.py from the source the models were transcribed from; property-tie theorems only.
-/
import IpldModel.Generated.LoadSkeletons
namespace Ipld.Props.C06

/-- (T) statement skeleton of `LinkSystem.Load` (linking/functions.go) — Fill into a fresh builder, then the reifier (model: `Link.load`): the statements on this run are the recorded ones. -/
theorem load_is_transcribed : Ipld.Generated.load_skel_src = [
  "nb := np.NewBuilder()",
  "if err := lsys.Fill(lnkCtx, lnk, nb); err != nil",
  ". return nil, err",
  "nd := nb.Build()",
  "if lsys.NodeReifier == nil",
  ". return nd, nil",
  "return lsys.NodeReifier(lnkCtx, nd, lsys)"
] := rfl

/-- (T) statement skeleton of `LinkSystem.LoadPlusRaw` (linking/functions.go) — LoadRaw (hash checked) first, decode of the checked bytes second (model: `Link.loadPlusRaw` in Lemmas/Link.lean): the statements on this run are the recorded ones. -/
theorem loadPlusRaw_is_transcribed : Ipld.Generated.loadPlusRaw_skel_src = [
  "decoder, err := lsys.DecoderChooser(lnk)",
  "if err != nil",
  ". return nil, nil, ErrLinkingSetup{\"could not choose a decoder\", err}",
  "block, err := lsys.LoadRaw(lnkCtx, lnk)",
  "if err != nil",
  ". return nil, block, err",
  "nb := np.NewBuilder()",
  "if err := decoder(nb, bytes.NewBuffer(block)); err != nil",
  ". return nil, block, err",
  "nd := nb.Build()",
  "if lsys.NodeReifier == nil",
  ". return nd, block, nil",
  "nd, err = lsys.NodeReifier(lnkCtx, nd, lsys)",
  "return nd, block, err"
] := rfl

end Ipld.Props.C06

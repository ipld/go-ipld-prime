/-
  C17 — a store is a key-value map for arbitrary binary keys; the filesystem store maps a key to the path
  base / shard (base32 key) and touches nothing else.  Property theorems only (helper lemmas in
  Lemmas/Kv, Lemmas/Base32, Lemmas/StorePath).
-/
import IpldModel.Generated.FsstoreFacts
import IpldModel.Lemmas.Kv
import IpldModel.Lemmas.FirstOfKey
import IpldModel.Lemmas.Base32
import IpldModel.Lemmas.StorePath
namespace Ipld.Props.C17
open Ipld Ipld.Store Ipld.Generated

/-- Reading after a put: the key put holds its old content if it had one, else the new content;
    every other key is unchanged. -/
theorem kv_get_put (s : Kv) (k v k' : Bytes) :
    (s.put k v).get k' =
      if k' = k then (match s.get k with | some old => some old | none => some v) else s.get k' :=
  Kv.get_put s k v k'

theorem kv_put_fresh (s : Kv) (k v : Bytes) (h : s.get k = none) : (s.put k v).get k = some v := by
  rw [Kv.get_put]; simp [h]

/-- Putting an existing key keeps the old content (write-once). -/
theorem kv_put_existing (s : Kv) (k v old : Bytes) (h : s.get k = some old) : (s.put k v).get k = some old := by
  rw [Kv.get_put]; simp [h]

theorem kv_put_other (s : Kv) (k v k' : Bytes) (h : k' ≠ k) : (s.put k v).get k' = s.get k' := by
  rw [Kv.get_put]; simp [h]

/-- `has` is exactly "get returns something". -/
theorem kv_has_iff (s : Kv) (k : Bytes) : s.has k = true ↔ ∃ v, s.get k = some v := by
  unfold Kv.has; exact Option.isSome_iff_exists

/-- After a put the key is present, and presence of other keys is unchanged. -/
theorem kv_has_put (s : Kv) (k v k' : Bytes) : (s.put k v).has k' = (decide (k' = k) || s.has k') := by
  unfold Kv.has
  rw [Kv.get_put]
  by_cases h : k' = k
  · subst h; cases s.get k' <;> simp
  · simp [h]

/-- History, no premise: starting from the empty store, a key holds the content of the first put naming it. -/
theorem kv_history_first (h : List (Bytes × Bytes)) (k : Bytes) :
    (Kv.puts [] h).get k = (h.find? (fun e => e.1 = k)).map (·.2) := by
  rw [Kv.get_puts]; rfl

/-- History with one content per key: after the history every put `(k, v)` is readable as `v`. -/
theorem kv_history_get (h : List (Bytes × Bytes)) (hone : OneContentPerKey h) (k v : Bytes) (hm : (k, v) ∈ h) :
    (Kv.puts [] h).get k = some v := by
  rw [kv_history_first]
  exact find?_key_agree Prod.fst Prod.snd hone hm rfl

/-- History: a key that no put names stays absent. -/
theorem kv_history_absent (h : List (Bytes × Bytes)) (k : Bytes) (hk : ∀ e ∈ h, e.1 ≠ k) :
    (Kv.puts [] h).get k = none := by
  rw [kv_history_first]
  have : h.find? (fun e => e.1 = k) = none := List.find?_eq_none.mpr (fun e he => by simpa using hk e he)
  rw [this]; rfl

/-! ## (T) the translated sharders are the model sharders, and their slices are in range

In each of the three proofs `simp only` turns the guards `decide (len > m)` and the slices of the generated code into the
model's arithmetic; both sides are then the same `if`s over `key.length`, and the closing `rfl` evaluates what is left:
`(m : Int).toNat`, and `zeros n` against the literal `[48, …]`. -/

/-- `Shard_r12` as translated from Go equals the model sharder, for keys shorter than 2^63 bytes. -/
theorem shard_r12_refines (key : Bytes) (shards : List Bytes) (hl : key.length < 2 ^ 63) :
    shard_r12_src key shards = shardR12 key shards := by
  unfold shard_r12_src shardR12
  simp only [decide_eq_true_eq, goLen_gt key 2 (by decide),
    slice_src key 3 1 (by decide) (by decide) (by decide) hl]
  rfl

/-- `Shard_r122` as translated from Go equals the model sharder, for keys shorter than 2^63 bytes. -/
theorem shard_r122_refines (key : Bytes) (shards : List Bytes) (hl : key.length < 2 ^ 63) :
    shard_r122_src key shards = shardR122 key shards := by
  unfold shard_r122_src shardR122
  simp only [decide_eq_true_eq, goLen_gt key 4 (by decide), goLen_gt key 2 (by decide),
    slice_src key 5 3 (by decide) (by decide) (by decide) hl, slice_src key 3 1 (by decide) (by decide) (by decide) hl]
  rfl

/-- `Shard_r133` as translated from Go equals the model sharder, for keys shorter than 2^63 bytes. -/
theorem shard_r133_refines (key : Bytes) (shards : List Bytes) (hl : key.length < 2 ^ 63) :
    shard_r133_src key shards = shardR133 key shards := by
  unfold shard_r133_src shardR133
  simp only [decide_eq_true_eq, goLen_gt key 6 (by decide), goLen_gt key 3 (by decide),
    slice_src key 7 4 (by decide) (by decide) (by decide) hl, slice_src key 4 1 (by decide) (by decide) (by decide) hl]
  rfl

/-- Every slice expression of the three sharders has the form `key[l-a : l-b]` with `0 ≤ b ≤ a ≤ 8` and is
    guarded by a branch condition implying `l > a - 1`: its bounds are legal. -/
theorem slice_ok (key : Bytes) (a b : Int) (hb : 0 ≤ b) (hba : b ≤ a) (ha8 : a ≤ 8)
    (hcond : goLen key > a - 1) (hl : key.length < 2 ^ 63) :
    SliceOk key (wrapI64 (goLen key - a)) (wrapI64 (goLen key - b)) := by
  show 0 ≤ _ ∧ _ ≤ _ ∧ _ ≤ goLen key
  rw [wrap_len_sub key a (Int.le_trans hb hba) ha8 hl, wrap_len_sub key b hb (Int.le_trans hba ha8) hl]
  exact ⟨Int.sub_nonneg_of_le (Int.le_of_sub_one_lt hcond), Int.sub_le_sub_left hba _, Int.sub_le_self _ hb⟩

/-- `Shard_r12`, branch `l > 2`: `key[l-3:l-1]` cannot panic. -/
theorem r12_slice_ok (key : Bytes) (hl : key.length < 2 ^ 63) (h : goLen key > 2) :
    SliceOk key (wrapI64 (goLen key - 3)) (wrapI64 (goLen key - 1)) :=
  slice_ok key 3 1 (by decide) (by decide) (by decide) h hl

/-- `Shard_r122`, branch `l > 4`: `key[l-5:l-3]` and `key[l-3:l-1]` cannot panic. -/
theorem r122_slices_ok_long (key : Bytes) (hl : key.length < 2 ^ 63) (h : goLen key > 4) :
    SliceOk key (wrapI64 (goLen key - 5)) (wrapI64 (goLen key - 3)) ∧
    SliceOk key (wrapI64 (goLen key - 3)) (wrapI64 (goLen key - 1)) :=
  ⟨slice_ok key 5 3 (by decide) (by decide) (by decide) h hl,
   slice_ok key 3 1 (by decide) (by decide) (by decide) (by omega) hl⟩

/-- `Shard_r122`, branch `l > 2` (after `l > 4` failed): `key[l-3:l-1]` cannot panic. -/
theorem r122_slice_ok_mid (key : Bytes) (hl : key.length < 2 ^ 63) (h : goLen key > 2) :
    SliceOk key (wrapI64 (goLen key - 3)) (wrapI64 (goLen key - 1)) :=
  r12_slice_ok key hl h

/-- `Shard_r133`, branch `l > 6`: `key[l-7:l-4]` and `key[l-4:l-1]` cannot panic. -/
theorem r133_slices_ok_long (key : Bytes) (hl : key.length < 2 ^ 63) (h : goLen key > 6) :
    SliceOk key (wrapI64 (goLen key - 7)) (wrapI64 (goLen key - 4)) ∧
    SliceOk key (wrapI64 (goLen key - 4)) (wrapI64 (goLen key - 1)) :=
  ⟨slice_ok key 7 4 (by decide) (by decide) (by decide) h hl,
   slice_ok key 4 1 (by decide) (by decide) (by decide) (by omega) hl⟩

/-- `Shard_r133`, branch `l > 3` (after `l > 6` failed): `key[l-4:l-1]` cannot panic. -/
theorem r133_slice_ok_mid (key : Bytes) (hl : key.length < 2 ^ 63) (h : goLen key > 3) :
    SliceOk key (wrapI64 (goLen key - 4)) (wrapI64 (goLen key - 1)) :=
  slice_ok key 4 1 (by decide) (by decide) (by decide) h hl

/-- Every bundled sharder outputs shard directory names followed by the key itself; each directory name
    is `n` zeros or `n` consecutive characters of the key (`n` = 2 or 3). -/
theorem sharder_shape {n : Nat} {sh : Sharder} (hb : Bundled n sh) (key : Bytes) :
    ∃ pre, sh key [] = pre ++ [key] ∧
      ∀ c ∈ pre, c = zeros n ∨ ∃ lo hi, c = sub key lo hi ∧ hi = lo + n ∧ hi ≤ key.length := by
  exact bundled_shape hb key

/-- The last path component is the (escaped) key itself. -/
theorem sharder_last {n : Nat} {sh : Sharder} (hb : Bundled n sh) (key : Bytes) :
    (sh key []).getLast? = some key := by
  obtain ⟨pre, e, _⟩ := bundled_shape hb key
  rw [e]; simp

/-- Every shard directory name has exactly `n` characters, each `'0'` or a character of the key. -/
theorem sharder_part {n : Nat} {sh : Sharder} (hb : Bundled n sh) (key : Bytes) :
    ∀ c ∈ (sh key []).dropLast, c.length = n ∧ ∀ b ∈ c, b = 0x30 ∨ b ∈ key := by
  obtain ⟨pre, e, hp⟩ := sharder_shape hb key
  intro c hc
  rw [e, List.dropLast_concat] at hc
  exact ⟨shardPart_length (hp c hc), shardPart_mem (hp c hc)⟩

/-- Equal paths have equal escaped keys (whatever the escaping function). -/
theorem path_inj_of_escape_inj {n : Nat} {sh : Sharder} (hb : Bundled n sh) (esc : Bytes → Bytes) (k k' : Bytes)
    (h : pathForKey esc sh k = pathForKey esc sh k') : esc k = esc k' := by
  unfold pathForKey at h
  have h1 := sharder_last hb (esc k)
  rw [h, sharder_last hb (esc k')] at h1
  exact (Option.some.inj h1).symm

/-- The encoding uses only `A`–`Z` and `2`–`7`. -/
theorem b32_alphabet (bs : Bytes) : ∀ c ∈ b32Std bs, isB32Char c = true := by
  intro c hc
  unfold b32Std at hc
  simp only [List.mem_map] at hc
  obtain ⟨g, hg, rfl⟩ := hc
  exact b32StdChar_alphabet _ (bitsToNat_lt32 (chunk5_len5 g hg))

/-- `n` bytes encode to `⌈8n/5⌉` characters (no padding). -/
theorem b32_length (bs : Bytes) : (b32Std bs).length = (8 * bs.length + 4) / 5 := by
  unfold b32Std
  simp only [List.length_map]
  rw [chunk5_length _ _ (by omega), bitsOf_length]

/-- A non-empty key has a non-empty encoding. -/
theorem b32_nonempty (bs : Bytes) (h : bs ≠ []) : b32Std bs ≠ [] := by
  intro e
  have hl := b32_length bs
  rw [e] at hl
  have : 0 < bs.length := List.length_pos_iff.mpr h
  simp only [List.length_nil] at hl
  omega

/-- The encoding is injective: distinct binary keys have distinct encodings. -/
theorem b32_inj {a b : Bytes} (h : b32Std a = b32Std b) : a = b := by
  unfold b32Std at h
  have hc := map_char_inj chunk5_len5 chunk5_len5 h
  obtain ⟨pa, hpa, ea⟩ := chunk5_flatten ((bitsOf a).length + 1) (bitsOf a) (by omega)
  obtain ⟨pb, hpb, eb⟩ := chunk5_flatten ((bitsOf b).length + 1) (bitsOf b) (by omega)
  rw [hc, eb] at ea
  have hlen := congrArg List.length ea
  simp only [List.length_append, List.length_replicate, bitsOf_length] at hlen
  have hl : (bitsOf b).length = (bitsOf a).length := by rw [bitsOf_length, bitsOf_length]; omega
  exact (bitsOf_inj (List.append_inj ea hl).1).symm

/-- RFC 4648 test vectors (without padding): "f" ↦ "MY", "foobar" ↦ "MZXW6YTBOI". -/
example : b32Std [0x66] = [0x4d, 0x59] := by decide +kernel
example : b32Std [0x66, 0x6f, 0x6f, 0x62, 0x61, 0x72] = [0x4d, 0x5a, 0x58, 0x57, 0x36, 0x59, 0x54, 0x42, 0x4f, 0x49] := by
  decide +kernel

/-- For a non-empty key, every component of the path is a non-empty string over the base32 alphabet and `'0'`. -/
theorem path_contained {n : Nat} {sh : Sharder} (hb : Bundled n sh) (key : Bytes) (hk : key ≠ []) :
    ∀ c ∈ pathForKey b32Std sh key, safeComponent c = true := by
  have hn : 0 < n := by cases hb <;> omega
  exact safe_of_shape (bundled_shape hb) hn (b32Std key) (b32_nonempty key hk) (b32_alphabet key)

/-- Such a component is not empty, not `.` or `..`, not the staging directory, and contains neither `/` nor
    NUL: joined to the base directory the components name a file strictly inside it, outside `.temp`. -/
theorem safeComponent_safe (c : Bytes) (h : safeComponent c = true) :
    c ≠ [] ∧ c ≠ ".".toUTF8.toList ∧ c ≠ "..".toUTF8.toList ∧ c ≠ stagingDir ∧
      (0x2f : UInt8) ∉ c ∧ (0 : UInt8) ∉ c := by
  rw [safeComponent_iff] at h
  obtain ⟨hne, hall⟩ := h
  have hdot : (0x2e : UInt8) ∉ c := fun hm => by
    have := hall _ hm; revert this; decide
  rw [dot_bytes, dotdot_bytes, stagingDir_bytes]
  refine ⟨hne, ?_, ?_, ?_, ?_, ?_⟩
  · intro e; subst e; exact hdot (by simp)
  · intro e; subst e; exact hdot (by simp)
  · intro e; subst e; exact hdot (by simp)
  · intro hm; have := hall _ hm; revert this; decide
  · intro hm; have := hall _ hm; revert this; decide

/-- The hypothesis `key ≠ []` is needed: the empty key yields an empty last component (the path names the
    shard directory itself). -/
example : pathForKey b32Std shardR12 [] = [zeros 2, []] := by decide +kernel
example : ¬ ∀ c ∈ pathForKey b32Std shardR12 [], safeComponent c = true := by decide +kernel
example : ¬ ∀ c ∈ pathForKey b32Std shardR122 [], safeComponent c = true := by decide +kernel
example : ¬ ∀ c ∈ pathForKey b32Std shardR133 [], safeComponent c = true := by decide +kernel

/-- Equal paths have equal keys. -/
theorem path_inj {n : Nat} {sh : Sharder} (hb : Bundled n sh) (k k' : Bytes)
    (h : pathForKey b32Std sh k = pathForKey b32Std sh k') : k = k' :=
  b32_inj (path_inj_of_escape_inj hb b32Std k k' h)

/-- Reading key `k'` after storing `v` under `k` returns `v` if `k' = k` and what was there before otherwise:
    files keyed by path behave as a map keyed by key. -/
theorem fs_get_put {n : Nat} {sh : Sharder} (hb : Bundled n sh) (fs : Files) (k v k' : Bytes) :
    fsGet b32Std sh (fsPut b32Std sh fs k v) k' = if k' = k then some v else fsGet b32Std sh fs k' := by
  unfold fsGet fsPut Files.write
  by_cases h : k' = k
  · subst h; simp [Files.read]
  · have hp : ¬ pathForKey b32Std sh k = pathForKey b32Std sh k' := fun e => h (path_inj hb k k' e).symm
    simp [Files.read, h, hp]

/-! ## (T) facts extracted from the Go source -/

/-- `pathForKey` hands the *escaped* key to the sharding function. -/
theorem pathForKey_shards_escaped : pathForKey_shards_escaped_src = true := rfl

/-- `InitDefaults` selects base32 escaping and `Shard_r12`. -/
theorem initDefaults_fact : initDefaults_src = ["basepath", "b32enc", "sharding.Shard_r12"] := rfl

/-- The call orders extracted from `fsstore.go` are exactly those the writer model `stepWriter` follows. -/
theorem fsCalls_fact : fsCalls_src = [
    -- Put = PutStream (phase `.start`), then Write (phase `.writing (c :: rest)`), then the committer with the
    -- key (phases `.writing []` … `.done`).  The two earlier committer calls are the error paths (hook error,
    -- write error): committer with the empty key = the `fail` branch of `.writing (c :: rest)` → `.aborted`.
    ("Store.Put", ["store.PutStream", "wrCommitter", "wr.Write", "wrCommitter", "wrCommitter"]),
    -- PutStream: OpenFile(O_CREATE|O_EXCL) = step `.start → .writing chunks` (new inode, staging name bound);
    -- committer: Close = step `.writing [] → .closed` (inode sealed); then either Remove(staging)
    -- (abort: `.aborted`, staging name unbound) or pathForKey + move (phase `.closed` onwards).
    ("Store.PutStream", ["os.OpenFile", "f.Close", "os.Remove", "store.pathForKey", "move"]),
    -- move: Rename = step `.closed → .done` when the shard directory exists, else `.closed → .needDir`;
    -- haveDir = step `.needDir → .closed` (the directory now exists); second Rename = step `.closed → .done`;
    -- Remove(staging) only after Rename reported EEXIST (POSIX rename replaces instead; not a phase).
    ("move", ["os.Rename", "haveDir", "os.Rename", "os.Remove"]),
    -- haveDir: Mkdir, on ENOENT recurse to the parent and Mkdir again = the single `.needDir` step.
    ("haveDir", ["os.Mkdir", "haveDir", "os.Mkdir"])
  ] := rfl

end Ipld.Props.C17

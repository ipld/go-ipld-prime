/-
  C18 — filesystem writes are atomic: whatever the interleaving of writers, failures and crashes, a reader of a
  key sees the complete committed block or nothing; the store stays usable after crashes.
  Property theorems only (the invariant `Inv` and all helper lemmas are in Lemmas/FsAtomic).
-/
import IpldModel.Lemmas.FsAtomic
import IpldModel.Generated.FsstoreFacts
namespace Ipld.Props.C18
open Ipld Ipld.Store

/-- What the invariant says, spelled out.  (i) directory entries refer to existing inodes; (ii) per writer:
    while writing, its staging name is bound to its own unsealed inode, which holds exactly the chunks written so
    far; after Close (phases closed / needDir) the staging name is bound to its sealed inode holding the complete
    content; after the Rename (done) its inode is sealed and complete; live writers have pairwise distinct inodes;
    (iii) every destination name refers to a sealed inode holding the complete content of a writer of that key. -/
theorem inv_unfold (wd : World) : Inv wd ↔
    (∀ e ∈ wd.fs.names, e.2 < wd.fs.inodes.length) ∧
    (∀ (wi : Nat) (w : Writer), wd.writers[wi]? = some w →
      (∀ left, w.phase = .writing left → wd.fs.lookup (.staging wi) = some w.inode ∧
          ∃ ino, wd.fs.inodes[w.inode]? = some ino ∧ ino.sealed = false ∧
            ino.content ++ left.flatten = w.chunks.flatten) ∧
      (w.phase = .closed ∨ w.phase = .needDir → wd.fs.lookup (.staging wi) = some w.inode ∧
          ∃ ino, wd.fs.inodes[w.inode]? = some ino ∧ ino.sealed = true ∧ ino.content = w.chunks.flatten) ∧
      (w.phase = .done →
          ∃ ino, wd.fs.inodes[w.inode]? = some ino ∧ ino.sealed = true ∧ ino.content = w.chunks.flatten)) ∧
    (∀ (wi wj : Nat) (w w' : Writer), wd.writers[wi]? = some w → wd.writers[wj]? = some w' → wi ≠ wj →
      Created w.phase → Created w'.phase → w.inode ≠ w'.inode) ∧
    (∀ (key : Bytes) (i : Nat), (Name.dest key, i) ∈ wd.fs.names →
      ∃ ino, wd.fs.inodes[i]? = some ino ∧ ino.sealed = true ∧
        ∃ w ∈ wd.writers, w.key = key ∧ ino.content = w.chunks.flatten) := by
  constructor
  · intro h
    refine ⟨h.names_ok, ?_, h.distinct, h.dest⟩
    intro wi w hw
    have := h.wok wi w hw
    exact ⟨fun left hp => this.writing hp, fun hp => this.closed hp, fun hp => this.done hp⟩
  · intro ⟨h1, h2, h3, h4⟩
    refine ⟨h1, ?_, h3, h4⟩
    intro wi w hw
    obtain ⟨a, b, c⟩ := h2 wi w hw
    unfold WOk SealedFull
    split
    · rename_i left hp; exact a left hp
    · rename_i hp; exact b (Or.inl hp)
    · rename_i hp; exact b (Or.inr hp)
    · rename_i hp; exact c hp
    · trivial

/-- No destination name refers to the inode of a writer that is still writing (it is unsealed, destination
    inodes are sealed). -/
theorem writing_inode_not_visible {wd : World} (h : Inv wd) {wi : Nat} {w : Writer} {left : List Bytes}
    (hw : wd.writers[wi]? = some w) (hp : w.phase = .writing left) (key : Bytes) :
    (Name.dest key, w.inode) ∉ wd.fs.names := by
  intro hm
  obtain ⟨ino, e, hs, _⟩ := h.dest key w.inode hm
  obtain ⟨_, ino', e', hs', _⟩ := (h.wok wi w hw).writing hp
  rw [e] at e'; cases e'; rw [hs] at hs'; cases hs'

theorem inv_init (ws : List (Bytes × List Bytes)) : Inv (initWorld ws) := Inv.init ws

/-- Every step of any writer index (in or out of range) under any fate (ok, fail, kill) preserves the invariant. -/
theorem atomic_inv_step {wd : World} (h : Inv wd) (wi : Nat) (f : Fate) : Inv (stepWriter wd wi f) := h.step wi f

theorem atomic_inv (ws : List (Bytes × List Bytes)) (sched : Schedule) : Inv (run (initWorld ws) sched) :=
  (Inv.init ws).run sched

/-- In any world satisfying the invariant whose writers obey write-once, whatever a reader gets under a key is
    exactly the content committed for that key — never a partial or mixed block. -/
theorem reader_sees_complete {wd : World} (h : Inv wd) (hwo : WriteOnce wd.writers) {key b : Bytes}
    (hr : readKey wd key = some b) : committed wd key = some b :=
  h.read_committed hwo hr

/-- Steps never change what was committed, nor the write-once premise. -/
theorem committed_run (wd : World) (sched : Schedule) (key : Bytes) :
    committed (run wd sched) key = committed wd key :=
  committed_of_kc (run_kc wd sched) key

theorem writeOnce_run {wd : World} (sched : Schedule) (h : WriteOnce wd.writers) : WriteOnce (run wd sched).writers :=
  writeOnce_of_kc (run_kc wd sched) h

/-- A reader that opens a key at any moment of any schedule — any number of concurrent writers of the same or
    other keys, any crashes and failures — reads exactly the complete content given to the writers of the key. -/
theorem reader_sees_complete_run (ws : List (Bytes × List Bytes)) (hwo : WriteOnce (initWorld ws).writers)
    (sched : Schedule) {key b : Bytes} (hr : readKey (run (initWorld ws) sched) key = some b) :
    committed (initWorld ws) key = some b := by
  rw [← committed_run (initWorld ws) sched key]
  exact reader_sees_complete (atomic_inv ws sched) (writeOnce_run sched hwo) hr

/-- Stepping a finished, aborted or dead writer with fate ok or fail changes nothing. -/
theorem dead_is_inert {wd : World} {wi : Nat} {w : Writer} {f : Fate} (hw : wd.writers[wi]? = some w)
    (hp : w.phase = .done ∨ w.phase = .aborted ∨ w.phase = .dead) (hf : f ≠ .kill) : stepWriter wd wi f = wd :=
  step_inert hw hf hp

/-- Stepping a dead writer changes nothing, under any fate. -/
theorem dead_is_inert_any {wd : World} {wi : Nat} {w : Writer} (f : Fate) (hw : wd.writers[wi]? = some w)
    (hp : w.phase = .dead) : stepWriter wd wi f = wd := by
  cases f with
  | kill =>
    rw [step_kill hw]
    unfold kill
    have : ({ w with phase := .dead } : Writer) = w := by cases w; simp_all
    rw [this, setWriter_same hw]
  | ok => exact step_inert hw (by simp) (Or.inr (Or.inr hp))
  | fail => exact step_inert hw (by simp) (Or.inr (Or.inr hp))

/-- Killing a finished or aborted writer only marks it dead: the file system is untouched. -/
theorem kill_finished_fs {wd : World} {wi : Nat} (f : Fate) {w : Writer} (hw : wd.writers[wi]? = some w)
    (hp : w.phase = .done ∨ w.phase = .aborted ∨ w.phase = .dead) : (stepWriter wd wi f).fs = wd.fs := by
  cases f with
  | kill => rw [step_kill hw]
  | ok => rw [step_inert hw (by simp) hp]
  | fail => rw [step_inert hw (by simp) hp]

/-- A new writer may be added to any world satisfying the invariant. -/
theorem inv_addWriter {wd : World} (h : Inv wd) (key : Bytes) (chunks : List Bytes) : Inv (addWriter wd key chunks) :=
  h.addWriter key chunks

/-- After any schedule (any crashes, failures, abandoned staging files), a fresh writer of any key and content
    that runs undisturbed — OpenFile, one Write per chunk, Close, Rename [, Mkdir, Rename] — makes its key
    readable with exactly its content. -/
theorem crash_usable (ws : List (Bytes × List Bytes)) (sched : Schedule) (key : Bytes) (chunks : List Bytes) :
    let wd := run (initWorld ws) sched
    readKey (run (addWriter wd key chunks) (freshSchedule wd.writers.length chunks (wd.fs.dirs.contains key))) key
      = some chunks.flatten :=
  fresh_completes _ key chunks

/-- The same from any world satisfying the invariant. -/
theorem crash_usable_inv {wd : World} (h : Inv wd) (key : Bytes) (chunks : List Bytes) :
    readKey (run (addWriter wd key chunks) (freshSchedule wd.writers.length chunks (wd.fs.dirs.contains key))) key
      = some chunks.flatten :=
  fresh_completes wd key chunks

/-- If the fresh writer is consistent with write-once, what it made readable is the committed content of the key. -/
theorem crash_usable_committed {wd : World} (h : Inv wd) (key : Bytes) (chunks : List Bytes)
    (hwo : WriteOnce (addWriter wd key chunks).writers) :
    committed (addWriter wd key chunks) key = some chunks.flatten := by
  rw [← committed_run (addWriter wd key chunks) (freshSchedule wd.writers.length chunks (wd.fs.dirs.contains key)) key]
  exact reader_sees_complete ((h.addWriter key chunks).run _) (writeOnce_run _ hwo) (fresh_completes wd key chunks)

/-- A failed Write unbinds the writer's staging name, changes no destination entry, and ends the writer. -/
theorem abort_leaves_nothing {wd : World} {wi : Nat} {w : Writer} {c : Bytes} {rest : List Bytes}
    (hw : wd.writers[wi]? = some w) (hp : w.phase = .writing (c :: rest)) :
    (stepWriter wd wi .fail).fs.lookup (.staging wi) = none ∧
    (∀ key i, (Name.dest key, i) ∈ (stepWriter wd wi .fail).fs.names ↔ (Name.dest key, i) ∈ wd.fs.names) ∧
    (∀ key, readKey (stepWriter wd wi .fail) key = readKey wd key ∨ wd.fs.lookup (.dest key) = some w.inode) ∧
    (stepWriter wd wi .fail).writers[wi]? = some { w with phase := .aborted } := by
  rw [step_abort hw hp]
  refine ⟨?_, ?_, ?_, setWriter_self _ hw⟩
  · rw [lookup_unbind]; simp
  · intro key i
    rw [mem_unbind]; simp
  · intro key
    unfold readKey
    simp only
    rw [lookup_unbind]
    simp only [reduceCtorEq, if_false, unbind_inodes]
    have : Fs.lookup { wd.fs with inodes := setInode wd.fs.inodes w.inode fun n => { n with sealed := true } } (.dest key)
        = wd.fs.lookup (.dest key) := rfl
    rw [this]
    cases hl : wd.fs.lookup (.dest key) with
    | none => left; rfl
    | some i =>
      by_cases e : i = w.inode
      · right; rw [e]
      · left; simp only; rw [setInode_getElem?]; simp [e]

/-- Under the invariant a failed Write changes nothing any reader can see. -/
theorem abort_invisible {wd : World} (h : Inv wd) {wi : Nat} {w : Writer} {c : Bytes} {rest : List Bytes}
    (hw : wd.writers[wi]? = some w) (hp : w.phase = .writing (c :: rest)) (key : Bytes) :
    readKey (stepWriter wd wi .fail) key = readKey wd key := by
  rcases (abort_leaves_nothing hw hp).2.2.1 key with e | e
  · exact e
  · exact absurd (lookupL_mem e) (writing_inode_not_visible h hw hp key)

/-- A destination entry that was not there before the step was created by the Rename step: fate ok, writer in
    phase closed, writing that key, shard directory present; and it refers to the writer's staging inode. -/
theorem no_dest_before_rename {wd : World} {wi : Nat} {f : Fate} {key : Bytes} {i : Nat}
    (hnew : (Name.dest key, i) ∈ (stepWriter wd wi f).fs.names) (hold : (Name.dest key, i) ∉ wd.fs.names) :
    f = .ok ∧ ∃ w, wd.writers[wi]? = some w ∧ w.phase = .closed ∧ w.key = key ∧
      wd.fs.dirs.contains key = true ∧ wd.fs.lookup (.staging wi) = some i := by
  have hstep := stepWriter_step wd wi f
  generalize stepWriter wd wi f = wd' at hnew hstep
  cases hstep with
  | same | dies | write | close | enoent | mkdir => exact absurd hnew hold
  | start =>
    simp only [List.mem_cons, Prod.mk.injEq, reduceCtorEq, false_and, false_or] at hnew
    exact absurd hnew hold
  | abort => rw [mem_unbind] at hnew; exact absurd hnew.1 hold
  | @rename w hw hp hd =>
    cases hl : wd.fs.lookup (.staging wi) with
    | none => rw [renamed, rename_none hl] at hnew; exact absurd hnew hold
    | some j =>
      rw [renamed, rename_of_lookup hl] at hnew
      simp only [List.mem_cons, Prod.mk.injEq, Name.dest.injEq] at hnew
      rcases hnew with ⟨rfl, rfl⟩ | h
      · exact ⟨rfl, w, hw, hp, rfl, hd, rfl⟩
      · rw [mem_unbind, mem_unbind] at h; exact absurd h.1.1 hold

section Examples

/-- two writers of key `[1]` (the same content, chunked differently) and one writer of key `[2]` -/
private abbrev ws0 : List (Bytes × List Bytes) :=
  [([1], [[10, 11], [12]]), ([1], [[10], [11, 12]]), ([2], [[20], [21]])]

/-- writer 0 is killed after its first chunk, writer 2's second Write fails, writer 1 runs to the end
    (Rename fails with ENOENT first, then Mkdir, then Rename) -/
private abbrev schedA₁ : Schedule :=
  [(0, .ok), (1, .ok), (0, .ok), (2, .ok), (1, .ok), (2, .ok), (0, .kill), (2, .fail), (1, .ok), (1, .ok)]
private abbrev schedA₂ : Schedule := [(1, .ok), (1, .ok), (1, .ok)]

/-- both writers of key `[1]` and the writer of key `[2]` finish -/
private abbrev schedB₁ : Schedule :=
  [(0, .ok), (1, .ok), (0, .ok), (0, .ok), (1, .ok), (0, .ok), (0, .ok), (0, .ok), (0, .ok)]
private abbrev schedB₂ : Schedule :=
  [(1, .ok), (1, .ok), (1, .ok), (2, .ok), (2, .ok), (2, .ok), (2, .ok), (2, .ok), (2, .ok), (2, .ok)]

/-- the write-once premise is satisfiable -/
example : WriteOnce (initWorld ws0).writers := by unfold WriteOnce; decide +kernel
example : committed (initWorld ws0) [1] = some [10, 11, 12] := by decide +kernel

/-- A, intermediate: writer 0 dead with a partial staging file, writer 2 aborted, writer 1 closed but not yet
    renamed — no key is readable, nothing partial is visible -/
example : readKey (run (initWorld ws0) schedA₁) [1] = none := by decide +kernel
example : readKey (run (initWorld ws0) schedA₁) [2] = none := by decide +kernel
example : ((run (initWorld ws0) schedA₁).writers.map (·.phase)) = [.dead, .closed, .aborted] := by decide +kernel
example : (run (initWorld ws0) schedA₁).fs.inodes.map (·.content) = [[10, 11], [10, 11, 12], [20]] := by decide +kernel
/-- A, final: key `[1]` reads as the complete block; the key of the failed write stays absent -/
example : readKey (run (initWorld ws0) (schedA₁ ++ schedA₂)) [1] = some [10, 11, 12] := by decide +kernel
example : readKey (run (initWorld ws0) (schedA₁ ++ schedA₂)) [2] = none := by decide +kernel
example : ((run (initWorld ws0) (schedA₁ ++ schedA₂)).writers.map (·.phase)) = [.dead, .done, .aborted] := by decide +kernel
/-- the killed writer's staging file is still there (garbage, but under the staging name only) -/
example : (run (initWorld ws0) (schedA₁ ++ schedA₂)).fs.names = [(.dest [1], 1), (.staging 0, 0)] := by decide +kernel

/-- B, intermediate: writer 0 has renamed into place while writer 1 is in the middle of writing the same key —
    the reader sees writer 0's complete block -/
example : readKey (run (initWorld ws0) schedB₁) [1] = some [10, 11, 12] := by decide +kernel
example : ((run (initWorld ws0) schedB₁).writers.map (·.phase)) = [.done, .writing [[11, 12]], .start] := by decide +kernel
/-- B, final: writer 1's rename replaced the directory entry by its own (equal) block -/
example : readKey (run (initWorld ws0) (schedB₁ ++ schedB₂)) [1] = some [10, 11, 12] := by decide +kernel
example : readKey (run (initWorld ws0) (schedB₁ ++ schedB₂)) [2] = some [20, 21] := by decide +kernel
example : (run (initWorld ws0) (schedB₁ ++ schedB₂)).fs.names = [(.dest [2], 2), (.dest [1], 1)] := by decide +kernel

/-- after the crashes of schedule A a fresh writer of key `[2]` completes (instance of `crash_usable`) -/
example :
    let wd := run (initWorld ws0) (schedA₁ ++ schedA₂)
    readKey (run (addWriter wd [2] [[20], [21]]) (freshSchedule 3 [[20], [21]] false)) [2] = some [20, 21] := by
  decide +kernel

/-- stepping a finished writer with fate kill does change its phase (to dead), though not the file system -/
example : ((stepWriter (run (initWorld ws0) (schedB₁ ++ schedB₂)) 0 .kill).writers.map (·.phase)) = [.dead, .done, .done] := by
  decide +kernel

end Examples

/-! ## (T) the write path as it is in the source on this run -/

/-- Every call on the write path, in source order (pure helpers excluded), is one the writer model `stepWriter`
    accounts for: a random staging name, ONE open, the caller's writes going straight to that file, close, then
    remove (abort) or rename via `move`.  Nothing sits between the caller's `Write` and the staging file, and nothing
    between `Close` and the rename: a write the OS refuses is reported by `Write` itself, and what is renamed is what was
    written.  Any additional call on this path (a buffer to flush, a sync, a copy) breaks this theorem. -/
theorem write_path_src : Ipld.Generated.fsAllCalls_src = [
    ("Store.Put", ["store.PutStream", "wrCommitter", "wr.Write", "wrCommitter", "wrCommitter"]),
    ("Store.PutStream", ["rand.Read", "os.OpenFile", "f.Close", "os.Remove", "store.pathForKey", "move"]),
    ("move", ["os.Rename", "haveDir", "os.Rename", "os.Remove"]),
    ("haveDir", ["os.Mkdir", "haveDir", "os.Mkdir"])] := rfl

/-- The staging file is created exclusively (`O_CREATE|O_EXCL`, write-only, never truncating or appending to an
    existing file): two writers — in one process or several, through one `Store` value or several over the same
    directory — can never share a staging file, which is the freshness of staging names the model's writers assume. -/
theorem staging_open_exclusive_src :
    Ipld.Generated.stagingOpenFlags_src = ["os.O_CREATE", "os.O_EXCL", "os.O_WRONLY"] := rfl

/-- `PutStream` hands out the opened staging file itself as the writer. -/
theorem putStream_writer_is_file_src : Ipld.Generated.putStreamWriter_src = ["the-opened-file"] := rfl

end Ipld.Props.C18

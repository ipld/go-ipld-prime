/-
  C01 for TYPED (schema-bound) nodes, at type level - the builders of the reflection binding and of generated code
  (`Model/TypedAssembler.lean`) and the read side of the nodes they return: whatever a legal sequence of assembler calls
  put in is what the node's read methods return.  For every well-formed type of the fragment (`plain`) and every engine
  whose key assemblers refuse a repeated map key (bindnode; generated code but for `C13/gen-keyAsmDupMapKey`).
-/
import IpldModel.Lemmas.TypedAssemblerPlan
import IpldModel.Lemmas.TypedRead
import IpldModel.Props.C01
import IpldModel.Props.C12typed
namespace Ipld.Props.C01
open Ipld Ipld.Asm Ipld.TAsm
open Ipld.Schema (Ty Fields Field TL TLs TLKVs conforms ofType normalize)

/-! ### (a) the plan of a conforming tree builds its typed node -/

/-- Wherever the current object is a value assembler for a plain type `t` in a slot that is nullable
    iff `nul` (the root builder, a list element, a map value, the value of a struct field), every plan `ops` of a tree `d`
    that conforms to `t` (integers within int64) is accepted call by call and leaves the machine exactly where handing over
    the finished canonical typed value of `d` in one step would leave it. -/
theorem typed_plan_delivers {e : Engine} (he : e.keyAsmDupMapKey = false) {s : TAsm.St} {t : Ty} {nul : Bool}
    (ht : s.tainted = false) (hpos : pos s = .value t nul) (hpl : plain t = true) {d : DM} {ops : List Op}
    (hp : Plan d ops) (hc : (conforms t nul (TL.ofDM d) && int64s d) = true) :
    TAsm.run e s ops = ((TAsm.deliver s (normalize t (TL.ofDM d))).1, List.replicate ops.length .ok) := by
  -- the copy of the tree is accepted and delivers it (`putNode_spec`); every plan ends where the copy ends
  refine TAsm.runs_iff_mach.2 (Mach.plan_runs (TAsm.planCalls he) hp s _ ht ?_)
  rw [← TAsm.putNode_eq, (TAsm.putNode_spec he d s t nul hpos hpl).1 hc]
  exact Prod.ext rfl (deliver_ok_of_pos hpos)

/-- `d` is any data-model tree the ideal whole-value builder of C09 accepts for `ty`
    (`d` conforms: kinds right, null only where nullable, no unknown and no repeated field or key, every required field
    there) and whose integers fit int64; `w` is the node it returns.  Then EVERY plan of `d` - whatever the size hints,
    whichever entries are opened through the key assembler instead of `AssembleEntry`, whichever subtrees are handed over
    with `AssignNode` (all of them: the call sequence of `datamodel.Copy`), struct fields in whatever order `d` lists them -
    is accepted call by call by a fresh typed builder, and `Build` returns exactly `w`. -/
theorem typed_plan_variant_builds {e : Engine} (he : e.keyAsmDupMapKey = false) {ty : Ty} (hwf : ty.wf = true)
    (hpl : plain ty = true) (d : DM) {w : TL} (hof : ofType Schema.Engine.ideal ty d = .ok w)
    (hi : int64s d = true) (ops : List Op) (hp : Plan d ops) :
    ∃ s, TAsm.run e (TAsm.init ty) ops = (s, List.replicate ops.length .ok) ∧ TAsm.build s = some w := by
  obtain ⟨hc, rfl⟩ := TAsm.build_type_ok hwf hof
  exact ⟨_, typed_plan_delivers he (s := TAsm.init ty) (t := ty) (nul := false) rfl rfl hpl hp (by rw [hc, hi]; rfl), rfl⟩

/-- The canonical plan `planOf d` of Props/C01.lean (`plan_builds`: on the generic builder it builds
    `d`) builds, on a fresh typed builder, the typed node of `d`: every call accepted, `Build` returns `w`. -/
theorem typed_plan_builds {e : Engine} (he : e.keyAsmDupMapKey = false) {ty : Ty} (hwf : ty.wf = true)
    (hpl : plain ty = true) (d : DM) {w : TL} (hof : ofType Schema.Engine.ideal ty d = .ok w)
    (hi : int64s d = true) :
    ∃ s, TAsm.run e (TAsm.init ty) (planOf d) = (s, List.replicate (planOf d).length .ok) ∧
      TAsm.build s = some w :=
  typed_plan_variant_builds he hwf hpl d hof hi _ (plan_planOf d)

/-- The converse of `typed_plan_variant_builds`.  If a plan of a tree `d` (no map
    of it carrying a key twice) is accepted call by call by a fresh typed builder and `Build` returns `w`, then `d` conforms
    to the type, its integers fit int64, and `w` is the node the ideal whole-value builder makes of `d`.  So for such trees
    the typed builders accept the plan exactly when C09's ideal builder accepts the tree, and build the same node. -/
theorem typed_plan_accepted_only_if_conforms {e : Engine} (he : e.keyAsmDupMapKey = false) {ty : Ty}
    (hwf : ty.wf = true) (hpl : plain ty = true) (d : DM) (hn : d.NoDup) (ops : List Op) (hp : Plan d ops)
    (hall : ∀ o ∈ (TAsm.run e (TAsm.init ty) ops).2, o = .ok) {w : TL}
    (hb : TAsm.build (TAsm.run e (TAsm.init ty) ops).1 = some w) :
    int64s d = true ∧ ofType Schema.Engine.ideal ty d = .ok w := by
  obtain ⟨d', hd', hi, hof⟩ := (C12.typed_refines_generic he hwf hpl ops hall).2 w hb
  obtain ⟨s, hr, hbs⟩ := plan_variant_builds .any d ops hp hn rfl
  rw [hr] at hd'
  have hdd : d' = d := by
    simp only [hbs, Option.some.injEq] at hd'
    exact hd'.symm
  subst hdd
  exact ⟨hi, hof⟩

/-- the tree `{"b":["x"],"a":5}` (fields out of declaration order) -/
private def exD : DM := .map (.cons [98] (.list (.cons (.str [120]) .nil)) (.cons [97] (.int 5) .nil))

/-- its plan the way `datamodel.Copy` calls it: hints 0, every key through the key assembler -/
private def exCopyOps : List Op :=
  [.beginMap 0, .assembleKey, .assign (.str [98]), .assembleValue, .beginList 0, .assembleValue, .assign (.str [120]),
   .finish, .assembleKey, .assignNode (.str [97]), .assembleValue, .assignNode (.int 5), .finish]

/-- non-vacuity: the hypotheses hold of the example struct and tree, the canonical plan is accepted call by call by both
    engines and builds `{a:5, b:["x"]}` - declaration order -/
example : exStructTy.wf = true ∧ plain exStructTy = true ∧ int64s exD = true ∧
    ofType Schema.Engine.ideal exStructTy exD = .ok exStructBuilt ∧
    (TAsm.run .bindnode (TAsm.init exStructTy) (planOf exD)).2 = List.replicate (planOf exD).length .ok ∧
    TAsm.build (TAsm.run .bindnode (TAsm.init exStructTy) (planOf exD)).1 = some exStructBuilt ∧
    TAsm.build (TAsm.run .gen (TAsm.init exStructTy) (planOf exD)).1 = some exStructBuilt := by decide +kernel

/-- ... and so is the variant `datamodel.Copy` makes -/
example : Plan exD exCopyOps :=
  Plan.map _ _ _ (PlanKVs.keyAssign _ _ _ [.beginList 0, .assembleValue, .assign (.str [120]), .finish] _
    (Plan.list _ _ _ (PlanList.cons _ _ [_] [] (Plan.scalar _ rfl) PlanList.nil))
    (PlanKVs.keyNode _ _ _ [_] [] (Plan.node _) PlanKVs.nil))

example : (TAsm.run .bindnode (TAsm.init exStructTy) exCopyOps).2 = List.replicate exCopyOps.length .ok ∧
    TAsm.build (TAsm.run .bindnode (TAsm.init exStructTy) exCopyOps).1 = some exStructBuilt := by decide +kernel

/-- the hypothesis that `d` conforms is needed: the plan of `{"b":null}` (required field `a` missing) is refused at `Finish` -/
example : (TAsm.run .bindnode (TAsm.init exStructTy) (planOf (.map (.cons [98] .null .nil)))).2
    = [.ok, .ok, .ok, .err .other] := by decide +kernel

/-- the hypothesis on the engine is needed only for `Plan.node` (`AssignNode` of an arbitrary node,
    `typed_assignNode_iff_conforms`); no plan of a CONFORMING tree can show the deviation it excludes (such a tree has no
    repeated key) - generated code, for which it does not hold, builds the same node in the example above -/
example : Engine.gen.keyAsmDupMapKey = true ∧
    (TAsm.run .gen (TAsm.init exStructTy) exCopyOps).2 = List.replicate exCopyOps.length .ok := by decide +kernel

/-! ### (b) what was put in is what the read methods return

  The statements are about the node the ideal whole-value builder returns for `d` at a position
  (`Schema.build Engine.ideal .type ty nul none d = ok w`); by (a) that is the node the typed builder returns for every
  plan of `d`.  The value a lookup returns is again such a node (`build … f.ty f.nullable none v = ok x`), so the
  statements apply at every depth. -/

/-- On a value that holds no `absent` - the typed view of a data-model tree - the read functions of a typed node are the read
    functions of the generic model (`lookup_finds_entry`, `lookupByIndex_list_nat`, `length_map`, … of Props/C01.lean). -/
theorem typed_read_is_generic_read (d : DM) :
    (∀ k, TRead.lookupByString (TL.ofDM d) k = (Asm.lookupByString d k).map TL.ofDM) ∧
    (∀ i, TRead.lookupByIndex (TL.ofDM d) i = (Asm.lookupByIndex d i).map TL.ofDM) ∧
    TRead.length (TL.ofDM d) = Asm.length d :=
  ⟨TRead.lookupByString_ofDM d, TRead.lookupByIndex_ofDM d, TRead.length_ofDM d⟩

/-- `w` is the node built from the map `kvs` at a position of struct type (any representation
    strategy - it plays no part at type level; `nul`: the slot is nullable).  Then
    * `Length` is the number of declared fields and the iterator yields ALL field names, in declaration order - whatever the
      order of the entries of `kvs`, i.e. of the calls;
    * for every entry `(k, v)` given, `k` is a field `f` and `LookupByString(k)` returns `x`, the node built from `v` at the
      field's position (type `f.ty`, nullable iff the field is);
    * a field for which no entry was given is optional and reads `absent`. -/
theorem typed_read_back_struct {F : Fields} {r : Schema.StructRepr} {nul : Bool} (hwf : (Ty.struct F r).wf = true)
    {kvs : DMKVs} {w : TL} (hb : Schema.build Schema.Engine.ideal .type (.struct F r) nul none (.map kvs) = .ok w) :
    TRead.length w = (F.toList.length : Int) ∧
    TRead.keys w = F.toList.map (·.name) ∧
    (∀ k v, (k, v) ∈ kvs.toList → ∃ f x, fieldOf F.toList k = some f ∧
      Schema.build Schema.Engine.ideal .type f.ty f.nullable none v = .ok x ∧ TRead.lookupByString w k = .ok x) ∧
    (∀ f ∈ F.toList, f.name ∉ kvs.keys → f.opt = true ∧ TRead.lookupByString w f.name = .ok .absent) := by
  obtain ⟨hc, rfl⟩ := TAsm.build_type_ok hwf hb
  obtain ⟨h1, h2, h3, h4⟩ := TRead.read_struct hwf hc
  refine ⟨h1, h2, ?_, h4⟩
  intro k v hm
  obtain ⟨f, hf, hfm, hcv, hl⟩ := h3 k v hm
  exact ⟨f, _, hf, TAsm.build_type_of_conforms ((Schema.wf_struct hwf).1 f hfm) hcv, hl⟩

/-- `w` is the node built from the map `kvs` at a position of a typed map.  Then `Length` is the
    number of entries given, the iterator yields the keys in the order given (call order), no key occurs twice, for every
    entry `(k, v)` given `LookupByString(k)` returns the node built from `v` at the value position, and every other key is
    answered not-exists. -/
theorem typed_read_back_map {vty : Ty} {vnul nul : Bool} (hwf : (Ty.map vty vnul).wf = true) {kvs : DMKVs} {w : TL}
    (hb : Schema.build Schema.Engine.ideal .type (.map vty vnul) nul none (.map kvs) = .ok w) :
    TRead.length w = (kvs.toList.length : Int) ∧
    TRead.keys w = kvs.keys ∧ kvs.keys.Nodup ∧
    (∀ k v, (k, v) ∈ kvs.toList → ∃ x,
      Schema.build Schema.Engine.ideal .type vty vnul none v = .ok x ∧ TRead.lookupByString w k = .ok x) ∧
    (∀ k, k ∉ kvs.keys → TRead.lookupByString w k = .error .notExists) := by
  obtain ⟨hc, rfl⟩ := TAsm.build_type_ok hwf hb
  obtain ⟨h1, h2, h3, h4, h5⟩ := TRead.read_map hc
  refine ⟨h1, h2, h3, ?_, h5⟩
  intro k v hm
  obtain ⟨hcv, hl⟩ := h4 k v hm
  exact ⟨_, TAsm.build_type_of_conforms hwf hcv, hl⟩

/-- `w` is the node built from the list `ys` at a position of list type.  Then `Length` is the
    number of elements given and `LookupByIndex(n)` returns the node built from the `n`-th element given (call order) at the
    element position; an index past the end is answered not-exists. -/
theorem typed_read_back_list {ety : Ty} {enul nul : Bool} (hwf : (Ty.list ety enul).wf = true) {ys : DMs} {w : TL}
    (hb : Schema.build Schema.Engine.ideal .type (.list ety enul) nul none (.list ys) = .ok w) :
    TRead.length w = (ys.toList.length : Int) ∧
    (∀ (n : Nat) (h : n < ys.toList.length), ∃ x,
      Schema.build Schema.Engine.ideal .type ety enul none ys.toList[n] = .ok x ∧
      TRead.lookupByIndex w (n : Int) = .ok x) ∧
    (∀ n : Nat, ys.toList.length ≤ n → TRead.lookupByIndex w (n : Int) = .error .notExists) := by
  obtain ⟨hc, rfl⟩ := TAsm.build_type_ok hwf hb
  obtain ⟨h1, _, h3, h4⟩ := TRead.read_list hc
  refine ⟨h1, ?_, ?_⟩
  · intro n hn
    refine ⟨_, TAsm.build_type_of_conforms hwf (h3 _ (List.getElem_mem hn)), ?_⟩
    rw [h4 n, List.getElem?_eq_getElem hn]
  · intro n hn
    rw [h4 n, List.getElem?_eq_none hn]

/-- A scalar (null where the slot is nullable, bool, int, float, string, bytes, link) is read
    back as the value that was assigned. -/
theorem typed_read_back_scalar {ty : Ty} {nul : Bool} (hwf : ty.wf = true) {d : DM} (hs : Asm.isScalar d = true)
    {w : TL} (hb : Schema.build Schema.Engine.ideal .type ty nul none d = .ok w) : w = TL.ofDM d := by
  obtain ⟨_, rfl⟩ := TAsm.build_type_ok hwf hb
  exact normalize_ofDM_scalar hs

/-- non-vacuity of the read-back statements on the struct built above: `b` was given first, the node lists `a` first;
    both lookups return what was given; an optional field never given reads `absent` -/
example : TRead.keys exStructBuilt = [[97], [98]] ∧ TRead.length exStructBuilt = 2 ∧
    TRead.lookupByString exStructBuilt [98] = .ok (.list (.cons (.str [120]) .nil)) ∧
    TRead.lookupByString exStructBuilt [97] = .ok (.int 5) ∧
    TRead.lookupByIndex (.list (.cons (.str [120]) .nil)) 0 = .ok (.str [120]) := by
  refine ⟨rfl, rfl, rfl, rfl, rfl⟩

example : ofType Schema.Engine.ideal exStructTy (.map (.cons [97] (.int 5) .nil))
      = .ok (.map (.cons [97] (.int 5) (.cons [98] .absent .nil))) ∧
    TRead.lookupByString (.map (.cons [97] (.int 5) (.cons [98] .absent .nil))) [98] = .ok .absent := by
  refine ⟨by decide +kernel, rfl⟩

/-- a typed map keeps call order; a key never given is not-exists -/
example : ofType Schema.Engine.ideal exMapTy (.map (.cons [98] (.int 2) (.cons [97] (.int 1) .nil)))
      = .ok (.map (.cons [98] (.int 2) (.cons [97] (.int 1) .nil))) ∧
    TRead.keys (.map (.cons [98] (.int 2) (.cons [97] (.int 1) .nil))) = [[98], [97]] ∧
    TRead.lookupByString (.map (.cons [98] (.int 2) (.cons [97] (.int 1) .nil))) [97] = .ok (.int 1) ∧
    TRead.lookupByString (.map (.cons [98] (.int 2) (.cons [97] (.int 1) .nil))) [99] = .error .notExists := by
  refine ⟨by decide +kernel, rfl, rfl, rfl⟩

/-- (b) for ANY history of calls a fresh struct builder accepts call by call (entries
    in any order, through `AssembleEntry` or the key assembler, subtrees assembled or handed over), not only plans: the same
    calls make the generic builder (basicnode, C01) build a map `kvs` - the entries supplied, in call order - and the typed node
    `w` reads back exactly those entries: all fields in declaration order, each field supplied reading the node built from
    the value supplied for it, each field not supplied optional and reading `absent`. -/
theorem typed_history_read_back_struct {e : Engine} (he : e.keyAsmDupMapKey = false) {F : Fields}
    {r : Schema.StructRepr} (hwf : (Ty.struct F r).wf = true) (hpl : plain (Ty.struct F r) = true) (h : List Op)
    (hall : ∀ o ∈ (TAsm.run e (TAsm.init (.struct F r)) h).2, o = .ok) {w : TL}
    (hb : TAsm.build (TAsm.run e (TAsm.init (.struct F r)) h).1 = some w) :
    ∃ kvs, Asm.build (Asm.run (Asm.init .any) h).1 = some (.map kvs) ∧
      TRead.length w = (F.toList.length : Int) ∧
      TRead.keys w = F.toList.map (·.name) ∧
      (∀ k v, (k, v) ∈ kvs.toList → ∃ f x, fieldOf F.toList k = some f ∧
        Schema.build Schema.Engine.ideal .type f.ty f.nullable none v = .ok x ∧ TRead.lookupByString w k = .ok x) ∧
      (∀ f ∈ F.toList, f.name ∉ kvs.keys → f.opt = true ∧ TRead.lookupByString w f.name = .ok .absent) := by
  obtain ⟨d, hd, _, hof⟩ := (C12.typed_refines_generic he hwf hpl h hall).2 w hb
  obtain ⟨hc, _⟩ := TAsm.build_type_ok hwf hof
  cases d with
  | map kvs => exact ⟨kvs, hd, typed_read_back_struct hwf hof⟩
  | _ => simp [conforms, TL.ofDM] at hc

/-- The same for a typed map: the node reads back the entries supplied, in call order. -/
theorem typed_history_read_back_map {e : Engine} (he : e.keyAsmDupMapKey = false) {vty : Ty} {vnul : Bool}
    (hwf : (Ty.map vty vnul).wf = true) (hpl : plain (Ty.map vty vnul) = true) (h : List Op)
    (hall : ∀ o ∈ (TAsm.run e (TAsm.init (.map vty vnul)) h).2, o = .ok) {w : TL}
    (hb : TAsm.build (TAsm.run e (TAsm.init (.map vty vnul)) h).1 = some w) :
    ∃ kvs, Asm.build (Asm.run (Asm.init .any) h).1 = some (.map kvs) ∧
      TRead.length w = (kvs.toList.length : Int) ∧
      TRead.keys w = kvs.keys ∧ kvs.keys.Nodup ∧
      (∀ k v, (k, v) ∈ kvs.toList → ∃ x,
        Schema.build Schema.Engine.ideal .type vty vnul none v = .ok x ∧ TRead.lookupByString w k = .ok x) ∧
      (∀ k, k ∉ kvs.keys → TRead.lookupByString w k = .error .notExists) := by
  obtain ⟨d, hd, _, hof⟩ := (C12.typed_refines_generic he hwf hpl h hall).2 w hb
  obtain ⟨hc, _⟩ := TAsm.build_type_ok hwf hof
  cases d with
  | map kvs => exact ⟨kvs, hd, typed_read_back_map hwf hof⟩
  | _ => simp [conforms, TL.ofDM] at hc

theorem typed_history_read_back_list {e : Engine} (he : e.keyAsmDupMapKey = false) {ety : Ty} {enul : Bool}
    (hwf : (Ty.list ety enul).wf = true) (hpl : plain (Ty.list ety enul) = true) (h : List Op)
    (hall : ∀ o ∈ (TAsm.run e (TAsm.init (.list ety enul)) h).2, o = .ok) {w : TL}
    (hb : TAsm.build (TAsm.run e (TAsm.init (.list ety enul)) h).1 = some w) :
    ∃ ys, Asm.build (Asm.run (Asm.init .any) h).1 = some (.list ys) ∧
      TRead.length w = (ys.toList.length : Int) ∧
      (∀ (n : Nat) (h : n < ys.toList.length), ∃ x,
        Schema.build Schema.Engine.ideal .type ety enul none ys.toList[n] = .ok x ∧
        TRead.lookupByIndex w (n : Int) = .ok x) ∧
      (∀ n : Nat, ys.toList.length ≤ n → TRead.lookupByIndex w (n : Int) = .error .notExists) := by
  obtain ⟨d, hd, _, hof⟩ := (C12.typed_refines_generic he hwf hpl h hall).2 w hb
  obtain ⟨hc, _⟩ := TAsm.build_type_ok hwf hof
  cases d with
  | list ys => exact ⟨ys, hd, typed_read_back_list hwf hof⟩
  | _ => simp [conforms, TL.ofDM] at hc

/-- the hypotheses of the history form are satisfiable: the struct history of C12 with its refused calls erased -/
example :
    let h := TAsm.erase .bindnode (TAsm.init exStructTy) exStructHistory
    (∀ o ∈ (TAsm.run .bindnode (TAsm.init exStructTy) h).2, o = .ok) ∧
    TAsm.build (TAsm.run .bindnode (TAsm.init exStructTy) h).1 = some exStructBuilt ∧
    Asm.build (Asm.run (Asm.init .any) h).1 = some exD := by decide +kernel

/-! ### (c) copying a typed node through the generic interfaces is the identity -/

/- The full statement: for every node `w` a typed builder returns, feeding a fresh typed builder of the same type the calls
   `datamodel.Copy(w, builder)` makes - `w` read through its iterators, the entries that read `absent` skipped (copy.go) -
   builds `w` again:  `ofType Engine.ideal ty (strip w) = ok w`, `strip` dropping the absent entries.
   Proved below for the nodes in which no optional field is unset (`w.toDM? = some d`: then what the iterators yield is the
   tree `d` itself); the general case needs the inverse of `Schema.normalize` on canonical struct values and is left open. -/

/-- `w` is a node some history of calls built on a fresh typed builder, no optional field
    of it unset, so that read through the node interface it is the data-model tree `d`; its integers fit int64 (they do for
    every built node - the typed builders refuse others - but the invariant of the machine does not record it, hence the
    hypothesis).  Then the ideal whole-value builder makes `w` of `d`, and every plan of `d` - in particular the calls
    `datamodel.Copy` makes, and the single call `AssignNode(w)` - run on a fresh typed builder of the same type is accepted
    call by call and `Build` returns `w` again. -/
theorem typed_round_trip_partial {e : Engine} (he : e.keyAsmDupMapKey = false) {ty : Ty} (hwf : ty.wf = true)
    (hpl : plain ty = true) (h : List Op) {w : TL} (hb : TAsm.build (TAsm.run e (TAsm.init ty) h).1 = some w)
    {d : DM} (hd : w.toDM? = some d) (hi : int64s d = true) :
    ofType Schema.Engine.ideal ty d = .ok w ∧
    ∀ ops, Plan d ops →
      ∃ s, TAsm.run e (TAsm.init ty) ops = (s, List.replicate ops.length .ok) ∧ TAsm.build s = some w := by
  have hof := C12.typed_built_is_ideal_build he hwf hpl h hb d (Schema.ofDM_of_toDM hd)
  exact ⟨hof, fun ops hp => typed_plan_variant_builds he hwf hpl d hof hi ops hp⟩

/-- non-vacuity: the struct built by the history of C12, copied -/
example : exStructBuilt.toDM? = some (.map (.cons [97] (.int 5) (.cons [98] (.list (.cons (.str [120]) .nil)) .nil))) ∧
    TAsm.build (TAsm.run .bindnode (TAsm.init exStructTy)
      [.assignNode (.map (.cons [97] (.int 5) (.cons [98] (.list (.cons (.str [120]) .nil)) .nil)))]).1
      = some exStructBuilt := by decide +kernel

end Ipld.Props.C01

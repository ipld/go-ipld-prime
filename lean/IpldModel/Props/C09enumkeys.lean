/-
  C09 (schema conformance), typed maps keyed by a string-represented enum: the builder of each level accepts exactly
  the call sequences whose keys are keys OF THAT LEVEL (member names at type level, representation strings at
  representation level) without a repeat; what it builds is a valid value; the views build back.  Model:
  Model/EnumKeyMap.lean (node/bindnode `_mapAssembler`, the enum cases of `_assembler` / `_assemblerRepr.AssignString`).
-/
import IpldModel.Lemmas.EnumKeyMap
namespace Ipld.Props.C09
open Ipld Ipld.EnumKey

/-- **Type level: accepted ⇔ every key is a member name and no key repeats** (any enum type, no hypothesis). -/
theorem enumkey_buildType_accepts_iff (e : EnumTy) (input : List (Bytes × Int)) :
    (buildType e input).isSome = true ↔ (∀ k, k ∈ keys input → k ∈ names e) ∧ (keys input).Nodup := by
  rw [buildType, build_isSome_iff .type e (resolve_type_inj e)]
  simp only [resolve_type_isSome_iff]

/-- ... and what is accepted is stored as given. -/
theorem enumkey_buildType_result (e : EnumTy) (input : List (Bytes × Int)) (m : EMap)
    (h : buildType e input = some m) : m = input :=
  resolveAll_type (build_eq_some_iff.1 h).1

/-- **Representation level: accepted ⇔ every key is some member's representation string and no key repeats.**
    The hypothesis is the first half of `wf` (distinct member names, which `schema.SpawnTypeSystem` enforces). -/
theorem enumkey_buildRepr_accepts_iff (e : EnumTy) (hn : (names e).Nodup) (input : List (Bytes × Int)) :
    (buildRepr e input).isSome = true ↔ (∀ k, k ∈ keys input → k ∈ reprs e) ∧ (keys input).Nodup := by
  rw [buildRepr, build_isSome_iff .repr e (memberOfRepr_inj hn)]
  simp only [resolve, memberOfRepr_isSome_iff]

/-- Why the hypothesis: `enum { A ("x"), A ("y") }` (a repeated NAME) has the distinct representation strings `x`, `y`
    denote one member, so the second is a repeated key. -/
example :
    let e : EnumTy := [([65], [120]), ([65], [121])]
    ¬ (names e).Nodup ∧ (keys [([120], 1), ([121], 2)]).Nodup ∧ (∀ k, k ∈ keys [([120], (1 : Int)), ([121], 2)] → k ∈ reprs e) ∧
      buildRepr e [([120], 1), ([121], 2)] = none := by decide +kernel

/-- **What is built is a valid value** (distinct keys, each a member name), at either level, for any enum type. -/
theorem enumkey_built_keys_valid (lvl : Level) (e : EnumTy) (input : List (Bytes × Int)) (m : EMap)
    (h : build lvl e input = some m) : (keys m).Nodup ∧ ∀ k, k ∈ keys m → k ∈ names e :=
  build_valid h

/-- **The views build back**: supplying the representation view of a valid value to the representation builder, or
    its type-level view to the type-level builder, reconstructs the value.  Only distinct representation strings are
    needed (second half of `wf`), and only at representation level. -/
theorem enumkey_repr_build_of_view (e : EnumTy) (hr : (reprs e).Nodup) (m : EMap) (hv : valid e m) :
    buildRepr e (viewRepr e m) = some m ∧ buildType e (viewType m) = some m :=
  ⟨build_eq_some_iff.2 ⟨resolveAll_repr_of_valid hr hv.2, hv.1⟩,
   build_eq_some_iff.2 ⟨resolveAll_type_of_valid hv.2, hv.1⟩⟩

/-- Why the hypothesis: with one representation string for two members the representation view of `{B: 1}` builds
    back as `{A: 1}`. -/
example :
    let e : EnumTy := [([65], [120]), ([66], [120])]
    (names e).Nodup ∧ ¬ (reprs e).Nodup ∧ valid e [([66], 1)] ∧
      buildRepr e (viewRepr e [([66], 1)]) = some [([65], 1)] := by decide +kernel

/-- **A refused call has no effect** on what was assembled so far (the key is checked before `Keys`/`Values` are
    touched); an accepted call appends exactly one entry. -/
theorem enumkey_reject_no_effect (lvl : Level) (e : EnumTy) (st : EMap) (kv : Bytes × Int) :
    ((step lvl e st kv).2 = false → (step lvl e st kv).1 = st) ∧
    ((step lvl e st kv).2 = true → ∃ n, resolve lvl e kv.1 = some n ∧ n ∉ keys st ∧ (step lvl e st kv).1 = st ++ [(n, kv.2)]) := by
  simp only [step]
  cases resolve lvl e kv.1 with
  | none => simp
  | some n => by_cases hin : n ∈ keys st <;> simp [hin]

/-! ### Non-vacuity: `enum E { Yes ("y"), No, Maybe ("Yes") }` — `Maybe` is renamed to another member's NAME. -/

/-- members Yes→"y", No→"No", Maybe→"Yes" -/
def exKeyEnum : EnumTy := [([89, 101, 115], [121]), ([78, 111], [78, 111]), ([77, 97, 121, 98, 101], [89, 101, 115])]

example : wf exKeyEnum := by decide +kernel

/-- type level: `{"Yes": 1, "Maybe": 2}` is accepted as given ... -/
example : buildType exKeyEnum [([89, 101, 115], 1), ([77, 97, 121, 98, 101], 2)]
    = some [([89, 101, 115], 1), ([77, 97, 121, 98, 101], 2)] := by decide +kernel
/-- ... its representation view spells the keys `y`, `Yes` ... -/
example : viewRepr exKeyEnum [([89, 101, 115], 1), ([77, 97, 121, 98, 101], 2)]
    = [([121], 1), ([89, 101, 115], 2)] := by decide +kernel
/-- ... and at representation level `Yes` means the member `Maybe`: `{"Yes": 1, "y": 2}` builds `{Maybe: 1, Yes: 2}`. -/
example : buildRepr exKeyEnum [([89, 101, 115], 1), ([121], 2)]
    = some [([77, 97, 121, 98, 101], 1), ([89, 101, 115], 2)] := by decide +kernel
/-- refused: a representation string at type level, a renamed member's name at representation level, a repeat. -/
example : buildType exKeyEnum [([121], 1)] = none := by decide +kernel
example : buildRepr exKeyEnum [([77, 97, 121, 98, 101], 1)] = none := by decide +kernel
example : buildType exKeyEnum [([78, 111], 1), ([78, 111], 2)] = none := by decide +kernel
example : buildRepr exKeyEnum [([121], 1), ([78, 111], 2), ([121], 3)] = none := by decide +kernel
/-- a refused step leaves the state, an accepted one appends -/
example : step .repr exKeyEnum [([78, 111], 1)] ([78, 111], 2) = ([([78, 111], 1)], false) := by decide +kernel
example : step .repr exKeyEnum [([78, 111], 1)] ([89, 101, 115], 2) = ([([78, 111], 1), ([77, 97, 121, 98, 101], 2)], true) := by decide +kernel

end Ipld.Props.C09

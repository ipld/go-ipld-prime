/-
  C04 — DAG-JSON: the decoder's fixed token window is sound, marshal/unmarshal round-trips on the
  expressible values, marshalling is order-independent, and the text terminals (strings, base64,
  integers) round-trip.  See DESIGN §13.3 C04.
-/
import IpldModel.Lemmas.JsonWin
import IpldModel.Lemmas.JsonRound
import IpldModel.Lemmas.JsonBounds
import IpldModel.Lemmas.JsonEmit
import IpldModel.Lemmas.JsonText
import IpldModel.Lemmas.JsonInt
namespace Ipld.Props.C04
open Ipld Ipld.Json Ipld.Spec

/-- The decoder's fixed 7-slot token window (the mechanism: `step`, `ensure`, the two lookaheads, the list
    loop that reads the source directly, the window dropped after a recognised form) computes, on every
    token stream and under every option set, exactly what plain recursive descent over the token list
    computes (the meaning) — same value or same error.  So the window never over- or under-consumes, and
    neither of its `unreachable` branches changes a result. -/
theorem lookahead_total (cfg : DecCfg) (toks : List JTok) :
    decodeToksWin cfg toks = decodeToks cfg toks :=
  decodeToksWin_eq cfg toks

/-- The same, one value at a time and in the middle of a stream: started on token `cur` with window
    contents `w.buf` that are `safe` (an `arrOpen` only in the last slot; a `mapOpen` that is not last is
    followed by something other than `"/"`, or by the last slot) and at most 6 long, the mechanism and the
    meaning agree on the value (or the error), on what is left of the stream, and the window afterwards
    is empty or a suffix of what it was with the source untouched. -/
theorem window_agrees (cfg : DecCfg) (fuel depth : Nat) (cur : JTok) (w : Win)
    (hs : safe (cur :: w.buf) = true) (hl : w.buf.length ≤ 6) :
    RelG w (Win.un cfg fuel depth cur w) (unTok cfg fuel depth (cur :: (w.buf ++ w.src))) :=
  un_rel cfg fuel depth cur w hs hl

/-- Decoding what the marshaller writes, mid-stream: for a value that is expressible (no map of a
    reserved shape), has no repeated keys, stays in the JSON domain (int64, finite floats, valid CIDs) and
    whose links survive the CID text codec, the marshaller succeeds and the decoder — with links and
    bytes parsing on, at any nesting `depth` that leaves room for the value, followed by any `rest` —
    reads back exactly the value with every map in bytewise key order, and leaves `rest`. -/
theorem tok_roundtrip_rest (cfg : DecCfg) (hl : cfg.parseLinks = true) (hb : cfg.parseBytes = true)
    (v : DM) (he : Expressible v) (hn : v.NoDup) (hd : JsonDomain v) (hc : CidTextOK v) :
    ∃ ts, marshalTok dagjsonEnc v = some ts ∧
      ∀ (depth fuel : Nat) (rest : List JTok), jsonDepth v + depth ≤ cfg.maxDepth → v.depth < fuel →
        unTok cfg fuel depth (ts ++ rest) = .ok (canonLex v, rest) := by
  refine ⟨_, marshalTok_eq v hd hn, ?_⟩
  intro depth fuel rest h1 h2
  obtain ⟨fuel, rfl⟩ := Nat.exists_eq_add_one.mpr (Nat.zero_lt_of_lt h2)
  exact unTok_ordToks cfg hl hb (canonLex v) (canonLex_Expressible v he) (canonLex_NoDup v hn)
    ((canonLex_CidTextOK v).mpr hc) depth fuel rest (by rw [canonLex_jsonDepth]; exact h1)
    (by rw [canonLex_depth]; exact Nat.le_of_lt_succ h2)

/-- Whole-document round trip: marshal, then decode (meaning decoder), gives the lexically canonical
    form of the value.  The depth hypothesis counts bytes and links as one level (`jsonDepth`), because
    they are written as maps and the decoder checks its depth limit before it recognises them. -/
theorem tok_roundtrip (cfg : DecCfg) (hl : cfg.parseLinks = true) (hb : cfg.parseBytes = true)
    (v : DM) (he : Expressible v) (hn : v.NoDup) (hd : JsonDomain v) (hc : CidTextOK v)
    (hdep : jsonDepth v ≤ cfg.maxDepth) :
    (marshalTok dagjsonEnc v).bind (fun ts => (decodeToks cfg ts).toOption) = some (canonLex v) := by
  rw [marshalTok_eq v hd hn]
  have := decodeToks_ordToks cfg hl hb (canonLex v) (canonLex_Expressible v he) (canonLex_NoDup v hn)
    ((canonLex_CidTextOK v).mpr hc) (by rw [canonLex_jsonDepth]; exact hdep)
  simp [this, Except.toOption]

/-- …and the same through the code's token window (by `lookahead_total`), for the registered codec's
    options. -/
theorem tok_roundtrip_win (v : DM) (he : Expressible v) (hn : v.NoDup) (hd : JsonDomain v)
    (hc : CidTextOK v) (hdep : jsonDepth v ≤ 1024) :
    (marshalTok dagjsonEnc v).bind (fun ts => (decodeToksWin dagjsonDec ts).toOption) = some (canonLex v) := by
  simp only [lookahead_total]
  exact tok_roundtrip dagjsonDec rfl rfl v he hn hd hc hdep

/-- In terms of the data-model depth: strictly below the limit is enough. -/
theorem tok_roundtrip_depth (cfg : DecCfg) (hl : cfg.parseLinks = true) (hb : cfg.parseBytes = true)
    (v : DM) (he : Expressible v) (hn : v.NoDup) (hd : JsonDomain v) (hc : CidTextOK v)
    (hdep : v.depth < cfg.maxDepth) :
    (marshalTok dagjsonEnc v).bind (fun ts => (decodeToks cfg ts).toOption) = some (canonLex v) :=
  tok_roundtrip cfg hl hb v he hn hd hc (by have := jsonDepth_le v; omega)

/-- `v.depth ≤ maxDepth` is not enough: `[bytes]` has data-model depth 1, but its bytes are a map one
    level further down for the decoder, which then refuses it with limit 1. -/
example :
    let v : DM := .list (.cons (.bytes []) .nil)
    let cfg : DecCfg := { maxDepth := 1 }
    v.depth ≤ cfg.maxDepth ∧ Expressible v ∧ v.NoDup ∧ JsonDomain v ∧ CidTextOK v ∧
    (marshalTok dagjsonEnc v).bind (fun ts => (decodeToks cfg ts).toOption) = none := by
  refine ⟨by decide, ?_, ?_, ?_, ?_, by decide⟩ <;>
    simp [Expressible, ExpressibleList, DM.NoDup, DMs.NoDup, JsonDomain, JsonDomainList, CidTextOK, CidTextOKList]

/-- Order independence at every depth: two values (no repeated keys) with the same lexically canonical
    form marshal to the same token stream — or both fail to marshal. -/
theorem marshalTok_perm (v v' : DM) (h : v.NoDup) (h' : v'.NoDup) (e : canonLex v = canonLex v') :
    marshalTok dagjsonEnc v = marshalTok dagjsonEnc v' := by
  by_cases hd : JsonDomain v
  · have hd' : JsonDomain v' := (canonLex_JsonDomain v').mp (e ▸ (canonLex_JsonDomain v).mpr hd)
    rw [marshalTok_eq v hd h, marshalTok_eq v' hd' h', e]
  · have hd' : ¬ JsonDomain v' := fun x => hd ((canonLex_JsonDomain v).mp (e ▸ (canonLex_JsonDomain v').mpr x))
    rw [marshalTok_none v hd, marshalTok_none v' hd']

/-- …and permuting the entries of a map (distinct keys) does not change its canonical form, so
    `marshalTok_perm` applies to every permutation at every depth (`canonLex` being compositional). -/
theorem canonLex_perm_top (es es' : DMKVs) (nd : es.keys.Nodup) (p : es.toList.Perm es'.toList) :
    canonLex (.map es) = canonLex (.map es') :=
  Cbor.canonJson.perm_top nd p

/-- What the marshaller writes is the token stream of the canonical form, in order: keys bytewise sorted
    at every level. -/
theorem marshalTok_canonical (v : DM) (hd : JsonDomain v) (hn : v.NoDup) :
    marshalTok dagjsonEnc v = some (ordToks (canonLex v)) :=
  marshalTok_eq v hd hn

/-- The bytes refmt writes between the quotes for a valid UTF-8 string, read back by refmt's
    `parseString`, are the string.  (Invalid UTF-8 does not round-trip: each bad byte becomes U+FFFD.) -/
theorem string_roundtrip (s : Bytes) (h : isValidUtf8 s = true) :
    parseString (emitStringBody (s.length + 1) s) = s :=
  parseString_emitStringBody s h

/-- `emitString` is that body between two quotes. -/
theorem emitString_body (s : Bytes) : emitString s = 0x22 :: (emitStringBody (s.length + 1) s ++ [0x22]) := rfl

/-- The hypothesis is needed: the lone byte 0xFF comes back as U+FFFD. -/
example : isValidUtf8 [0xff] = false ∧ parseString (emitStringBody 2 [0xff]) = [0xef, 0xbf, 0xbd] := by
  decide

/-- Unpadded standard base64 round-trips on every byte string… -/
theorem base64_roundtrip (b : Bytes) : unbase64Raw (base64Raw b) = some b :=
  unbase64Raw_base64Raw b

/-- …and so does the decoder's two-step attempt (unpadded first, padded as the fallback). -/
theorem base64_roundtrip_dec (b : Bytes) : decodeB64 (base64Raw b) = some b :=
  decodeB64_base64Raw b

/-- Decimal integers round-trip for every integer. -/
theorem int_roundtrip (i : Int) : parseInt (emitInt i) = some i :=
  parseInt_emitInt i

/-- Whatever the marshaller hands over (any options), the JSON encoder's state machine accepts, under
    any layout, provided the float formatter is defined on every float token in the stream. -/
theorem emit_total (cfg : EncCfg) (lay : Layout) (fmtF : UInt64 → Option Bytes) (v : DM) (ts : List JTok)
    (h : marshalTok cfg v = some ts) (hf : ∀ f, JTok.float f ∈ ts → (fmtF f).isSome = true) :
    (emitToks lay fmtF ts).isSome = true :=
  emitToks_VTok lay fmtF (marshalTok_VTok fmtF cfg v ts h hf)

/-- Those float tokens are exactly finite floats, so a formatter defined on the finite floats is enough:
    encoding fails only where marshalling does. -/
theorem emit_total_finite (cfg : EncCfg) (lay : Layout) (fmtF : UInt64 → Option Bytes)
    (hF : ∀ f, finiteBits f = true → (fmtF f).isSome = true) (v : DM) :
    (encodeJson cfg lay fmtF v).isSome = (marshalTok cfg v).isSome := by
  unfold encodeJson
  cases h : marshalTok cfg v with
  | none => rfl
  | some ts =>
    simp only [Option.bind_some, Option.isSome_some]
    exact emit_total cfg lay fmtF v ts h (fun f hm => hF f (marshalTok_floats cfg v ts h f hm))

/-! ## Non-vacuity: a concrete value

  `{"b": bytes 01 02 03, "a": <link>, "m": {"/": "x", "k": 1}, "l": [true, null]}` in that (non-canonical)
  entry order; the nested map starts with key `"/"` and a string value but has two entries, so it is not a
  link. -/

def exCid : Bytes := [0x01, 0x55, 0x00, 0x00]     -- CIDv1, raw, identity multihash of the empty string

def ex : DM :=
  .map (.cons [0x62] (.bytes [1, 2, 3])
       (.cons [0x61] (.link exCid)
       (.cons [0x6d] (.map (.cons slash (.str [0x78]) (.cons [0x6b] (.int 1) .nil)))
       (.cons [0x6c] (.list (.cons (.bool true) (.cons .null .nil))) .nil))))

def ex' : DM :=
  .map (.cons [0x61] (.link exCid)
       (.cons [0x62] (.bytes [1, 2, 3])
       (.cons [0x6c] (.list (.cons (.bool true) (.cons .null .nil)))
       (.cons [0x6d] (.map (.cons slash (.str [0x78]) (.cons [0x6b] (.int 1) .nil))) .nil))))

def exToks : List JTok :=
  [.mapOpen,
   .str [0x61], .mapOpen, .str slash, .str [98, 97, 102, 107, 113, 97, 97, 97], .mapClose,
   .str [0x62], .mapOpen, .str slash, .mapOpen, .str bytesWord, .str [65, 81, 73, 68], .mapClose, .mapClose,
   .str [0x6c], .arrOpen, .bool true, .null, .arrClose,
   .str [0x6d], .mapOpen, .str slash, .str [0x78], .str [0x6b], .int 1, .mapClose,
   .mapClose]

theorem ex_nodup : ex.NoDup := by
  simp [ex, DM.NoDup, DMKVs.NoDupVals, DMKVs.keys, DMKVs.toList, DMs.NoDup, slash]
theorem ex_expressible : Expressible ex := by
  simp [ex, Expressible, ExpressibleKVs, ExpressibleList, Reserved]
theorem ex_domain : JsonDomain ex := by
  simp [ex, JsonDomain, JsonDomainKVs, JsonDomainList]
  decide
theorem ex_cid : CidTextOK ex := by
  simp only [ex, CidTextOK, CidTextOKKVs, CidTextOKList, and_self, and_true, true_and]
  decide +kernel

theorem ex_marshal : marshalTok dagjsonEnc ex = some exToks := by
  rw [marshalTok_canonical ex ex_domain ex_nodup]
  decide +kernel
theorem ex_emit : emitToks compact (fun _ => none) exToks = some
    [123, 34, 97, 34, 58, 123, 34, 47, 34, 58, 34, 98, 97, 102, 107, 113, 97, 97, 97, 34, 125, 44, 34, 98, 34, 58, 123,
     34, 47, 34, 58, 123, 34, 98, 121, 116, 101, 115, 34, 58, 34, 65, 81, 73, 68, 34, 125, 125, 44, 34, 108, 34, 58, 91,
     116, 114, 117, 101, 44, 110, 117, 108, 108, 93, 44, 34, 109, 34, 58, 123, 34, 47, 34, 58, 34, 120, 34, 44, 34, 107, 34,
     58, 49, 125, 125] := by
  decide +kernel

example : ex.NoDup ∧ Expressible ex ∧ JsonDomain ex ∧ CidTextOK ex ∧ jsonDepth ex ≤ dagjsonDec.maxDepth :=
  ⟨ex_nodup, ex_expressible, ex_domain, ex_cid, by decide⟩
example : canonLex ex = ex' := by decide +kernel
example : marshalTok dagjsonEnc ex = some exToks := ex_marshal
example : decodeToks dagjsonDec exToks = .ok ex' := eq_ok_of_toOption (by decide +kernel)
example : decodeToksWin dagjsonDec exToks = .ok ex' := eq_ok_of_toOption (by decide +kernel)
example : (marshalTok dagjsonEnc ex).bind (fun ts => (decodeToks dagjsonDec ts).toOption) = some ex' := by
  rw [tok_roundtrip dagjsonDec rfl rfl ex ex_expressible ex_nodup ex_domain ex_cid (by decide)]; decide +kernel
example : marshalTok dagjsonEnc ex = marshalTok dagjsonEnc ex' :=
  have e : canonLex ex = ex' := by decide +kernel
  marshalTok_perm ex ex' ex_nodup (e ▸ canonLex_NoDup ex ex_nodup) (by decide +kernel)
/-- the compact JSON text of the example (no floats in it, so any formatter does):
    `{"a":{"/":"bafkqaaa"},"b":{"/":{"bytes":"AQID"}},"l":[true,null],"m":{"/":"x","k":1}}` -/
example : emitToks compact (fun _ => none) exToks = some
    [123, 34, 97, 34, 58, 123, 34, 47, 34, 58, 34, 98, 97, 102, 107, 113, 97, 97, 97, 34, 125, 44, 34, 98, 34, 58, 123,
     34, 47, 34, 58, 123, 34, 98, 121, 116, 101, 115, 34, 58, 34, 65, 81, 73, 68, 34, 125, 125, 44, 34, 108, 34, 58, 91,
     116, 114, 117, 101, 44, 110, 117, 108, 108, 93, 44, 34, 109, 34, 58, 123, 34, 47, 34, 58, 34, 120, 34, 44, 34, 107, 34,
     58, 49, 125, 125] := ex_emit
/-- a one-entry map `{"/": "x"}` is not expressible: it reads back as a link (here: a CID error) -/
example : ¬ Expressible (.map (.cons slash (.str [0x78]) .nil)) := by
  simp [Expressible, Reserved]
example :
    let m : DM := .map (.cons slash (.str [0x78]) .nil)
    marshalTok dagjsonEnc m = some (ordToks m) ∧ decodeToks dagjsonDec (ordToks m) = .error .badCid := by
  refine ⟨?_, by rfl⟩
  exact marshalTok_canonical _ (by simp [JsonDomain, JsonDomainKVs])
    (by simp [DM.NoDup, DMKVs.NoDupVals, DMKVs.keys, DMKVs.toList])
/-- string, base64 and integer terminals on concrete inputs -/
example : emitStringBody 6 [0x61, 0x22, 0x0a, 0xc3, 0xa9] = [0x61, 0x5c, 0x22, 0x5c, 0x6e, 0xc3, 0xa9]
    ∧ isValidUtf8 [0x61, 0x22, 0x0a, 0xc3, 0xa9] = true := by decide
example : base64Raw [1, 2, 3, 4] = [65, 81, 73, 68, 66, 65] ∧ emitInt (-120) = [0x2d, 0x31, 0x32, 0x30] := by decide

end Ipld.Props.C04

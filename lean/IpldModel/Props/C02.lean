/-
  C02 — DAG-CBOR encoding is canonical, order-independent, and round-trips.
-/
import IpldModel.Lemmas.CborCanon
import IpldModel.Lemmas.CborMarshalSrc
namespace Ipld.Props.C02
open Ipld Ipld.Cbor Ipld.Generated

/-- (T) The `uintLength` regenerated from `codec/dagcbor/marshal.go` equals, on all of uint64, the
    number of bytes of the head the encoder actually emits (refmt `emitMajorPlusLen`). -/
theorem uintLength_src_is_head_length (m : Nat) (ii : Int) (h0 : 0 ≤ ii) (h1 : ii < 18446744073709551616) :
    uintLength_src ii = ((head m ii.toNat).length : Int) := by
  have _ := h1 -- not needed: from 2^32 on both sides are 9
  rw [uintLength_src_eq ii h0, head_length]

/-- (T) The comparator regenerated from `marshalMap` (RFC 7049 mode, the registered codec's mode) is the
    strict part of the DAG-CBOR key order of the Spec: length first, then bytewise. -/
theorem comparator_src_is_canonical_order (a b : Bytes) :
    cborLess_src_MapSortMode_RFC7049 a b = !Spec.keyLE b a := by
  rw [cborLess_src_rfc7049_eq, spec_keyLE_eq]

/-- (T) and the lexical comparator is the strict bytewise order. -/
theorem comparator_src_lexical (a b : Bytes) :
    cborLess_src_MapSortMode_Lexical a b = !Spec.bytewiseLE b a := by
  rw [cborLess_src_lexical_eq, spec_bytewiseLE_eq]

/-- The encoder writes exactly the canonical DAG-CBOR of the Spec (shortest heads, f64 only, definite
    lengths, keys by length then bytes, tag 42 over 0x00‖CID), for every value without repeated keys. -/
theorem encode_eq_canon (d : DM) (h : d.NoDup) (he : encodable dagcborEnc d = true) :
    encode dagcborEnc d = some (Spec.canonEncode d) := by
  simp [encode, he, enc_eq_canon d h]

/-- Order independence, top level: any permutation of the entries of a map (distinct keys) encodes to
    the same bytes, under either sorting mode. -/
theorem encode_perm_top (cfg : EncCfg) (hs : cfg.sort ≠ .none) (es es' : DMKVs)
    (nd : es.keys.Nodup) (p : es.toList.Perm es'.toList) :
    enc cfg (.map es) = enc cfg (.map es') := by
  simp only [enc]
  have hl : es.length = es'.length := p.length_eq
  rw [hl]
  congr 2
  apply sortPairs_perm_invariant cfg.sort hs
  · rw [encKVs_keys]; exact nd
  · rw [encKVs_eq_map, encKVs_eq_map]; exact p.map _

/-- Order independence at any depth: two values with the same canonical form encode identically. -/
theorem encode_perm (d d' : DM) (h : d.NoDup) (h' : d'.NoDup) (e : Spec.canon d = Spec.canon d') :
    enc dagcborEnc d = enc dagcborEnc d' := by
  rw [enc_eq_canon d h, enc_eq_canon d' h', Spec.canonEncode, Spec.canonEncode, e]

/-- …and permuting the entries of a map does not change its canonical form (so `encode_perm` applies to
    every permutation at every depth, `Spec.canon` being compositional). -/
theorem canon_perm_top (es es' : DMKVs) (nd : es.keys.Nodup) (p : es.toList.Perm es'.toList) :
    Spec.canon (.map es) = Spec.canon (.map es') :=
  canonCbor.perm_top nd p

/-- `EncodedLength` predicts exactly the number of bytes produced (any sorting mode). -/
theorem encodedLength_eq (cfg : EncCfg) (d : DM) : (enc cfg d).length = encodedLength d :=
  enc_length cfg d

/-- Round trip (third clause of the property): decoding what the encoder wrote yields the same value with map
    entries in canonical order, for every value without repeated keys, with finite floats and defined links,
    that fits the decoder's configured limits (depth, budget, 32 MiB strings) — the limits are the guard the code
    itself applies; the examples of Props/C10 show that the depth cap and the budget are exact. -/
theorem decode_encode (cfg : DecCfg) (v : DM) (hB : cfg.budget < 2 ^ 63)
    (hn : v.NoDup) (he : encodable dagcborEnc v = true) (hf : Spec.finiteFloats v) (hl : Spec.WithinLimits cfg v) :
    decode cfg (enc dagcborEnc v) = .ok (Spec.canon v) :=
  Cbor.decode_encode_aux' cfg v hn he hf hl hB

/-- The encoding determines the value up to map entry order: two values (within the decoder's limits) with the same
    bytes have the same canonical form, since the decoder reads either back from them. -/
theorem encode_inj (cfg : DecCfg) (v w : DM) (hB : cfg.budget < 2 ^ 63)
    (hv : v.NoDup ∧ encodable dagcborEnc v = true ∧ Spec.finiteFloats v ∧ Spec.WithinLimits cfg v)
    (hw : w.NoDup ∧ encodable dagcborEnc w = true ∧ Spec.finiteFloats w ∧ Spec.WithinLimits cfg w)
    (e : enc dagcborEnc v = enc dagcborEnc w) : Spec.canon v = Spec.canon w := by
  have h1 := decode_encode cfg v hB hv.1 hv.2.1 hv.2.2.1 hv.2.2.2
  have h2 := decode_encode cfg w hB hw.1 hw.2.1 hw.2.2.1 hw.2.2.2
  rw [e] at h1
  rw [h1] at h2
  exact Except.ok.inj h2

/-! Non-vacuity: a concrete value with a two-entry map in non-canonical insertion order. -/
def ex1 : DM := .map (.cons [0x62, 0x62] (.int 1) (.cons [0x61] (.list (.cons (.bool true) .nil)) .nil))
def ex1' : DM := .map (.cons [0x61] (.list (.cons (.bool true) .nil)) (.cons [0x62, 0x62] (.int 1) .nil))
theorem ex1_nodup : ex1.NoDup := by
  simp [ex1, DM.NoDup, DMKVs.NoDupVals, DMKVs.keys, DMKVs.toList, DMs.NoDup]
theorem ex1'_nodup : ex1'.NoDup := by
  simp [ex1', DM.NoDup, DMKVs.NoDupVals, DMKVs.keys, DMKVs.toList, DMs.NoDup]
example : ex1.NoDup ∧ encodable dagcborEnc ex1 = true := ⟨ex1_nodup, by decide⟩
example : Spec.canon ex1 = ex1' := by decide
example : enc dagcborEnc ex1 = [0xa2, 0x61, 0x61, 0x81, 0xf5, 0x62, 0x62, 0x62, 0x01] := by
  rw [enc_eq_canon ex1 ex1_nodup]; decide
example : enc dagcborEnc ex1 = enc dagcborEnc ex1' :=
  encode_perm ex1 ex1' ex1_nodup ex1'_nodup (by decide)

end Ipld.Props.C02

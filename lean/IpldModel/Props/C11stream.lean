/-
  C11 (companion) — stream-backed bytes nodes: every read view is a cursor of its own over the same
  content.  Model: `Model/StreamBytes.lean` (one shared underlying cursor, per-view offsets, every Read
  re-seeks).  Property theorems only; helpers in `Lemmas/StreamBytes.lean`.
-/
import IpldModel.Lemmas.StreamBytes
import IpldModel.Generated.StreamSkeletons
namespace Ipld.Props.C11
open Ipld Ipld.StreamBytes

/-- In any interleaving of calls on any number of views of one stream-backed bytes node
    (reads of any size, seeks with any whence, the node's `AsBytes` in between), the answers a view gets are exactly
    the answers it gets when its own calls are made alone — from any state that has the same content and the same
    offset for that view; the shared cursor and the other views do not matter. -/
theorem views_independent (sched : List (Nat × Op)) (i : Nat) (s t : St)
    (hc : s.sh.content = t.sh.content) (hv : s.views[i]? = t.views[i]?) :
    answersOf s sched i = run t (projection sched i) := by
  induction sched generalizing s t with
  | nil => rfl
  | cons jo rest ih =>
    obtain ⟨j, op⟩ := jo
    by_cases hji : j = i
    · subst hji
      have h := step_depends_on_own s t j op hc hv
      simp only [answersOf, projection, List.filter_cons, beq_self_eq_true, if_true, run]
      rw [h.1]
      congr 1
      exact ih _ _ (by rw [step_content, step_content, hc]) h.2
    · have hne : (j == i) = false := by simpa using hji
      simp only [answersOf, projection, List.filter_cons, hne, Bool.false_eq_true, if_false]
      exact ih _ _ (by rw [step_content, hc]) (by rw [step_other_view s i j op hji, hv])

/-- Corollary: what a view is told never depends on what the other views did before or in between. -/
theorem views_independent_of_others (sched₁ sched₂ : List (Nat × Op)) (i : Nat) (s : St)
    (h : projection sched₁ i = projection sched₂ i) :
    answersOf s sched₁ i = answersOf s sched₂ i := by
  rw [views_independent sched₁ i s s rfl rfl, views_independent sched₂ i s s rfl rfl, h]

/-- The node's `AsBytes`, issued at any point of any history, delivers the whole content. -/
theorem asBytes_is_content (s : St) (j : Nat) (off : Nat) (h : s.views[j]? = some off) :
    (step s j .asBytes).2 = .bytes s.sh.content false := by
  rw [step_of_view h]; rfl

/-- … and the content is the same at every point of every history (reads are repeatable). -/
theorem content_stable (s : St) (sched : List (Nat × Op)) :
    (sched.foldl (fun st jo => (step st jo.1 jo.2).1) s).sh.content = s.sh.content := by
  induction sched generalizing s with
  | nil => rfl
  | cons jo rest ih => simp only [List.foldl_cons]; rw [ih, step_content]

/-- A read of `n` bytes through a view at offset `off` delivers exactly
    `content[off, off+n)` (cut at the end), reports end-of-stream exactly when the offset is at or past the end,
    and advances the view by what it delivered. -/
theorem read_delivers (s : St) (i off n : Nat) (h : s.views[i]? = some off) :
    (step s i (.read n)).2 = .bytes ((s.sh.content.drop off).take n) (decide (s.sh.content.length ≤ off) && decide (0 < n)) ∧
    (step s i (.read n)).1.views[i]? = some (off + ((s.sh.content.drop off).take n).length) := by
  rw [step_of_view h]
  exact ⟨rfl, setAt_get_eq h⟩

/-- Two consecutive reads of one view, with anything done by other views in between, deliver consecutive pieces:
    together `content[off, off+n+m)`. -/
theorem reads_concatenate (s : St) (i off n m : Nat) (h : s.views[i]? = some off)
    (between : List (Nat × Op)) (hb : ∀ jo ∈ between, jo.1 ≠ i) :
    answersOf s ((i, .read n) :: between ++ [(i, .read m)]) i =
      [.bytes ((s.sh.content.drop off).take n) (decide (s.sh.content.length ≤ off) && decide (0 < n)),
       .bytes ((s.sh.content.drop (off + ((s.sh.content.drop off).take n).length)).take m)
         (decide (s.sh.content.length ≤ off + ((s.sh.content.drop off).take n).length) && decide (0 < m))] := by
  rw [views_independent _ i s s rfl rfl]
  have hp : projection ((i, Op.read n) :: between ++ [(i, Op.read m)]) i = [(i, .read n), (i, .read m)] := by
    simp only [projection, List.filter_cons, beq_self_eq_true, if_true, List.filter_append, List.filter_nil]
    have : between.filter (fun x => x.1 == i) = [] := by
      apply List.filter_eq_nil_iff.mpr
      intro jo hjo
      simpa using hb jo hjo
    rw [this]
    rfl
  rw [hp]
  have r1 := read_delivers s i off n h
  simp only [run]
  rw [r1.1]
  have r2 := read_delivers (step s i (.read n)).1 i _ m r1.2
  rw [r2.1, step_content]

/-! Non-vacuity: two views and an `AsBytes` interleaved over "abcdef" -/
example :
    let s : St := { sh := { content := [97, 98, 99, 100, 101, 102] }, views := [0, 0] }
    run s [(0, .read 2), (1, .seek 0 .end_), (1, .seek (-2) .current), (0, .read 3), (1, .read 9), (0, .asBytes), (0, .read 5)] =
      [.bytes [97, 98] false, .pos 6, .pos 4, .bytes [99, 100, 101] false, .bytes [101, 102] false,
       .bytes [97, 98, 99, 100, 101, 102] false, .bytes [102] false] := by decide +kernel

/-! ## (T) the code as it is on this run -/

/-- `streamBytesView.Read`: lock, seek the underlying stream to the view's own offset, read, advance the offset
    (`viewRead`). -/
theorem viewRead_src_is_transcribed : Ipld.Generated.streamViewRead_skel_src = [
  "v.mu.Lock()",
  "defer v.mu.Unlock()",
  "if _, err := v.rs.Seek(v.off, io.SeekStart); err != nil",
  ". return 0, err",
  "n, err := v.rs.Read(p)",
  "v.off += int64(n)",
  "return n, err"
] := rfl

/-- `streamBytesView.Seek`: start / current are arithmetic on the view's own offset (negative refused); end asks the
    underlying stream under the lock (`viewSeek`). -/
theorem viewSeek_src_is_transcribed : Ipld.Generated.streamViewSeek_skel_src = [
  "switch whence",
  "case io.SeekStart",
  "case io.SeekCurrent",
  ". offset += v.off",
  "case io.SeekEnd",
  ". v.mu.Lock()",
  ". defer v.mu.Unlock()",
  ". end, err := v.rs.Seek(offset, io.SeekEnd)",
  ". if err != nil",
  ". . return 0, err",
  ". v.off = end",
  ". return end, nil",
  "default",
  ". return 0, errors.New(\"streamBytes: invalid whence\")",
  "if offset < 0",
  ". return 0, errors.New(\"streamBytes: negative position\")",
  "v.off = offset",
  "return offset, nil"
] := rfl

/-- `AsBytes` reads everything through a fresh view; `AsLargeBytes` hands out a fresh view (offset 0) sharing the
    node's stream and lock.  The model has `asBytes`; its views (`St.views`) are all there from the start, handing
    out a further one is not an operation of the model. -/
theorem asBytes_src_is_transcribed :
    Ipld.Generated.streamAsBytes_skel_src = ["return io.ReadAll(&streamBytesView{rs: n.ReadSeeker, mu: n.mu})"] ∧
    Ipld.Generated.streamAsLargeBytes_skel_src = ["return &streamBytesView{rs: n.ReadSeeker, mu: n.mu}, nil"] := ⟨rfl, rfl⟩

end Ipld.Props.C11

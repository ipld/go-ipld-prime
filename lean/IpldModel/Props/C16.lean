/-
  C16 — transforms are pure functional updates.  `Transform.focused` (the model of Go's
  `traversal.FocusedTransform`) against a reference update `updateAt` defined by recursion on the
  path: replace / remove the entry, keep all other entries in order; with links, at the level of the
  graph with every link resolved (`expandFuel`).
-/
import IpldModel.Model.Transform
import IpldModel.Lemmas.Transform
import IpldModel.Lemmas.TransformExpand
import IpldModel.Lemmas.Path
namespace Ipld.Props.C16
open Ipld Ipld.Sel Ipld.Walk Ipld.Transform

variable (fn : Fn) (linkOf : DM → Bytes) (canon : DM → DM) (cp : Bool)

/-- A target `traversal.Get` finds with nothing to load from is an existing target reached without
    crossing a link. -/
theorem getPlain_of_get (path : Path) (fuel : Nat) (root target : DM) :
    Walk.get [] fuel root path = .ok target → getPlain root path = some target := by
  induction path generalizing root with
  | nil => intro h; simp only [Walk.get] at h; cases h; rfl
  | cons seg rest ih =>
    intro h
    simp only [Walk.get, bind, Except.bind] at h
    cases hs : getStep [] fuel root seg with
    | error e => rw [hs] at h; cases h
    | ok c =>
      simp only [hs] at h
      obtain ⟨c0, hl, hf⟩ := getStep_ok hs
      cases followLinks_nil hf
      simp only [getPlain, hl]
      exact ih _ h

/-- On a tree without links — any path (existing or not), any
    fuel, with or without `createParents`, success or error — the store is never consulted and comes
    back unchanged: the result is the result computed with an empty store, with the caller's store
    put back. -/
theorem focused_no_link_store_unchanged (fuel : Nat) (at_ : Path) (root : DM) (path : Path) (st : TSt) :
    Spec.hasLink root = false →
    focused fn linkOf canon cp fuel at_ (some root) path st =
      reState st (focused fn linkOf canon cp fuel at_ (some root) path { store := [], written := [] }) :=
  fun h => focused_linkfree fn linkOf canon cp fuel at_ (some root) path st
    (by intro d hd; injection hd with hd; subst hd; exact h)

/-- In particular a successful transform of a link-free tree returns the store it was given, and
    gives the same tree with any other store. -/
theorem focused_no_link_store_unchanged' (fuel : Nat) (at_ : Path) (root : DM) (path : Path) (st st' : TSt)
    (o : Option DM) :
    Spec.hasLink root = false → focused fn linkOf canon cp fuel at_ (some root) path st = .ok (o, st') →
    st' = st ∧ ∀ st2, focused fn linkOf canon cp fuel at_ (some root) path st2 = .ok (o, st2) := by
  intro hl h
  rw [focused_no_link_store_unchanged fn linkOf canon cp fuel at_ root path st hl] at h
  cases h0 : focused fn linkOf canon cp fuel at_ (some root) path { store := [], written := [] } with
  | error e => rw [h0] at h; cases h
  | ok q =>
    obtain ⟨o0, s0⟩ := q
    rw [h0] at h
    simp only [reState] at h
    injection h with h; injection h with h1 h2; subst h1 h2
    refine ⟨rfl, fun st2 => ?_⟩
    rw [focused_no_link_store_unchanged fn linkOf canon cp fuel at_ root path st2 hl, h0]
    rfl

/-- Existing target, no link crossed, distinct keys: the transform returns
    the reference update with the callback's answer, computed from the position as the code reports
    it (`at_ ++ path`) and the node currently there; the store is returned unchanged. -/
theorem focused_eq_update (path : Path) (root target : DM) (at_ : Path) (fuel : Nat) (st : TSt) :
    root.NoDup → getPlain root path = some target → path.length < fuel →
    focused fn linkOf canon cp fuel at_ (some root) path st =
      .ok (updateAt root path (fn (at_ ++ path) (some target)), st) := by
  intro hn hg
  revert at_ fuel
  refine getPlain_induct (motive := fun n p t => n.NoDup → ∀ at_ fuel, p.length < fuel →
    focused fn linkOf canon cp fuel at_ (some n) p st = .ok (updateAt n p (fn (at_ ++ p) (some t)), st))
    ?_ ?_ hg hn
  · intro n _ at_ fuel hf
    obtain ⟨f, rfl⟩ := exists_add_one_of_lt hf
    simp only [focused_nil, updateAt, List.append_nil]
  · -- one level up: the child's result is put in place (`focused_child`)
    intro n seg c p t hl _ ih hn at_ fuel hf
    obtain ⟨f, rfl⟩ := exists_add_one_of_lt hf
    have h1 : p.length < f := Nat.lt_of_succ_lt_succ hf
    obtain ⟨g, rfl⟩ := exists_add_one_of_lt h1
    have h := ih (lookup_noDup hn hl) (at_ ++ [seg]) (g + 1) h1
    rw [List.append_assoc, List.singleton_append] at h
    rw [updateAt_cons hl]
    exact focused_child hn hl h fun hp => by
      obtain ⟨sg, q, rfl⟩ := List.exists_cons_of_ne_nil hp
      exact updateAt_isSome_of_cons _

/-- The callback is consulted exactly once, at `at_ ++ path`, with the
    node currently there: any two callbacks that agree on that one question give the same result. -/
theorem callback_sees_current (fn' : Fn) (path : Path) (root target : DM) (at_ : Path) (fuel : Nat) (st : TSt) :
    root.NoDup → getPlain root path = some target → path.length < fuel →
    fn' (at_ ++ path) (some target) = fn (at_ ++ path) (some target) →
    focused fn' linkOf canon cp fuel at_ (some root) path st = focused fn linkOf canon cp fuel at_ (some root) path st := by
  intro hn hg hf he
  rw [focused_eq_update fn' linkOf canon cp path root target at_ fuel st hn hg hf,
    focused_eq_update fn linkOf canon cp path root target at_ fuel st hn hg hf, he]

/-- The reference update puts the new node at `path`… -/
theorem update_reads_back (path : Path) (root target v y : DM) :
    getPlain root path = some target → updateAt root path (some v) = some y → getPlain y path = some v := by
  induction path generalizing root y with
  | nil => intro _ hu; cases hu; rfl
  | cons seg p ih =>
    intro hg hu
    obtain ⟨c, hl, hg⟩ := getPlain_cons hg
    obtain ⟨y', hy'⟩ := updateAt_some p c v
    rw [updateAt_cons hl, hy'] at hu
    cases hu
    simp only [getPlain, lookup_setChild_same y' hl]
    exact ih c y' hg hy'

/-- …and leaves every position off the path as it was (for a replacement). -/
theorem update_off_path (path : Path) (root target : DM) (q : Path) (v y : DM) :
    getPlain root path = some target → OffPath root path q → updateAt root path (some v) = some y →
    getPlain y q = getPlain root q := by
  induction path generalizing root q y with
  | nil => exact fun _ ho => False.elim ho
  | cons seg p ih =>
    cases q with
    | nil => exact fun _ ho => False.elim ho
    | cons seg' q =>
      intro hg ho hu
      obtain ⟨c, hl, hc⟩ := getPlain_cons hg
      obtain ⟨y', hy'⟩ := updateAt_some p c v
      rw [updateAt_cons hl, hy'] at hu
      cases hu
      rcases ho with hd | ⟨rfl, c', hl', ho'⟩
      · simp only [getPlain, lookup_setChild_other y' hl hd]
      · rw [hl] at hl'; cases hl'
        simp only [getPlain, lookup_setChild_same y' hl, hl]
        exact ih c q y' hc ho' hy'

/-- A callback that answers with what it is shown returns an equal tree. -/
theorem identity_transform (path : Path) (root target : DM) (at_ : Path) (fuel : Nat) (st : TSt) :
    (∀ p prev, fn p prev = prev) → root.NoDup → getPlain root path = some target → path.length < fuel →
    focused fn linkOf canon cp fuel at_ (some root) path st = .ok (some root, st) := by
  intro hid hn hg hf
  rw [focused_eq_update fn linkOf canon cp path root target at_ fuel st hn hg hf, hid,
    updateAt_self hg]

/-- The same with the target given by `traversal.Get` (nothing to load from). -/
theorem identity_transform_get (path : Path) (root target : DM) (gfuel fuel : Nat) (st : TSt) :
    (∀ p prev, fn p prev = prev) → root.NoDup → Walk.get [] gfuel root path = .ok target → path.length < fuel →
    focused fn linkOf canon cp fuel [] (some root) path st = .ok (some root, st) :=
  fun hid hn hg hf =>
    identity_transform fn linkOf canon cp path root target [] fuel st hid hn (getPlain_of_get path gfuel root target hg) hf

/-- Without `NoDup` the statement is false in the model: on a map carrying the key "a" twice the end
    case shows the callback the first entry and writes its answer into *every* matching entry.
    (Not reachable in Go: no node builder produces a repeated key, C12.) -/
theorem identity_needs_nodup :
    focused (fun _ prev => prev) linkOf canon cp 2 []
      (some (.map (.cons [0x61] (.int 1) (.cons [0x61] (.int 2) .nil)))) [.str [0x61]] ⟨[], []⟩
    = .ok (some (.map (.cons [0x61] (.int 1) (.cons [0x61] (.int 1) .nil))), ⟨[], []⟩) := by rfl

/-- The map loop: entries whose key does not match the segment are kept, unchanged, in order. -/
theorem untouched_map_entries (l : List (Bytes × DM)) (seg : Seg) (r : Option DM) :
    (focusedMapSet l seg r).filter (fun e => !keyMatches e.1 seg) = l.filter (fun e => !keyMatches e.1 seg) := by
  induction l with
  | nil => rfl
  | cons e l ih =>
    rw [focusedMapSet_cons]
    cases hm : keyMatches e.1 seg
    · simp only [Bool.false_eq_true, if_false, List.filter_cons, hm, Bool.not_false, if_true, ih]
    · cases r <;> simp [hm, ih]

/-- …the matching ones all carry the new value, or are all gone. -/
theorem matching_map_entries (l : List (Bytes × DM)) (seg : Seg) (v : DM) :
    (focusedMapSet l seg (some v)).filter (fun e => keyMatches e.1 seg) =
      (l.filter (fun e => keyMatches e.1 seg)).map (fun e => (e.1, v)) ∧
    (focusedMapSet l seg none).filter (fun e => keyMatches e.1 seg) = [] := by
  induction l with
  | nil => exact ⟨rfl, rfl⟩
  | cons e l ih =>
    rw [focusedMapSet_cons, focusedMapSet_cons]
    cases hm : keyMatches e.1 seg <;> simp [hm, ih.1, ih.2]

/-- Whatever the transform does below a map — any path, found
    or missing key, `createParents` or not, links below or not — if it succeeds the result is a map
    whose entries not matching the first segment are the original ones, unchanged, in the same order. -/
theorem untouched_map (fuel : Nat) (at_ : Path) (es : DMKVs) (seg : Seg) (p2 : Path) (st st' : TSt) (o : Option DM) :
    focused fn linkOf canon cp (fuel + 1) at_ (some (.map es)) (seg :: p2) st = .ok (o, st') →
    ∃ es' : DMKVs, o = some (.map es') ∧
      es'.toList.filter (fun e => !keyMatches e.1 seg) = es.toList.filter (fun e => !keyMatches e.1 seg) := by
  intro h
  obtain ⟨sl, r, hs, rfl⟩ := focused_cons_ok (fun _ h => DM.noConfusion h) h
  simp only [slot] at hs
  split at hs
  · cases hs
    exact ⟨_, rfl, by rw [DMKVs.toList_ofList]; exact untouched_map_entries _ _ _⟩
  · cases hs
    cases r with
    | none => exact ⟨es, rfl, rfl⟩
    | some v => exact ⟨_, rfl, by rw [DMKVs.toList_ofList]; simp [List.filter_append, keyMatches_eq]⟩

/-- Whatever the transform does below a list, if it succeeds the
    result is a list that differs from the original at one position `i` at most: `take i` is
    preserved, and so is `drop (i+1)` (found at `drop i` if the element was removed).  For an append
    `i` is the length. -/
theorem untouched_list (fuel : Nat) (at_ : Path) (xs : DMs) (seg : Seg) (p2 : Path) (st st' : TSt) (o : Option DM) :
    focused fn linkOf canon cp (fuel + 1) at_ (some (.list xs)) (seg :: p2) st = .ok (o, st') →
    ∃ (xs' : DMs) (i : Nat), o = some (.list xs') ∧ i ≤ xs.toList.length ∧
      xs'.toList.take i = xs.toList.take i ∧
      (xs'.toList.drop (i + 1) = xs.toList.drop (i + 1) ∨ xs'.toList.drop i = xs.toList.drop (i + 1)) := by
  intro h
  obtain ⟨sl, r, hs, rfl⟩ := focused_cons_ok (fun _ h => DM.noConfusion h) h
  simp only [slot] at hs
  split at hs
  · cases hs
  · rename_i ti _
    split at hs
    · -- an element in range: replaced or removed at `ti`
      rename_i hin
      cases hs
      have htk : (xs.toList.take ti.toNat).length = ti.toNat := List.length_take_of_le (Nat.le_of_lt hin.2)
      refine ⟨_, ti.toNat, rfl, Nat.le_of_lt hin.2, ?_, ?_⟩
      · rw [DMs.toList_ofList, List.append_assoc, List.take_left' htk]
      · rw [DMs.toList_ofList]
        cases r with
        | none => exact .inr (by rw [Option.toList_none, List.append_nil, List.drop_left' htk])
        | some v => exact .inl (List.drop_left' (by rw [List.length_append, htk]; rfl))
    · split at hs
      · cases hs
      · -- an append
        cases hs
        cases r with
        | none => exact ⟨xs, xs.toList.length, rfl, Nat.le_refl _, rfl, .inl rfl⟩
        | some v =>
          exact ⟨_, xs.toList.length, rfl, Nat.le_refl _, by rw [DMs.toList_ofList]; simp,
            .inl (by rw [DMs.toList_ofList]; simp)⟩

/-- A missing key at the end of the path: the callback is shown `none`; `some v` appends
    `(key, v)` after all existing entries, `none` returns the map unchanged. -/
theorem insert_missing_key (fuel : Nat) (at_ : Path) (es : DMKVs) (seg : Seg) (st : TSt) :
    lookupBySegment (.map es) seg = none →
    focused fn linkOf canon cp (fuel + 1) at_ (some (.map es)) [seg] st =
      match fn (at_ ++ [seg]) none with
      | none => .ok (some (.map es), st)
      | some v => .ok (some (.map (DMKVs.ofList (es.toList ++ [(seg.toString, v)]))), st) := by
  intro hl
  have hf : es.toList.find? (fun e => keyMatches e.1 seg) = none := by
    rw [keyMatches_fun]; exact Option.map_eq_none_iff.mp hl
  rw [focused_cons (.map es) fun _ h => DM.noConfusion h]
  simp only [slot, hf, hl]
  cases fn (at_ ++ [seg]) none <;> rfl

/-- On a list, "-" or any negative index appends: the callback is shown `none` at the
    position `l.length` (an index segment, not "-"); `some v` adds `v` at the end, `none` returns the
    list unchanged. -/
theorem append_to_list (fuel : Nat) (at_ : Path) (xs : DMs) (seg : Seg) (st : TSt) :
    IsAppendSeg seg →
    focused fn linkOf canon cp (fuel + 1) at_ (some (.list xs)) [seg] st =
      match fn (at_ ++ [Seg.idx xs.toList.length]) none with
      | none => .ok (some (.list xs), st)
      | some v => .ok (some (.list (DMs.ofList (xs.toList ++ [v]))), st) := by
  intro hs
  obtain ⟨ti, hti, hneg⟩ := listIndex_of_appendSeg hs
  have h2 : ¬ ti ≥ 0 := Int.not_le.mpr hneg
  rw [focused_cons (.list xs) fun _ h => DM.noConfusion h]
  simp only [slot, hti, h2, false_and, if_false, List.isEmpty_nil, if_true, lookup_list_of_neg hti h2]
  cases fn (at_ ++ [Seg.idx xs.toList.length]) none <;> rfl

/-- "-" is an append segment (every negative index is one by the first alternative of `IsAppendSeg`). -/
theorem dash_appends : IsAppendSeg (.str [0x2d]) := Or.inr ⟨by decide, by decide⟩

/-- An index at or past the end is an error, wherever in the path it occurs. -/
theorem index_beyond_bounds (fuel : Nat) (at_ : Path) (xs : DMs) (seg : Seg) (p2 : Path) (st : TSt) (i : Int) :
    seg.index = some i → (xs.toList.length : Int) ≤ i →
    focused fn linkOf canon cp (fuel + 1) at_ (some (.list xs)) (seg :: p2) st = .error .beyondBounds := by
  intro hi hge
  have h2 : i ≥ 0 := Int.le_trans (Int.natCast_nonneg _) hge
  have h1 : ¬ i.toNat < xs.toList.length := Nat.not_lt.mpr ((Int.le_toNat h2).mpr hge)
  rw [focused_cons (.list xs) fun _ h => DM.noConfusion h]
  simp only [slot, listIndex, hi, h2, true_and, h1, if_false, if_true]

/-- A segment that is neither a number nor "-" is an error on a list. -/
theorem not_an_index (fuel : Nat) (at_ : Path) (xs : DMs) (seg : Seg) (p2 : Path) (st : TSt) :
    seg.index = none → lastSegIsDash seg = false →
    focused fn linkOf canon cp (fuel + 1) at_ (some (.list xs)) (seg :: p2) st = .error .notIndex := by
  intro hi hd
  rw [focused_cons (.list xs) fun _ h => DM.noConfusion h]
  simp only [slot, listIndex, hi, hd, Bool.false_eq_true, if_false]

/-- Insert below an existing, link-free path `pre` ending in a map: the enlarged map is put back at
    `pre`, everything else is as `updateAt` says; the store is unchanged. -/
theorem insert_at_path (pre : Path) (root : DM) (es : DMKVs) (seg : Seg) (v : DM) (at_ : Path) (f : Nat) (st : TSt) :
    root.NoDup → getPlain root pre = some (.map es) → lookupBySegment (.map es) seg = none →
    fn (at_ ++ pre ++ [seg]) none = some v →
    focused fn linkOf canon cp (pre.length + (f + 1)) at_ (some root) (pre ++ [seg]) st =
      .ok (updateAt root pre (some (.map (DMKVs.ofList (es.toList ++ [(seg.toString, v)])))), st) := by
  intro hn hg hl hv
  apply (focused_prefix (List.cons_ne_nil _ _) hg at_ hn).2
  rw [insert_missing_key fn linkOf canon cp f (at_ ++ pre) es seg st hl, hv]

/-- Append below an existing, link-free path `pre` ending in a list. -/
theorem append_at_path (pre : Path) (root : DM) (xs : DMs) (seg : Seg) (v : DM) (at_ : Path) (f : Nat) (st : TSt) :
    root.NoDup → getPlain root pre = some (.list xs) → IsAppendSeg seg →
    fn (at_ ++ pre ++ [Seg.idx xs.toList.length]) none = some v →
    focused fn linkOf canon cp (pre.length + (f + 1)) at_ (some root) (pre ++ [seg]) st =
      .ok (updateAt root pre (some (.list (DMs.ofList (xs.toList ++ [v])))), st) := by
  intro hn hg hs hv
  apply (focused_prefix (List.cons_ne_nil _ _) hg at_ hn).2
  rw [append_to_list fn linkOf canon cp f (at_ ++ pre) xs seg st hs, hv]

/-- An error below an existing, link-free path is the transform's error. -/
theorem error_at_path (pre : Path) (root mid : DM) (at_ rest : Path) (k : Nat) (st : TSt) (e : TErr) :
    rest ≠ [] → root.NoDup → getPlain root pre = some mid →
    focused fn linkOf canon cp k (at_ ++ pre) (some mid) rest st = .error e →
    focused fn linkOf canon cp (pre.length + k) at_ (some root) (pre ++ rest) st = .error e :=
  fun hr hn hg => (focused_prefix hr hg at_ hn).1 e

/-- The path runs `pre` (no link crossed) to a link `c` whose block `blk` is in the store,
    then `rest ≠ []` inside the block (no further link crossed) to an existing target.  Then the
    block is updated functionally (`blk0`), written as the codec writes it (`canon blk0`) under the
    link `c' = linkOf (canon blk0)`, `.link c'` is put where `.link c` was, and the store gains exactly
    that one entry, in front. -/
theorem relink (pre rest : Path) (root blk target : DM) (c : Bytes) (at_ : Path) (k : Nat) (st : TSt) :
    rest ≠ [] → root.NoDup → blk.NoDup → getPlain root pre = some (.link c) → storeGet st.store c = some blk →
    getPlain blk rest = some target → rest.length < k →
    ∃ blk0, updateAt blk rest (fn (at_ ++ pre ++ rest) (some target)) = some blk0 ∧
      focused fn linkOf canon cp (pre.length + (k + 1)) at_ (some root) (pre ++ rest) st =
        .ok (updateAt root pre (some (.link (linkOf (canon blk0)))),
          { store := (linkOf (canon blk0), canon blk0) :: st.store,
            written := (linkOf (canon blk0), canon blk0) :: st.written }) := by
  intro hr hn hb hg hs hg2 hk
  obtain ⟨seg, p2, rfl⟩ := List.exists_cons_of_ne_nil hr
  obtain ⟨blk0, hb0⟩ := updateAt_isSome_of_cons (n := blk) (seg := seg) (p2 := p2)
    (fn (at_ ++ pre ++ seg :: p2) (some target))
  refine ⟨blk0, hb0, ?_⟩
  apply (focused_prefix hr hg at_ hn).2
  rw [focused_link hs,
    focused_eq_update fn linkOf canon cp (seg :: p2) blk target (at_ ++ pre) k st hb hg2 hk, hb0]
  rfl

/-- With the hypotheses of `relink`, for the returned tree `y` and store `st'`:
    the new link loads the new block; every other link loads what it loaded before; the new link sits
    at `pre`; and (for `pre ≠ []`) `traversal.Get` along `pre` through the new store reaches the new
    link and loads the block as written. -/
theorem relink_loads_back (pre rest : Path) (root blk target : DM) (c : Bytes) (at_ : Path) (k : Nat) (st : TSt) :
    rest ≠ [] → root.NoDup → blk.NoDup → getPlain root pre = some (.link c) → storeGet st.store c = some blk →
    getPlain blk rest = some target → rest.length < k →
    ∃ (blk0 y : DM) (st' : TSt),
      updateAt blk rest (fn (at_ ++ pre ++ rest) (some target)) = some blk0 ∧
      focused fn linkOf canon cp (pre.length + (k + 1)) at_ (some root) (pre ++ rest) st = .ok (some y, st') ∧
      storeGet st'.store (linkOf (canon blk0)) = some (canon blk0) ∧
      (∀ c2, c2 ≠ linkOf (canon blk0) → storeGet st'.store c2 = storeGet st.store c2) ∧
      st'.written = (linkOf (canon blk0), canon blk0) :: st.written ∧
      getPlain y pre = some (.link (linkOf (canon blk0))) ∧
      (∀ q, OffPath root pre q → getPlain y q = getPlain root q) ∧
      (pre ≠ [] → ∀ f, Walk.get st'.store (f + 2) y pre = followLinks st'.store (f + 1) (canon blk0)) := by
  intro hr hn hb hg hs hg2 hk
  obtain ⟨blk0, hb0, hfoc⟩ := relink fn linkOf canon cp pre rest root blk target c at_ k st hr hn hb hg hs hg2 hk
  obtain ⟨y, hy⟩ := updateAt_some pre root (.link (linkOf (canon blk0)))
  refine ⟨blk0, y, _, hb0, by rw [hfoc, hy], storeGet_cons_self, fun c2 h2 => storeGet_cons_ne h2,
    rfl, update_reads_back pre root _ _ y hg hy, fun q ho => update_off_path pre root _ q _ y hg ho hy,
    fun hp f => ?_⟩
  rw [get_of_getPlain (update_reads_back pre root _ _ y hg hy) hp]
  simp only [followLinks, storeGet_cons_self]

/-- If moreover the codec writes the block as it is (`canon blk0 = blk0`), the callback answered
    `some v` and `v` is not itself a link, reading the whole path back through the new store gives `v`. -/
theorem relink_reads_new_value (pre rest : Path) (root blk target v : DM) (c : Bytes) (at_ : Path) (k : Nat) (st : TSt) :
    pre ≠ [] → rest ≠ [] → root.NoDup → blk.NoDup → getPlain root pre = some (.link c) →
    storeGet st.store c = some blk → getPlain blk rest = some target → rest.length < k →
    fn (at_ ++ pre ++ rest) (some target) = some v → (∀ c', v ≠ .link c') →
    (∀ b, updateAt blk rest (some v) = some b → canon b = b) →
    ∃ (y : DM) (st' : TSt),
      focused fn linkOf canon cp (pre.length + (k + 1)) at_ (some root) (pre ++ rest) st = .ok (some y, st') ∧
      ∀ f, Walk.get st'.store (f + 2) y (pre ++ rest) = .ok v := by
  intro hp hr hn hb hg hs hg2 hk hv hnl hcanon
  obtain ⟨blk0, y, st', hb0, hfoc, _, _, _, _, _, hget⟩ :=
    relink_loads_back fn linkOf canon cp pre rest root blk target c at_ k st hr hn hb hg hs hg2 hk
  rw [hv] at hb0
  refine ⟨y, st', hfoc, fun f => ?_⟩
  obtain ⟨seg, p2, rfl⟩ := List.exists_cons_of_ne_nil hr
  rw [get_append, hget hp f, hcanon blk0 hb0, followLinks_nonlink (updateAt_cons_nonlink hg2 hb0)]
  simp only [Except.bind]
  rw [get_of_getPlain (update_reads_back _ blk target v blk0 hg2 hb0) (List.cons_ne_nil _ _),
    followLinks_nonlink hnl]

def kA : Bytes := [0x61]
def kB : Bytes := [0x62]
def kC : Bytes := [0x63]

/-- `{"a": 1, "b": [10, 20, 30]}` -/
def ex : DM :=
  .map (.cons kA (.int 1) (.cons kB (.list (.cons (.int 10) (.cons (.int 20) (.cons (.int 30) .nil)))) .nil))

def st0 : TSt := ⟨[], []⟩
def lk (_ : DM) : Bytes := []

example : ex.NoDup := by
  simp [ex, DM.NoDup, DMKVs.NoDupVals, DMs.NoDup, DMKVs.keys, DMKVs.toList, kA, kB]
example : getPlain ex [.str kB, .idx 1] = some (.int 20) := by rfl

/-- replace `b/1` by 21 -/
example : focused (fun _ _ => some (.int 21)) lk id false 3 [] (some ex) [.str kB, .idx 1] st0 =
    .ok (some (.map (.cons kA (.int 1) (.cons kB (.list (.cons (.int 10) (.cons (.int 21) (.cons (.int 30) .nil)))) .nil))),
      st0) := by rfl
/-- the same through the reference update -/
example : updateAt ex [.str kB, .idx 1] (some (.int 21)) =
    some (.map (.cons kA (.int 1) (.cons kB (.list (.cons (.int 10) (.cons (.int 21) (.cons (.int 30) .nil)))) .nil))) := by
  rfl
/-- delete the list element `b/1`: the later element moves up -/
example : focused (fun _ _ => none) lk id false 3 [] (some ex) [.str kB, .idx 1] st0 =
    .ok (some (.map (.cons kA (.int 1) (.cons kB (.list (.cons (.int 10) (.cons (.int 30) .nil))) .nil))), st0) := by rfl
/-- delete the map entry `a` -/
example : focused (fun _ _ => none) lk id false 3 [] (some ex) [.str kA] st0 =
    .ok (some (.map (.cons kB (.list (.cons (.int 10) (.cons (.int 20) (.cons (.int 30) .nil)))) .nil)), st0) := by rfl
/-- insert the missing key `c`: appended after the existing entries -/
example : focused (fun _ _ => some .null) lk id false 3 [] (some ex) [.str kC] st0 =
    .ok (some (.map (.cons kA (.int 1) (.cons kB (.list (.cons (.int 10) (.cons (.int 20) (.cons (.int 30) .nil))))
      (.cons kC .null .nil)))), st0) := by rfl
/-- append to the list with "-"; the callback is told position `b/3` -/
example : focused (fun p _ => if p = [.str kB, .idx 3] then some (.int 40) else none) lk id false 3 []
      (some ex) [.str kB, .str [0x2d]] st0 =
    .ok (some (.map (.cons kA (.int 1) (.cons kB
      (.list (.cons (.int 10) (.cons (.int 20) (.cons (.int 30) (.cons (.int 40) .nil))))) .nil))), st0) := by rfl
/-- index past the end -/
example : focused (fun _ _ => some .null) lk id false 3 [] (some ex) [.str kB, .idx 3] st0 =
    .error .beyondBounds := by rfl
/-- identity -/
example : focused (fun _ prev => prev) lk id false 3 [] (some ex) [.str kB, .idx 1] st0 = .ok (some ex, st0) := by rfl

/-- across a link: `{"a": Link(c1)}` with block `c1 ↦ {"b": 1}`; replace `a/b` by 2.  The new block is
    stored under the new link, the old entry is still there. -/
example :
    (match focused (fun _ _ => some (.int 2)) (fun _ => [0x02]) id false 4 []
        (some (.map (.cons kA (.link [0x01]) .nil))) [.str kA, .str kB]
        ⟨[([0x01], .map (.cons kB (.int 1) .nil))], []⟩ with
      | .ok (o, st') => some (o, st'.store, st'.written)
      | .error _ => none) =
    some (some (.map (.cons kA (.link [0x02]) .nil)),
      [([0x02], .map (.cons kB (.int 2) .nil)), ([0x01], .map (.cons kB (.int 1) .nil))],
      [([0x02], .map (.cons kB (.int 2) .nil))]) := by rfl

/-! ## Across a link, at the level of the expanded graph

  `expandFuel store F d` resolves every link of `d` through `store`, down to depth `F` (a link costs one
  unit, like a map or a list).  All statements hold for *every* `F` that reaches the link on the path
  (`pre.length < F`), so in particular for the full expansion; no acyclicity of the store is needed.

  Vocabulary:
    * `linkOccurs c d` — the link `c` occurs in `d` (syntactically, nothing is loaded);
    * `FreshLink c' b' store root` (decidable) — the new link `c'` either already loads the new block `b'`,
      or occurs as a link nowhere (neither in `root` nor in a block of `store`).  It is needed: see
      `fresh_needed_collision` and `fresh_needed_dangling`.  A block referenced twice, on and off the
      path, is *not* a problem: `shared_block_ok`.
-/

/-- Hypotheses of `relink`, `blk0` the
    functionally updated block, `c' = linkOf (canon blk0)` fresh.  For every fuel reaching the link:
    (1) the expanded new graph is the expanded old graph with, at `pre` (where the link is), the
        expansion of the block as stored (`canon blk0`);
    (2) the expansion of the updated block `blk0` is the functional update of the expanded old block at
        `rest` by the callback's answer (expanded through the new store with the fuel left at that depth).
    Nothing is assumed of `canon`: (1) and (2) meet at the block, up to `canon`. -/
theorem expand_focused_one_link_canon (pre rest : Path) (root blk target blk0 : DM) (c : Bytes) (at_ : Path)
    (k : Nat) (st : TSt) (F : Nat) :
    rest ≠ [] → root.NoDup → blk.NoDup → getPlain root pre = some (.link c) → storeGet st.store c = some blk →
    getPlain blk rest = some target → rest.length < k →
    updateAt blk rest (fn (at_ ++ pre ++ rest) (some target)) = some blk0 →
    FreshLink (linkOf (canon blk0)) (canon blk0) st.store root → pre.length < F →
    ∃ (y : DM) (st' : TSt),
      focused fn linkOf canon cp (pre.length + (k + 1)) at_ (some root) (pre ++ rest) st = .ok (some y, st') ∧
      some (expandFuel st'.store F y) =
        updateAt (expandFuel st.store F root) pre (some (expandFuel st'.store (F - pre.length - 1) (canon blk0))) ∧
      some (expandFuel st'.store (F - pre.length - 1) blk0) =
        updateAt (expandFuel st.store (F - pre.length - 1) blk) rest
          ((fn (at_ ++ pre ++ rest) (some target)).map (expandFuel st'.store (F - pre.length - 1 - rest.length))) := by
  intro hr hn hb hg hs hg2 hk hb0 hfresh hF
  obtain ⟨blk0', hb0', hfoc⟩ := relink fn linkOf canon cp pre rest root blk target c at_ k st hr hn hb hg hs hg2 hk
  rw [hb0] at hb0'; injection hb0' with hb0'; subst hb0'
  obtain ⟨y, hy⟩ := updateAt_some pre root (.link (linkOf (canon blk0)))
  refine ⟨y, _, by rw [hfoc, hy], ?_⟩
  have hcore := expand_relink_core hg hs hg2 hb0 hy hfresh hF
  exact ⟨hcore.1, hcore.2.1⟩

/-- If moreover the codec writes the block as it is
    (`canon blk0 = blk0`): expanding the new root through the new store is the functional update of the
    expanded old graph at the whole path `pre ++ rest`, by the callback's answer (which is itself
    expanded through the new store with the fuel left at its depth; `none`, a removal, stays `none`). -/
theorem expand_focused_one_link (pre rest : Path) (root blk target blk0 : DM) (c : Bytes) (at_ : Path)
    (k : Nat) (st : TSt) (F : Nat) :
    rest ≠ [] → root.NoDup → blk.NoDup → getPlain root pre = some (.link c) → storeGet st.store c = some blk →
    getPlain blk rest = some target → rest.length < k →
    updateAt blk rest (fn (at_ ++ pre ++ rest) (some target)) = some blk0 → canon blk0 = blk0 →
    FreshLink (linkOf blk0) blk0 st.store root → pre.length < F →
    ∃ (y : DM) (st' : TSt),
      focused fn linkOf canon cp (pre.length + (k + 1)) at_ (some root) (pre ++ rest) st = .ok (some y, st') ∧
      st'.store = (linkOf blk0, blk0) :: st.store ∧
      some (expandFuel st'.store F y) =
        updateAt (expandFuel st.store F root) (pre ++ rest)
          ((fn (at_ ++ pre ++ rest) (some target)).map (expandFuel st'.store (F - pre.length - 1 - rest.length))) := by
  intro hr hn hb hg hs hg2 hk hb0 hcanon hfresh hF
  obtain ⟨blk0', hb0', hfoc⟩ := relink fn linkOf canon cp pre rest root blk target c at_ k st hr hn hb hg hs hg2 hk
  rw [hb0] at hb0'; injection hb0' with hb0'; subst hb0'
  rw [hcanon] at hfoc
  obtain ⟨y, hy⟩ := updateAt_some pre root (.link (linkOf blk0))
  refine ⟨y, _, by rw [hfoc, hy], rfl, ?_⟩
  exact (expand_relink_core hg hs hg2 hb0 hy hfresh hF).2.2 rfl

/-- The same when the callback's answer contains no link (or is a removal): the expanded new graph is
    literally `updateAt (expanded old graph) (pre ++ rest) (answer)`. -/
theorem expand_focused_one_link_plain (pre rest : Path) (root blk target blk0 : DM) (c : Bytes) (at_ : Path)
    (k : Nat) (st : TSt) (F : Nat) :
    rest ≠ [] → root.NoDup → blk.NoDup → getPlain root pre = some (.link c) → storeGet st.store c = some blk →
    getPlain blk rest = some target → rest.length < k →
    updateAt blk rest (fn (at_ ++ pre ++ rest) (some target)) = some blk0 → canon blk0 = blk0 →
    FreshLink (linkOf blk0) blk0 st.store root → pre.length < F →
    (∀ v, fn (at_ ++ pre ++ rest) (some target) = some v → Spec.hasLink v = false) →
    ∃ (y : DM) (st' : TSt),
      focused fn linkOf canon cp (pre.length + (k + 1)) at_ (some root) (pre ++ rest) st = .ok (some y, st') ∧
      some (expandFuel st'.store F y) =
        updateAt (expandFuel st.store F root) (pre ++ rest) (fn (at_ ++ pre ++ rest) (some target)) := by
  intro hr hn hb hg hs hg2 hk hb0 hcanon hfresh hF hv
  obtain ⟨y, st', h1, _, h3⟩ := expand_focused_one_link fn linkOf canon cp pre rest root blk target blk0 c at_ k st F
    hr hn hb hg hs hg2 hk hb0 hcanon hfresh hF
  refine ⟨y, st', h1, ?_⟩
  rw [h3]
  cases hfn : fn (at_ ++ pre ++ rest) (some target) with
  | none => rfl
  | some v => rw [Option.map_some, expandFuel_linkfree _ _ v (hv v hfn)]

/-- Replacement case (`fn … = some v`), hypotheses of `expand_focused_one_link`.
    (a) every position of the expanded new graph that is off the path — `OffPath`, taken in the expanded
        old graph, so positions inside other blocks count — reads as in the expanded old graph;
    (b) every tree that does not mention the new link expands through the new store as through the
        old one; in particular
    (c) every link other than the new one loads and expands as before. -/
theorem expand_off_path_unchanged (pre rest : Path) (root blk target blk0 v : DM) (c : Bytes) (at_ : Path)
    (k : Nat) (st : TSt) (F : Nat) :
    rest ≠ [] → root.NoDup → blk.NoDup → getPlain root pre = some (.link c) → storeGet st.store c = some blk →
    getPlain blk rest = some target → rest.length < k →
    fn (at_ ++ pre ++ rest) (some target) = some v →
    updateAt blk rest (some v) = some blk0 → canon blk0 = blk0 →
    FreshLink (linkOf blk0) blk0 st.store root → pre.length < F →
    ∃ (y : DM) (st' : TSt),
      focused fn linkOf canon cp (pre.length + (k + 1)) at_ (some root) (pre ++ rest) st = .ok (some y, st') ∧
      (∀ q, OffPath (expandFuel st.store F root) (pre ++ rest) q →
        getPlain (expandFuel st'.store F y) q = getPlain (expandFuel st.store F root) q) ∧
      (∀ j d, linkOccurs (linkOf blk0) d = false → expandFuel st'.store j d = expandFuel st.store j d) ∧
      (∀ j c2, c2 ≠ linkOf blk0 → expandFuel st'.store j (.link c2) = expandFuel st.store j (.link c2)) := by
  intro hr hn hb hg hs hg2 hk hv hb0 hcanon hfresh hF
  obtain ⟨y, st', h1, h2, h3⟩ := expand_focused_one_link fn linkOf canon cp pre rest root blk target blk0 c at_ k st F
    hr hn hb hg hs hg2 hk (by rw [hv]; exact hb0) hcanon hfresh hF
  have hagree : ∀ j d, linkOccurs (linkOf blk0) d = false → expandFuel st'.store j d = expandFuel st.store j d := by
    intro j d hd; rw [h2]; exact fresh_agree hfresh d hd j
  refine ⟨y, st', h1, fun q ho => ?_, hagree, fun j c2 hc2 => hagree j _ ?_⟩
  · obtain ⟨m, hm⟩ := exists_add_one_of_lt (Nat.sub_pos_of_lt hF)
    have hgp : getPlain (expandFuel st.store F root) (pre ++ rest) =
        some (expandFuel st.store (m - rest.length) target) := by
      rw [getPlain_append, getPlain_expand st.store hg F, hm,
        expandFuel_link_some hs, Option.bind_some, getPlain_expand st.store hg2 m]
    rw [hv, Option.map_some] at h3
    exact update_off_path (pre ++ rest) _ _ q _ _ hgp ho h3.symm
  · simp only [linkOccurs, beq_eq_false_iff_ne]; exact hc2

/-- Without any assumption on `canon`: positions off `pre` (the path up to the link) are unchanged in
    the expanded graph — whatever the codec does to the block, nothing outside it moves. -/
theorem expand_off_link_unchanged_canon (pre rest : Path) (root blk target blk0 : DM) (c : Bytes) (at_ : Path)
    (k : Nat) (st : TSt) (F : Nat) :
    rest ≠ [] → root.NoDup → blk.NoDup → getPlain root pre = some (.link c) → storeGet st.store c = some blk →
    getPlain blk rest = some target → rest.length < k →
    updateAt blk rest (fn (at_ ++ pre ++ rest) (some target)) = some blk0 →
    FreshLink (linkOf (canon blk0)) (canon blk0) st.store root → pre.length < F →
    ∃ (y : DM) (st' : TSt),
      focused fn linkOf canon cp (pre.length + (k + 1)) at_ (some root) (pre ++ rest) st = .ok (some y, st') ∧
      ∀ q, OffPath (expandFuel st.store F root) pre q →
        getPlain (expandFuel st'.store F y) q = getPlain (expandFuel st.store F root) q := by
  intro hr hn hb hg hs hg2 hk hb0 hfresh hF
  obtain ⟨y, st', h1, h2, _⟩ := expand_focused_one_link_canon fn linkOf canon cp pre rest root blk target blk0 c at_ k
    st F hr hn hb hg hs hg2 hk hb0 hfresh hF
  exact ⟨y, st', h1, fun q ho => update_off_path pre _ _ q _ _
    (getPlain_expand st.store hg F) ho h2.symm⟩

/-! ## Across any number of links

  `resolve store f root path = some (target, k)`: walking as `focusedTransform` does (a link with more
  path to go is loaded), the path arrives at `target` having crossed `k` links.  `relink`'s situation
  is `k = 1` (`one_link_resolves`).
-/

/-- The hypotheses of `relink` say: the path resolves, crossing one link. -/
theorem one_link_resolves (s : List (Bytes × DM)) (pre rest : Path) (root blk target : DM) (c : Bytes) (k : Nat) :
    rest ≠ [] → getPlain root pre = some (.link c) → storeGet s c = some blk →
    getPlain blk rest = some target → rest.length ≤ k →
    resolve s (pre.length + (k + 1)) root (pre ++ rest) = some (target, 1) := by
  intro hr hg hs hg2 hk
  obtain ⟨seg, p2, rfl⟩ := List.exists_cons_of_ne_nil hr
  rw [resolve_prefix s (seg :: p2) (k + 1) hg]
  simp only [resolve, lookupBySegment, hs, resolve_of_getPlain s hg2 k hk, Option.map_some]

/-- A path that resolves crossing `k` links, all blocks `NoDup`: the
    transform succeeds whatever the callback answers; exactly `k` blocks are written, each under
    `linkOf` of itself, and the store is the old one with these in front (nothing is overwritten or
    removed); a non-empty path never yields a nil root. -/
theorem focused_through_links (path : Path) (root target : DM) (k : Nat) (at_ : Path) (f : Nat) (st : TSt) :
    resolve st.store f root path = some (target, k) → root.NoDup → (∀ e ∈ st.store, e.2.NoDup) →
    ∃ (Y : Option DM) (W : List (Bytes × DM)),
      focused fn linkOf canon cp (f + 1) at_ (some root) path st =
        .ok (Y, { store := W ++ st.store, written := W ++ st.written }) ∧
      W.length = k ∧ (∀ e ∈ W, e.1 = linkOf e.2) ∧ (path ≠ [] → ∃ y, Y = some y) := by
  intro hr hn hst
  obtain ⟨Y, W, h⟩ := focused_through fn linkOf canon cp hst hr at_ hn
  exact ⟨Y, W, h.run, h.count, h.keys, h.isSome⟩

/-- If moreover the callback answers `some v`, `v` not a link, the
    codec writes blocks as they are, and `linkOf` is injective (no two different blocks under one link —
    needed: `injective_needed`), then `st'.written` has grown by the number of links crossed and reading
    the path back from the new root through the new store gives `v`: with fuel for `k` loads,
    `followLinks` from `y` (only needed if the root itself is a link) and then `traversal.Get`. -/
theorem focused_through_links_reads (path : Path) (root target v : DM) (k : Nat) (at_ : Path) (f : Nat) (st : TSt) :
    resolve st.store f root path = some (target, k) → root.NoDup → (∀ e ∈ st.store, e.2.NoDup) →
    fn (at_ ++ path) (some target) = some v → (∀ c, v ≠ .link c) →
    (∀ b, canon b = b) → (∀ a b, linkOf a = linkOf b → a = b) →
    ∃ (y : DM) (st' : TSt),
      focused fn linkOf canon cp (f + 1) at_ (some root) path st = .ok (some y, st') ∧
      st'.written.length = st.written.length + k ∧
      ∀ F, k < F → ∃ m, followLinks st'.store F y = .ok m ∧ Walk.get st'.store F m path = .ok v := by
  intro hr hn hst hv hnl hcanon hinj
  obtain ⟨Y, W, h⟩ := focused_through fn linkOf canon cp hst hr at_ hn
  obtain ⟨y, rfl, hreads⟩ := h.reads hcanon _ (written_loads_back hinj st.store h.keys) v hv hnl
  exact ⟨y, _, h.run, by rw [List.length_append, h.count, Nat.add_comm], hreads⟩

/-- `focused_through_links_reads` for a root that is not itself a link and a non-empty path: `traversal.Get` from the new root. -/
theorem focused_through_links_get (path : Path) (root target v : DM) (k : Nat) (at_ : Path) (f : Nat) (st : TSt) :
    resolve st.store f root path = some (target, k) → root.NoDup → (∀ e ∈ st.store, e.2.NoDup) →
    fn (at_ ++ path) (some target) = some v → (∀ c, v ≠ .link c) →
    (∀ b, canon b = b) → (∀ a b, linkOf a = linkOf b → a = b) →
    path ≠ [] → (∀ c, root ≠ .link c) →
    ∃ (y : DM) (st' : TSt),
      focused fn linkOf canon cp (f + 1) at_ (some root) path st = .ok (some y, st') ∧
      st'.written.length = st.written.length + k ∧
      ∀ F, k < F → Walk.get st'.store F y path = .ok v := by
  intro hr hn hst hv hnl hcanon hinj hp hroot
  obtain ⟨Y, W, h⟩ := focused_through fn linkOf canon cp hst hr at_ hn
  obtain ⟨y, rfl, hreads⟩ := h.reads hcanon _ (written_loads_back hinj st.store h.keys) v hv hnl
  refine ⟨y, _, h.run, by rw [List.length_append, h.count, Nat.add_comm], fun F hF => ?_⟩
  obtain ⟨m, hm1, hm2⟩ := hreads F hF
  obtain ⟨f', rfl⟩ := exists_add_one_of_lt hF
  rw [followLinks_nonlink (h.nonlink hp hroot y rfl)] at hm1
  injection hm1 with hm1; subst hm1
  exact hm2

/-- The path resolves crossing `k`
    links, all blocks `NoDup`.  The transform succeeds and prepends `k` written blocks `W`.  If the codec
    writes blocks as they are, the new links (the keys of `W`) are fresh — they occur as links neither
    in the root nor in a block of the old store — and each loads back the block written under it (no
    two different written blocks share a link), then for every fuel covering the path
    (`path.length + k ≤ F`: one unit per segment and per link):
    * the new root expanded through the new store is the functional update, at `path`, of the old root
      expanded through the old store (the callback's answer being expanded with the fuel left);
    * in the replacement case every position off the path reads as in the expanded old graph. -/
theorem expand_focused_through_links (path : Path) (root target : DM) (k : Nat) (at_ : Path) (f : Nat) (st : TSt) :
    resolve st.store f root path = some (target, k) → root.NoDup → (∀ e ∈ st.store, e.2.NoDup) → path ≠ [] →
    ∃ (y : DM) (W : List (Bytes × DM)),
      focused fn linkOf canon cp (f + 1) at_ (some root) path st =
        .ok (some y, { store := W ++ st.store, written := W ++ st.written }) ∧
      W.length = k ∧ (∀ e ∈ W, e.1 = linkOf e.2) ∧
      ((∀ b, canon b = b) →
       (∀ e ∈ W, linkOccurs e.1 root = false ∧ StoreFreeOf e.1 st.store) →
       (∀ e ∈ W, storeGet (W ++ st.store) e.1 = some e.2) →
       ∀ F, path.length + k ≤ F →
        some (expandFuel (W ++ st.store) F y) =
          updateAt (expandFuel st.store F root) path
            ((fn (at_ ++ path) (some target)).map (expandFuel (W ++ st.store) (F - path.length - k))) ∧
        ∀ v, fn (at_ ++ path) (some target) = some v →
          ∀ q, OffPath (expandFuel st.store F root) path q →
            getPlain (expandFuel (W ++ st.store) F y) q = getPlain (expandFuel st.store F root) q) := by
  intro hr hn hst hp
  obtain ⟨Y, W, h⟩ := focused_through fn linkOf canon cp hst hr at_ hn
  obtain ⟨y, rfl⟩ := h.isSome hp
  refine ⟨y, W, h.run, h.count, h.keys, fun hcanon hfresh hback F hF => ?_⟩
  obtain ⟨j, rfl⟩ := Nat.exists_eq_add_of_le hF
  -- the class of trees in which no new link occurs: the old root, the old blocks, their subtrees
  have hmain := h.expands hcanon (W ++ st.store) hback (NoKeyOf W) (noKeyOf_hereditary W)
    (fun c b hcb e he => (hfresh e he).2 _ (storeGet_mem hcb))
    (fun c hc => storeGet_append_notin st.store c W fun e he heq =>
      beq_eq_false_iff_ne.mp (hc e he) heq.symm)
    (fun e he => (hfresh e he).1) j
  rw [Nat.sub_sub, Nat.add_sub_cancel_left]
  rw [Option.map_some] at hmain
  refine ⟨hmain, fun v hv q ho => ?_⟩
  rw [hv, Option.map_some] at hmain
  exact update_off_path path _ _ q _ _ (getPlain_expand_resolve st.store hr j) ho
    hmain.symm

/-- The same under hypotheses on `linkOf` alone: injective (no two blocks under one link) and never
    answering a link that occurs in the root or in a block of the old store. -/
theorem expand_focused_through_links' (path : Path) (root target : DM) (k : Nat) (at_ : Path) (f : Nat) (st : TSt)
    (F : Nat) :
    resolve st.store f root path = some (target, k) → root.NoDup → (∀ e ∈ st.store, e.2.NoDup) → path ≠ [] →
    (∀ b, canon b = b) → (∀ a b, linkOf a = linkOf b → a = b) →
    (∀ b, linkOccurs (linkOf b) root = false ∧ StoreFreeOf (linkOf b) st.store) →
    path.length + k ≤ F →
    ∃ (y : DM) (st' : TSt),
      focused fn linkOf canon cp (f + 1) at_ (some root) path st = .ok (some y, st') ∧
      st'.written.length = st.written.length + k ∧
      some (expandFuel st'.store F y) =
        updateAt (expandFuel st.store F root) path
          ((fn (at_ ++ path) (some target)).map (expandFuel st'.store (F - path.length - k))) ∧
      ∀ v, fn (at_ ++ path) (some target) = some v →
        ∀ q, OffPath (expandFuel st.store F root) path q →
          getPlain (expandFuel st'.store F y) q = getPlain (expandFuel st.store F root) q := by
  intro hr hn hst hp hcanon hinj hfresh hF
  obtain ⟨y, W, h1, h2, h3, h4⟩ := expand_focused_through_links fn linkOf canon cp path root target k at_ f st hr hn hst hp
  obtain ⟨h5, h6⟩ := h4 hcanon (fun e _ => by rw [h3 e ‹_›]; exact hfresh e.2)
    (written_loads_back hinj st.store h3) F hF
  exact ⟨y, _, h1, by rw [List.length_append, h2, Nat.add_comm], h5, h6⟩

def c1 : Bytes := [0x01]
def c2 : Bytes := [0x02]
def c3 : Bytes := [0x03]
def kZ : Bytes := [0x7a]

/-- the block `{"b": i}` -/
def blkB (i : Int) : DM := .map (.cons kB (.int i) .nil)
/-- `{"a": Link(c1), "z": Link(c3)}` -/
def root2 : DM := .map (.cons kA (.link c1) (.cons kZ (.link c3) .nil))
/-- two blocks: `c1 ↦ {"b": 1}`, `c3 ↦ {"b": 7}` -/
def store2 : List (Bytes × DM) := [(c1, blkB 1), (c3, blkB 7)]
/-- replace whatever is there by 2 -/
def set2 : Fn := fun _ _ => some (.int 2)

/-! The hypotheses of `expand_focused_one_link` are satisfiable: path `a/b` = `pre ++ rest` with
    `pre = [a]`, `rest = [b]`, new link `c2`. -/
example : root2.NoDup := by
  simp [root2, DM.NoDup, DMKVs.NoDupVals, DMKVs.keys, DMKVs.toList, kA, kZ]
example : (blkB 1).NoDup := by simp [blkB, DM.NoDup, DMKVs.NoDupVals, DMKVs.keys, DMKVs.toList]
example : getPlain root2 [.str kA] = some (.link c1) := by rfl
example : storeGet store2 c1 = some (blkB 1) := by rfl
example : getPlain (blkB 1) [.str kB] = some (.int 1) := by rfl
example : updateAt (blkB 1) [.str kB] (set2 ([] ++ [.str kA] ++ [.str kB]) (some (.int 1))) = some (blkB 2) := by rfl
example : FreshLink c2 (blkB 2) store2 root2 := by decide +kernel

/-- …and its conclusion on this graph, computed: the expanded new graph is the expanded old graph with
    `a/b` replaced; `z` still expands to `{"b": 7}`. -/
example :
    (match focused set2 (fun _ => c2) id false 4 [] (some root2) [.str kA, .str kB] ⟨store2, []⟩ with
      | .ok (some y, st') => some (expandFuel st'.store 3 y)
      | _ => none) = some (.map (.cons kA (blkB 2) (.cons kZ (blkB 7) .nil))) ∧
    updateAt (expandFuel store2 3 root2) [.str kA, .str kB] (some (.int 2)) =
      some (.map (.cons kA (blkB 2) (.cons kZ (blkB 7) .nil))) := ⟨by rfl, by rfl⟩

/-- Freshness is needed (collision).  If `linkOf` answers a link that already loads a *different*
    block (`c3 ↦ {"b": 7}`) and that link is used off the path (`z`), the new entry shadows the old one
    and the off-path position `z` changes in the expanded graph: `{"b": 2}` instead of `{"b": 7}`.
    (With a real hash this is a hash collision; the model's `linkOf` is arbitrary.) -/
theorem fresh_needed_collision :
    ¬ FreshLink c3 (blkB 2) store2 root2 ∧
    (match focused set2 (fun _ => c3) id false 4 [] (some root2) [.str kA, .str kB] ⟨store2, []⟩ with
      | .ok (some y, st') => some (expandFuel st'.store 3 y)
      | _ => none) = some (.map (.cons kA (blkB 2) (.cons kZ (blkB 2) .nil))) ∧
    updateAt (expandFuel store2 3 root2) [.str kA, .str kB] (some (.int 2)) =
      some (.map (.cons kA (blkB 2) (.cons kZ (blkB 7) .nil))) := ⟨by decide +kernel, by rfl, by rfl⟩

/-- Freshness is needed (dangling link).  `z` links to `c3`, which the store does not have; the
    changed block happens to be stored under `c3`.  After the transform the formerly dangling `z` loads
    the new block.  (With content addressing this is not a misbehaviour — `c3` always *meant* that
    block — but the expanded graph, as observed through this store, changes off the path.) -/
theorem fresh_needed_dangling :
    ¬ FreshLink c3 (blkB 2) [(c1, blkB 1)] root2 ∧
    (match focused set2 (fun _ => c3) id false 4 [] (some root2) [.str kA, .str kB] ⟨[(c1, blkB 1)], []⟩ with
      | .ok (some y, st') => some (expandFuel st'.store 3 y)
      | _ => none) = some (.map (.cons kA (blkB 2) (.cons kZ (blkB 2) .nil))) ∧
    updateAt (expandFuel [(c1, blkB 1)] 3 root2) [.str kA, .str kB] (some (.int 2)) =
      some (.map (.cons kA (blkB 2) (.cons kZ (.link c3) .nil))) := ⟨by decide +kernel, by rfl, by rfl⟩

/-- A block referenced twice, on and off the path, is fine: `{"a": Link(c1), "z": Link(c1)}`,
    transform `a/b`.  The new block goes under the new link, only `a` is re-pointed, `z` keeps loading
    the old block (the store is only ever prepended to). -/
theorem shared_block_ok :
    FreshLink c2 (blkB 2) store2 (.map (.cons kA (.link c1) (.cons kZ (.link c1) .nil))) ∧
    (match focused set2 (fun _ => c2) id false 4 [] (some (.map (.cons kA (.link c1) (.cons kZ (.link c1) .nil))))
        [.str kA, .str kB] ⟨store2, []⟩ with
      | .ok (some y, st') => some (y, expandFuel st'.store 3 y)
      | _ => none) =
      some (.map (.cons kA (.link c2) (.cons kZ (.link c1) .nil)),
        .map (.cons kA (blkB 2) (.cons kZ (blkB 1) .nil))) := ⟨by decide +kernel, by rfl⟩

/-- The identity transform with a content-addressing `linkOf` (`{"b": 1}` hashes to `c1` again): the first
    alternative of `FreshLink`. -/
example : FreshLink c1 (blkB 1) store2 root2 := by decide +kernel

/-- Two links on the path: `{"a": Link(c1)}`, `c1 ↦ {"b": Link(c3)}`, `c3 ↦ {"c": 1}`, path `a/b/c`. -/
def store3 : List (Bytes × DM) := [(c1, .map (.cons kB (.link c3) .nil)), (c3, .map (.cons kC (.int 1) .nil))]
def root3 : DM := .map (.cons kA (.link c1) .nil)
/-- a `linkOf` that tells the two written blocks apart (by their first key) -/
def lk2 : DM → Bytes
  | .map (.cons k _ _) => 0xff :: k
  | _ => []

example : resolve store3 5 root3 [.str kA, .str kB, .str kC] = some (.int 1, 2) := by rfl

/-- two blocks written (innermost first, so it is last in the list), and the new value read back -/
example :
    (match focused set2 lk2 id false 6 [] (some root3) [.str kA, .str kB, .str kC] ⟨store3, []⟩ with
      | .ok (some y, st') => some (y, st'.written, Walk.get st'.store 3 y [.str kA, .str kB, .str kC])
      | _ => none) =
    some (.map (.cons kA (.link (0xff :: kB)) .nil),
      [(0xff :: kB, .map (.cons kB (.link (0xff :: kC)) .nil)), (0xff :: kC, .map (.cons kC (.int 2) .nil))],
      .ok (.int 2)) := by rfl

/-- …and at the level of the expanded graph (`expand_focused_through_links`): the new links are fresh,
    each loads back its block, and the expanded new graph is the update of the expanded old graph. -/
example :
    (match focused set2 lk2 id false 6 [] (some root3) [.str kA, .str kB, .str kC] ⟨store3, []⟩ with
      | .ok (some y, st') => some (expandFuel st'.store 5 y,
          decide (∀ e ∈ st'.written, linkOccurs e.1 root3 = false ∧ StoreFreeOf e.1 store3),
          decide (∀ e ∈ st'.written, storeGet st'.store e.1 = some e.2))
      | _ => none) =
      some (.map (.cons kA (.map (.cons kB (.map (.cons kC (.int 2) .nil)) .nil)) .nil), true, true) ∧
    updateAt (expandFuel store3 5 root3) [.str kA, .str kB, .str kC] (some (.int 2)) =
      some (.map (.cons kA (.map (.cons kB (.map (.cons kC (.int 2) .nil)) .nil)) .nil)) := ⟨by decide +kernel, by rfl⟩

/-- Injectivity of `linkOf` is needed once two links are crossed: with a constant `linkOf` the outer
    block, written last, shadows the inner one under the same key; the new root's `a` then loads
    `{"b": Link(c2)}` whose `b` loads the same block again, and the new value is not found. -/
theorem injective_needed :
    (match focused set2 (fun _ => c2) id false 6 [] (some root3) [.str kA, .str kB, .str kC] ⟨store3, []⟩ with
      | .ok (some y, st') => some (st'.written.length, Walk.get st'.store 5 y [.str kA, .str kB, .str kC])
      | _ => none) = some (2, .error .notFound) := by rfl

end Ipld.Props.C16

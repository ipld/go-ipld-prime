/-
  C12 for SCHEMA-BOUND builders - the typed assemblers of the reflection binding and of generated code as a call-by-call
  state machine (`Model/TypedAssembler.lean`; type level; lists, String-keyed maps, structs read as maps, scalars).  For
  all types, histories and states; no bounds.  Tied to node/bindnode and to generated code by the correspondence
  `C12/corr-typed-assembler` (every history of `c12Typed`, and of `c13Histories` for both engines, is run on both).
-/
import IpldModel.Lemmas.TypedAssemblerExamples
import IpldModel.Lemmas.TypedAssemblerRefine
import IpldModel.Lemmas.TypedAssemblerReset
namespace Ipld.Props.C12
open Ipld Ipld.Asm Ipld.TAsm
open Ipld.Schema (Ty Fields Field TL TLs TLKVs conforms ofType)

/-! ### (a) a refused call has no effect -/

/-- If a call is answered with an error, the state afterwards is the state before the
    call, with two exceptions, each of which the statement names:
    * the call was made on a KEY assembler and ended it (`KeyReset`): the state afterwards is that same frame back
      where it was before the `AssembleKey` that handed the key assembler out.  No entry, key or value has been
      recorded.
    * the engine leaves a refused `AssignNode` of a map/list node half done (`Engine.anPartial`: generated code, known
      finding `C13/gen-refused-assignnode-wedges-builder`; the reflection binding until the repair 93ca07c): the
      state is marked as no longer the contract's and the model makes no further claim.
    For an engine without that flag (`Engine.bindnode`, `Engine.ideal`) the third case never happens. -/
theorem typed_reject_no_effect {e : Engine} {s s' : TAsm.St} {op : Op} {c : ErrClass}
    (h : TAsm.step e s op = (s', .err c)) :
    s' = s ∨ KeyReset s s' ∨
    (e.anPartial = true ∧ s' = { s with tainted := true } ∧ ∃ v, op = .assignNode v ∧ isRec v = true) :=
  step_err h

/-- Outside a key assembler, for an engine that rolls a refused `AssignNode` back (the reflection binding), EVERY
    refusal - wrong kind, repeated key given to `AssembleEntry`, missing field at `Finish`, a node refused part of
    the way through its copy - leaves the state exactly as it was. -/
theorem typed_reject_no_effect_outside_key {e : Engine} (he : e.anPartial = false) {s s' : TAsm.St} {op : Op}
    {c : ErrClass} (hk : TAsm.inKey s = false) (h : TAsm.step e s op = (s', .err c)) : s' = s := by
  rcases step_err h with h1 | h1 | ⟨h1, _⟩
  · exact h1
  · rw [h1.inKey] at hk; cases hk
  · rw [he] at h1; cases h1

/-- The key assembler ends only by refusing a repeated key - or, in generated code (`unknownAtKey`), a name that is
    no field.  A key assembler that refuses a wrong kind stays as it was. -/
theorem typed_key_assembler_ends_only_on {e : Engine} {s s' : TAsm.St} {op : Op} {c : ErrClass}
    (h : TAsm.step e s op = (s', .err c)) (hr : KeyReset s s') :
    c = .repeatedKey ∨ (c = .other ∧ e.unknownAtKey = true) := by
  rcases step_refused h with h1 | ⟨_, h1⟩ | ⟨_, h1, _⟩
  · subst h1
    exact absurd (hr.inKey.symm.trans hr.not_inKey) nofun
  · exact h1
  · have := hr.not_inKey
    rw [h1] at this
    exact absurd (hr.inKey.symm.trans this) nofun

/-- why the second case of `typed_reject_no_effect` is there: `{"a":1}` begun, `"a"` handed to the key assembler - the
    call is refused and the map assembler expects a key again, which is not the state the call met -/
example :
    let s0 := (TAsm.run .bindnode (TAsm.init exMapTy) (exDupViaKeyAsm.take 4)).1
    TAsm.inKey s0 = true ∧ (TAsm.run .bindnode s0 [.assign (.str [97])]).2 = [.err .repeatedKey] ∧
    TAsm.inKey (TAsm.run .bindnode s0 [.assign (.str [97])]).1 = false := by decide +kernel

/-- why the third case is there: a list of Int is handed the node `[1,"x"]`.  The reflection binding refuses and is as
    before (the history goes on and builds `[5]`); generated code refuses and is wedged - the model stops there. -/
example :
    (TAsm.run .bindnode (TAsm.init (.list .int false)) exRefusedNode).2 = [.err .wrongKind, .ok, .ok, .ok, .ok] ∧
    TAsm.build (TAsm.run .bindnode (TAsm.init (.list .int false)) exRefusedNode).1
      = some (.list (.cons (.int 5) .nil)) ∧
    (TAsm.run .gen (TAsm.init (.list .int false)) exRefusedNode).2 = [.err .wrongKind, .panic] ∧
    (TAsm.run .gen (TAsm.init (.list .int false)) exRefusedNode).1.tainted = true := by decide +kernel

/-! ### (b) a repeated key is refused at the call that supplies it -/

/-- For `AssembleEntry`.  In any state satisfying the invariant (every
    reachable state, `typed_inv_run` below) in which the current object is a map or struct assembler expecting a key:
    `AssembleEntry(k)` with a key `k` that this map / struct has already accepted is answered by that very call with
    the repeated-key error, and nothing changes.  Every engine. -/
theorem typed_repeated_key_rejected_at_call {e : Engine} {s : TAsm.St} (hi : TAsm.Inv s) (ht : s.tainted = false)
    (hx : expectsKey s = true) {k : Bytes} (hk : k ∈ acceptedKeys s) :
    TAsm.step e s (.assembleEntry k) = (s, .err .repeatedKey) := by
  rw [step_of_not_tainted ht]
  show stepPrim e s (.assembleEntry k) = _
  have h := shape s
  generalize pos s = p at h
  cases h with
  | mapInit => simp [stepPrim, hasKey_iff.2 hk]
  | structInit =>
    obtain ⟨f, hf⟩ := hi.top_struct_field hk
    simp [stepPrim, hasKey_iff.2 hk, hf]
  | _ => cases hx

/-- ... and through the KEY ASSEMBLER (`AssembleKey().AssignString(k)` or `.AssignNode(string node)`): answered by that
    very call with the repeated-key error, the key assembler ends and the map / struct assembler expects a key
    again.  For a struct this holds of every engine; for a typed map the hypothesis `keyAsmDupMapKey = false` is
    needed - generated code accepts the key there (known finding `C13/gen-keyAsmDupMapKey`, example below). -/
theorem typed_repeated_key_rejected_by_key_assembler {e : Engine} {s : TAsm.St} (hi : TAsm.Inv s)
    (ht : s.tainted = false) (hx : TAsm.inKey s = true) {k : Bytes} (hk : k ∈ acceptedKeys s)
    (he : e.keyAsmDupMapKey = false ∨ inStruct s = true) :
    ∃ s', KeyReset s s' ∧
      TAsm.step e s (.assign (.str k)) = (s', .err .repeatedKey) ∧
      TAsm.step e s (.assignNode (.str k)) = (s', .err .repeatedKey) := by
  -- on a key assembler `AssignNode` of a string node is `AssignString`: both calls are `supplyKey`
  have h2 : TAsm.step e s (.assign (.str k)) = supplyKey e s k ∧ TAsm.step e s (.assignNode (.str k)) = supplyKey e s k := by
    rw [step_of_not_tainted ht, step_of_not_tainted ht]
    exact ⟨stepPrim_at_key ((pos_key_iff_inKey s).2 hx) _, stepPrim_at_key ((pos_key_iff_inKey s).2 hx) _⟩
  rw [h2.1, h2.2]
  suffices ∃ s', KeyReset s s' ∧ supplyKey e s k = (s', .err .repeatedKey) from this.imp fun s' h => ⟨h.1, h.2, h.2⟩
  have h := shape s
  generalize pos s = p at h
  cases h with
  | mapKey =>
    have he' : e.keyAsmDupMapKey = false := he.resolve_right nofun
    exact ⟨_, Or.inl ⟨_, _, _, _, rfl, rfl⟩, by simp [TAsm.supplyKey, hasKey_iff.2 hk, he']⟩
  | structKey =>
    obtain ⟨f, hf⟩ := hi.top_struct_field hk
    exact ⟨_, Or.inr ⟨_, _, _, rfl, rfl⟩, by simp [TAsm.supplyKey, hasKey_iff.2 hk, hf]⟩
  | _ => cases hx

/-- the hypothesis on the engine is needed: the generated typed map takes `"a"` a second time through its key assembler -/
example :
    (TAsm.run .gen (TAsm.init exMapTy) exDupViaKeyAsm).2 = [.ok, .ok, .ok, .ok, .ok] ∧
    (TAsm.run .bindnode (TAsm.init exMapTy) exDupViaKeyAsm).2 = [.ok, .ok, .ok, .ok, .err .repeatedKey] := by decide +kernel

/-- the hypotheses of the two theorems are satisfiable: after `{"a":1}` the state expects a key, has accepted `"a"`,
    and satisfies the invariant -/
example :
    let s := (TAsm.run .bindnode (TAsm.init exMapTy) (exDupViaKeyAsm.take 3)).1
    TAsm.Inv s ∧ s.tainted = false ∧ expectsKey s = true ∧ [97] ∈ acceptedKeys s :=
  ⟨run_inv _ rfl (init_inv (by decide) (by decide)), by decide +kernel, by decide +kernel, by decide +kernel⟩

/-! ### (c) a value of a kind the position cannot hold is refused -/

/-- The current object is a value assembler for type `t` in a slot that is nullable
    iff `nul` (`pos s = .value t nul`: the root builder, a list element, a map value, the value of a struct field).
    Of the calls it offers (`valueCall`: the scalar assignments, `BeginMap`, `BeginList`) it accepts EXACTLY those
    listed by `accepts t nul` - `AssignNull` iff the slot is nullable, the scalar assignment of the type's own kind
    (an Int within int64), `BeginMap` iff `t` is a map or struct, `BeginList` iff `t` is a list - and every other one
    is answered with an error by that call and leaves the state exactly as it was.  Never a panic.  Every engine. -/
theorem typed_wrong_kind_rejected {e : Engine} {s : TAsm.St} {t : Ty} {nul : Bool} (ht : s.tainted = false)
    (hp : pos s = .value t nul) {op : Op} (hc : TAsm.valueCall op = true) :
    (accepts t nul op = true → (TAsm.step e s op).2 = .ok) ∧
    (accepts t nul op = false → ∃ c, TAsm.step e s op = (s, .err c)) := by
  rw [step_prim ht (stepPrim_at_value hp op) (by rintro v rfl; cases hc)]
  cases op with
  | assign v =>
    simp only [TAsm.valueCall] at hc
    simp only [accepts, valuePrim, beq_iff_eq]
    constructor
    · intro h; rw [h]; exact deliver_ok_of_pos hp
    · intro h
      have h' : scalarOut t nul v ≠ .ok := by simpa using h
      have hnp := scalarOut_ne_panic (ty := t) (nul := nul) hc
      cases ho : scalarOut t nul v with
      | ok => exact absurd ho h'
      | err c => exact ⟨c, rfl⟩
      | panic => exact absurd ho hnp
  | beginMap n =>
    by_cases hm : (∃ vty vnul, t = .map vty vnul) ∨ ∃ F r, t = .struct F r
    · rcases hm with ⟨_, _, rfl⟩ | ⟨_, _, rfl⟩ <;> exact ⟨fun _ => rfl, nofun⟩
    · refine ⟨fun h => ?_, fun _ => ⟨_, valuePrim_beginMap_refused hm n⟩⟩
      simp only [accepts] at h
      split at h
      · exact absurd (.inl ⟨_, _, rfl⟩) hm
      · exact absurd (.inr ⟨_, _, rfl⟩) hm
      · cases h
  | beginList n =>
    by_cases hl : ∃ ety enul, t = .list ety enul
    · obtain ⟨_, _, rfl⟩ := hl
      exact ⟨fun _ => rfl, nofun⟩
    · refine ⟨fun h => ?_, fun _ => ⟨_, valuePrim_beginList_refused hl n⟩⟩
      simp only [accepts] at h
      split at h
      · exact absurd ⟨_, _, rfl⟩ hl
      · cases h
  | _ => cases hc

/-- Which scalar assignments `accepts` lists, without reference to the machine: those whose value conforms to the type
    in C09's sense (`Schema.conforms`), an integer moreover within int64.  `plain t` is needed: for `any`, unions and
    enums the machine is no model of the code (at such a type it refuses every call but `AssignNull` in a nullable slot;
    the driver answers `unsupported`). -/
theorem typed_accepts_scalar_iff_conforms {t : Ty} (hp : plain t = true) (nul : Bool) {v : DM}
    (hs : Asm.isScalar v = true) :
    accepts t nul (.assign v) = true ↔
      (conforms t nul (TL.ofDM v) = true ∧ ∀ i, v = .int i → inInt64 i = true) := by
  have hi : int64s v = true ↔ ∀ i, v = .int i → inInt64 i = true := by
    cases v with
    | int j => exact ⟨fun h i e => (DM.int.inj e) ▸ h, fun h => h j rfl⟩
    | list _ => cases hs
    | map _ => cases hs
    | _ => exact ⟨fun _ i e => (nomatch e), fun _ => rfl⟩
  simp only [accepts, beq_iff_eq, scalarOut_ok_iff hp nul hs, Bool.and_eq_true, hi]

/-- A key assembler (the keys of the fragment are Strings) refuses every scalar that is not a string, `BeginMap`,
    `BeginList` and every node that is not a string, at that call, with the wrong-kind error, and stays as it was.
    Every engine. -/
theorem typed_key_assembler_accepts_only_strings {e : Engine} {s : TAsm.St} (ht : s.tainted = false)
    (hx : TAsm.inKey s = true) :
    (∀ v, Asm.isScalar v = true → (∀ k, v ≠ .str k) →
        TAsm.step e s (.assign v) = (s, .err .wrongKind) ∧ TAsm.step e s (.assignNode v) = (s, .err .wrongKind)) ∧
    (∀ n, TAsm.step e s (.beginMap n) = (s, .err .wrongKind)) ∧
    (∀ n, TAsm.step e s (.beginList n) = (s, .err .wrongKind)) ∧
    (∀ v, isRec v = true → TAsm.step e s (.assignNode v) = (s, .err .wrongKind)) := by
  have hk : ∀ op, stepPrim e s op = keyPrim e s op := stepPrim_at_key ((pos_key_iff_inKey s).2 hx)
  rw [step_eq]
  obtain ⟨h1, h234⟩ := Mach.step_refuses (mach e) ht (fun n => hk (.beginMap n)) (fun n => hk (.beginList n))
  refine ⟨fun v hs hn => h1 v hs ((hk _).trans ?_), h234⟩
  cases v <;> first | (cases hs; done) | rfl | exact absurd rfl (hn _)

/-- The remaining call of a value assembler, `AssignNode(v)`, is the whole-value
    builder of C09.  At a value assembler for a plain type `t` (slot nullable iff `nul`), for every node `v` (any tree, with
    or without repeated keys) and every engine whose key assemblers refuse a repeated map key:
    * if `v` conforms to `t` in C09's sense (`Schema.conforms`) and its integers fit int64, the call is accepted and
      delivers the canonical typed value `Schema.normalize t v` (struct fields in declaration order, unset optional
      fields `absent`) - exactly what `Schema.build Engine.ideal .type t` returns for `v` (`Props.C09.ofType_eq`);
    * otherwise the call is refused and the state is as it was - or, for an engine with `anPartial`, marked (third case of
      `typed_reject_no_effect`).  Never a panic. -/
theorem typed_assignNode_iff_conforms {e : Engine} (he : e.keyAsmDupMapKey = false) {s : TAsm.St} {t : Ty}
    {nul : Bool} (ht : s.tainted = false) (hp : pos s = .value t nul) (hpl : plain t = true) (v : DM) :
    ((conforms t nul (TL.ofDM v) && int64s v) = true →
      TAsm.step e s (.assignNode v) = ((deliver s (Schema.normalize t (TL.ofDM v))).1, .ok)) ∧
    ((conforms t nul (TL.ofDM v) && int64s v) = false →
      ∃ c, TAsm.step e s (.assignNode v) = (s, .err c) ∨
        (e.anPartial = true ∧ TAsm.step e s (.assignNode v) = ({ s with tainted := true }, .err c))) :=
  step_assignNode_spec he ht hp hpl v

/-- On a fresh builder of a well-formed plain type, one `AssignNode(d)` and C09's ideal
    whole-value builder `ofType Engine.ideal` are the same function of `d` (for trees whose integers fit int64): the call is
    accepted iff the ideal builder accepts, and `Build` returns the node the ideal builder returns.  With
    `typed_history_result` this ties every call-by-call history to the whole-value model: a history builds what its
    accepted calls build, and a tree handed over whole builds what C09 says. -/
theorem typed_assignNode_is_ofType {e : Engine} (he : e.keyAsmDupMapKey = false) {ty : Ty} (hwf : ty.wf = true)
    (hpl : plain ty = true) (d : DM) (hi : int64s d = true) :
    TAsm.build (TAsm.run e (TAsm.init ty) [.assignNode d]).1 =
      (match ofType Schema.Engine.ideal ty d with
       | .ok w => some w
       | _ => none) := by
  obtain ⟨h1, h2⟩ := typed_assignNode_iff_conforms he (s := TAsm.init ty) (t := ty) (nul := false) rfl rfl hpl d
  unfold ofType
  rw [Schema.build_type hwf]
  cases hc : conforms ty false (TL.ofDM d) with
  | true =>
    have hs := h1 (by rw [hc, hi]; rfl)
    simp only [if_true]
    rw [TAsm.run_eq_hist, Hist.run_cons_ok hs]
    rfl
  | false =>
    obtain ⟨c, hs | ⟨_, hs⟩⟩ := h2 (by rw [hc]; rfl)
    · simp only [Bool.false_eq_true, if_false]
      rw [TAsm.run_eq_hist, Hist.run_cons_err hs]
      rfl
    · simp only [Bool.false_eq_true, if_false]
      rw [TAsm.run_eq_hist, Hist.run_cons_err hs]
      rfl

/-- both branches occur: the struct takes `{"b":null,"a":5}` whole (and lists `a` first), and refuses `{"b":null}` -/
example :
    TAsm.build (TAsm.run .bindnode (TAsm.init exStructTy)
      [.assignNode (.map (.cons [98] .null (.cons [97] (.int 5) .nil)))]).1
      = some (.map (.cons [97] (.int 5) (.cons [98] .null .nil))) ∧
    (TAsm.run .bindnode (TAsm.init exStructTy) [.assignNode (.map (.cons [98] .null .nil))]).2 = [.err .other] := by
  decide +kernel

/-- `plain` is needed: at a position of type `any` the code accepts every scalar, the machine (which does not model
    `any`) none - while `Schema.conforms` says the value conforms -/
example : conforms .any false (TL.ofDM (.int 1)) = true ∧
    (TAsm.run .bindnode (TAsm.init .any) [.assignNode (.int 1)]).2 = [.err .wrongKind] := by decide +kernel

/-- The reflection binding accepts a struct key that is no field and then refuses every value for it: the current object
    is its error assembler, which answers every call it offers with a plain error and stays. -/
theorem typed_error_assembler_refuses_everything {e : Engine} {s : TAsm.St} (ht : s.tainted = false)
    (hp : pos s = .errAsm) {op : Op} (hc : TAsm.valueCall op = true) :
    TAsm.step e s op = (s, .err .other) := by
  rw [step_prim ht (stepPrim_at_errAsm hp op) (by rintro v rfl; cases hc)]
  cases op <;> first | (cases hc; done) | rfl | simp [errPrim, show Asm.isScalar _ = true from hc]

/-- a name that is no field: accepted by the reflection binding's struct assembler, every value for it refused;
    refused at the key by generated code -/
example :
    (TAsm.run .bindnode (TAsm.init exStructTy) exUnknownField).2 = [.ok, .ok, .err .other, .err .other, .err .other] ∧
    (TAsm.run .gen (TAsm.init exStructTy) (exUnknownField.take 2)).2 = [.ok, .err .other] := by decide +kernel

/-! ### (d) what is built conforms to the type -/

theorem typed_inv_init {ty : Ty} (hwf : ty.wf = true) (hpl : plain ty = true) : TAsm.Inv (TAsm.init ty) :=
  init_inv hwf hpl

/-- Every call preserves the invariant, whatever its outcome (accepted, refused, misuse) and whatever node is handed
    to `AssignNode` (the copy checks it entry by entry) - for an engine whose key assemblers refuse a repeated map
    key.  The invariant (`TAsm.Inv`): every value held - entries of the open containers, the finished root - is
    `Good` for the position it was delivered to (conforms to the position's type, carries no key twice, is in
    canonical form); the keys of every open map / struct are pairwise distinct, a struct's keys are field names, a
    pending key is not among the accepted ones; every open container was begun at a position of its own type. -/
theorem typed_inv_step {e : Engine} (he : e.keyAsmDupMapKey = false) {s : TAsm.St} (op : Op) (hi : TAsm.Inv s) :
    TAsm.Inv (TAsm.step e s op).1 := step_inv he s op hi

theorem typed_inv_run {e : Engine} (he : e.keyAsmDupMapKey = false) {s : TAsm.St} (h : List Op) (hi : TAsm.Inv s) :
    TAsm.Inv (TAsm.run e s h).1 := run_inv h he hi

/-- For every well-formed type of the fragment (`plain`: the types whose builders the machine
    models), every history of calls on a fresh builder - with refused
    calls, with misuse, with any nodes handed to `AssignNode` - and every engine whose key assemblers refuse a
    repeated map key: if `Build` returns a node `v`, then
    * `v` conforms to the type in C09's sense (`Schema.conforms`: kinds right, null only where nullable, no unknown
      and no repeated field or key, every required field present);
    * no map anywhere in `v` carries a key twice;
    * `v` is in canonical form (its own `Schema.normalize`: structs list all their fields in declaration order). -/
theorem typed_built_conforms {e : Engine} (he : e.keyAsmDupMapKey = false) {ty : Ty} (hwf : ty.wf = true)
    (hpl : plain ty = true) (h : List Op) {v : TL} (hb : TAsm.build (TAsm.run e (TAsm.init ty) h).1 = some v) :
    conforms ty false v = true ∧ TAsm.NoDup v ∧ Schema.normalize ty v = v := by
  have hi : TAsm.Inv (TAsm.run e (TAsm.init ty) h).1 := run_inv h he (init_inv hwf hpl)
  have hg := build_good hi hb
  rw [run_ty] at hg
  exact ⟨hg.conf, hg.nodup, hg.canon⟩

/-- The tie to C09's whole-value builder.  The node built call by call is exactly what
    the IDEAL type-level builder of the schema model (`Schema.ofType Engine.ideal`, C09: accepts exactly conforming
    data) builds when it is fed that node as one tree: it accepts it and returns it unchanged.  (A value showing an
    unset optional field as `absent` is no data-model tree; for those the statement quantifies over nothing and
    `typed_built_conforms` is what is known.) -/
theorem typed_built_is_ideal_build {e : Engine} (he : e.keyAsmDupMapKey = false) {ty : Ty} (hwf : ty.wf = true)
    (hpl : plain ty = true) (h : List Op) {v : TL} (hb : TAsm.build (TAsm.run e (TAsm.init ty) h).1 = some v)
    (d : DM) (hd : TL.ofDM d = v) : ofType Schema.Engine.ideal ty d = .ok v := by
  obtain ⟨h1, _, h3⟩ := typed_built_conforms he hwf hpl h hb
  unfold ofType
  rw [Schema.build_type hwf, hd, if_pos h1, h3]

/-- A built struct lists exactly its fields, in declaration order; a field that shows as
    `absent` is optional - every required field is present. -/
theorem typed_built_struct_fields {e : Engine} (he : e.keyAsmDupMapKey = false) {F : Fields}
    {r : Schema.StructRepr} (hwf : (Ty.struct F r).wf = true) (hpl : plain (Ty.struct F r) = true) (h : List Op)
    {v : TL} (hb : TAsm.build (TAsm.run e (TAsm.init (.struct F r)) h).1 = some v) :
    ∃ es, v = .map es ∧ keysOf es = F.toList.map (·.name) ∧
      ∀ p ∈ es.toList, ∃ f, fieldOf F.toList p.1 = some f ∧ (p.2 = .absent → f.opt = true) := by
  obtain ⟨h1, h2, h3⟩ := typed_built_conforms he hwf hpl h hb
  apply good_struct_shape (nul := false) ⟨h1, h2, h3⟩
  intro hv; subst hv; simp [conforms] at h1

/-- The engine hypothesis of (d) is needed: generated code takes `"a"` twice through the key assembler of a typed map
    and builds a node that carries it twice. -/
example :
    TAsm.build (TAsm.run .gen (TAsm.init exMapTy) (exDupViaKeyAsm ++ [.assembleValue, .assign (.int 2), .finish])).1
      = some (.map (.cons [97] (.int 1) (.cons [97] (.int 2) .nil))) := by decide +kernel

example : exStructTy.wf = true := by decide +kernel

/-- the struct history builds `{"a":5,"b":["x"]}` - declaration order, although `b` was supplied first -/
example : TAsm.build (TAsm.run .bindnode (TAsm.init exStructTy) exStructHistory).1 = some exStructBuilt := by decide +kernel

/-- an unset optional field shows as `absent` -/
example : TAsm.build (TAsm.run .bindnode (TAsm.init exStructTy) exStructShort).1
    = some (.map (.cons [97] (.int 5) (.cons [98] .absent .nil))) := by decide +kernel

example : conforms exStructTy false exStructBuilt = true ∧
    ofType Schema.Engine.ideal exStructTy (.map (.cons [97] (.int 5) (.cons [98] (.list (.cons (.str [120]) .nil)) .nil)))
      = .ok exStructBuilt := by decide +kernel

/-! ### (e) a history with refused calls builds what the history without them builds -/

theorem typed_erase_sublist (e : Engine) (s : TAsm.St) (h : List Op) : (TAsm.erase e s h).Sublist h := by
  rw [TAsm.erase, TAsm.eraseFrom_eq_hist]
  exact Hist.eraseFrom_sublist s [] h

/-- Take any history `h` run from a state `s` whose current object is not a key assembler, in
    which no call was misuse (no panic) and which did not end in a state an engine with `anPartial` left half done.
    Erase from `h` every call that was refused, and every `AssembleKey` whose key assembler ended by a refusal
    (`TAsm.erase`).  Then running the erased history from `s` reaches exactly the same final state - so `Build` returns
    the same node: the node built holds exactly the accepted entries, in call order - and every call of the erased
    history is accepted.  As for the generic builders, the erased history is computed together with running, and the
    start-state condition is needed because a key assembler handed out before the history began cannot be un-handed by
    erasing calls of the history.  The third hypothesis excludes exactly the histories in which generated code was handed
    a node it refused part of the way through (`typed_reject_no_effect`, third case); it holds of every history of an
    engine without `anPartial` (`typed_never_tainted`, next). -/
theorem typed_history_result (e : Engine) (s : TAsm.St) (h : List Op) (hk : TAsm.inKey s = false)
    (hn : Out.panic ∉ (TAsm.run e s h).2) (ht : (TAsm.run e s h).1.tainted = false) :
    TAsm.run e s (TAsm.erase e s h) = ((TAsm.run e s h).1, List.replicate (TAsm.erase e s h).length .ok) := by
  unfold TAsm.erase
  rw [TAsm.run_eq_hist, TAsm.eraseFrom_eq_hist, TAsm.step_eq] at *
  exact Hist.eraseFrom_runs (TAsm.keyed e).keyAsm h (.none hk) hn ht

/-- An engine that rolls a refused `AssignNode` back never leaves the contract's machine. -/
theorem typed_never_tainted {e : Engine} (he : e.anPartial = false) (s : TAsm.St) (hs : s.tainted = false)
    (h : List Op) : (TAsm.run e s h).1.tainted = false :=
  (TAsm.run_not_tainted he s h).trans hs

/-- `typed_history_result` for a fresh builder of the reflection binding (or any engine without `anPartial`): the
    history with the refused calls erased is accepted call by call and `Build` returns the same node. -/
theorem typed_history_result_init {e : Engine} (he : e.anPartial = false) (ty : Ty) (h : List Op)
    (hn : Out.panic ∉ (TAsm.run e (TAsm.init ty) h).2) :
    TAsm.build (TAsm.run e (TAsm.init ty) (TAsm.erase e (TAsm.init ty) h)).1
      = TAsm.build (TAsm.run e (TAsm.init ty) h).1 ∧
    ∀ o ∈ (TAsm.run e (TAsm.init ty) (TAsm.erase e (TAsm.init ty) h)).2, o = .ok := by
  have := typed_history_result e (TAsm.init ty) h rfl hn (typed_never_tainted he _ rfl h)
  rw [this]
  exact ⟨rfl, fun o ho => (List.mem_replicate.1 ho).2⟩

/-! ### (f) the typed builders refine the generic ones -/

/-- Take a history every call of which the typed machine accepts (fresh builder of a
    well-formed type of the fragment; an engine whose key assemblers refuse a repeated map key).  Then the GENERIC machine
    of `Model/Assembler.lean` (basicnode's Any builder, C01/C12) accepts every call of it too, and if the typed builder
    has built a node `w`, the generic builder has built a data-model tree `d` that is a source of `w`: its integers fit
    int64 and C09's ideal whole-value builder turns it into exactly `w` (`ofType Engine.ideal ty d = ok w` - `d` conforms
    to the type and `w` is its canonical typed value: struct entries in declaration order, unset optional fields made
    explicit).  So the typed builders add checks and a canonical order to the generic protocol and nothing else: the
    entries a typed node holds are the entries the same calls give the generic builder, in call order. -/
theorem typed_refines_generic {e : Engine} (he : e.keyAsmDupMapKey = false) {ty : Ty} (hwf : ty.wf = true)
    (hpl : plain ty = true) (h : List Op) (hall : ∀ o ∈ (TAsm.run e (TAsm.init ty) h).2, o = .ok) :
    (Asm.run (Asm.init .any) h).2 = List.replicate h.length .ok ∧
    ∀ w, TAsm.build (TAsm.run e (TAsm.init ty) h).1 = some w →
      ∃ d, Asm.build (Asm.run (Asm.init .any) h).1 = some d ∧ int64s d = true ∧
        ofType Schema.Engine.ideal ty d = .ok w := by
  obtain ⟨gs', hg, hsim⟩ := sim_run he h (sim_init ty) (init_inv hwf hpl)
    (Hist.runs_of_all_ok h _ (TAsm.run_eq_hist e ▸ hall))
  rw [← TAsm.run_eq_hist] at hsim
  rw [show Asm.run _ h = _ from hg]
  refine ⟨rfl, ?_⟩
  intro w hb
  unfold TAsm.build at hb
  split at hb
  · rename_i hemp
    have hfr := hsim.frames
    have hgfr : gs'.frames = [] := by
      generalize (TAsm.run e (TAsm.init ty) h).1.frames = tfr at hfr hemp
      generalize gs'.frames = gfr at hfr
      cases hfr with
      | nil => rfl
      | cons _ _ => cases hemp
    rcases hsim.root with ⟨h1, _⟩ | ⟨d, w', hgd, htw, hsrc⟩
    · rw [h1] at hb; cases hb
    · rw [htw] at hb
      cases hb
      rw [run_ty] at hsrc
      have hsrc' : SrcV ty false d w := hsrc
      refine ⟨d, by simp [Asm.build, hgfr, hgd], hsrc'.1.ints, ?_⟩
      unfold ofType
      rw [Schema.build_type hwf, if_pos hsrc'.1.conf, hsrc'.2]
  · cases hb

/-- (e) and (f) together, for ANY history on the reflection binding's builders (or any
    engine with neither deviation) that contains no misuse: erase the refused calls (`TAsm.erase`); what is left is accepted
    call by call by the GENERIC builder, which builds from it a tree `d` - the accepted entries, in call order - and the node
    `w` the typed builder returns for the whole history is exactly what C09's ideal builder makes of `d`. -/
theorem typed_history_is_generic_build {e : Engine} (he : e.keyAsmDupMapKey = false) (hp : e.anPartial = false)
    {ty : Ty} (hwf : ty.wf = true) (hpl : plain ty = true) (h : List Op)
    (hn : Out.panic ∉ (TAsm.run e (TAsm.init ty) h).2) {w : TL}
    (hb : TAsm.build (TAsm.run e (TAsm.init ty) h).1 = some w) :
    let h' := TAsm.erase e (TAsm.init ty) h
    (Asm.run (Asm.init .any) h').2 = List.replicate h'.length .ok ∧
    ∃ d, Asm.build (Asm.run (Asm.init .any) h').1 = some d ∧ ofType Schema.Engine.ideal ty d = .ok w := by
  intro h'
  have hr := typed_history_result e (TAsm.init ty) h rfl hn (typed_never_tainted hp _ rfl h)
  have hall : ∀ o ∈ (TAsm.run e (TAsm.init ty) h').2, o = .ok := by
    intro o ho
    rw [hr] at ho
    exact (List.mem_replicate.1 ho).2
  obtain ⟨h1, h2⟩ := typed_refines_generic he hwf hpl h' hall
  refine ⟨h1, ?_⟩
  have hb' : TAsm.build (TAsm.run e (TAsm.init ty) h').1 = some w := by rw [hr]; exact hb
  obtain ⟨d, hd, _, hof⟩ := h2 w hb'
  exact ⟨d, hd, hof⟩

/-- the struct history: its erasure, on the generic builder, builds the entries in CALL order (`b` first); the typed node
    lists them in declaration order -/
example :
    Asm.build (Asm.run (Asm.init .any) (TAsm.erase .bindnode (TAsm.init exStructTy) exStructHistory)).1
      = some (.map (.cons [98] (.list (.cons (.str [120]) .nil)) (.cons [97] (.int 5) .nil))) ∧
    ofType Schema.Engine.ideal exStructTy (.map (.cons [98] (.list (.cons (.str [120]) .nil)) (.cons [97] (.int 5) .nil)))
      = .ok exStructBuilt := by decide +kernel

/-- the engine hypothesis of (f) is needed: the history generated code accepts (a key twice through the key assembler) is
    refused by the generic builder -/
example :
    (TAsm.run .gen (TAsm.init exMapTy) exDupViaKeyAsm).2 = [.ok, .ok, .ok, .ok, .ok] ∧
    (Asm.run (Asm.init .any) exDupViaKeyAsm).2 = [.ok, .ok, .ok, .ok, .err .repeatedKey] := by decide +kernel

/-! ### (g) `Reset` makes the builder new -/

/-- `Reset()` is accepted in any state - part of the way through a history, after a refused
    call, after `Build`, after a call that panicked (`b`: the calls since then are being passed over), in a state an engine
    with `anPartial` left half done - and what follows is answered, call for call, as a NEW builder of the same type
    answers it: the outcomes are `ok` for the reset followed by those of the rest run from `init`, the final state (hence
    `Build`) is that of the rest run from `init`.  Every engine. -/
theorem typed_reset_is_init (e : Engine) (b : Bool) (s : TAsm.St) (h : List Call) :
    (TAsm.runC e b s (.reset :: h)).1 = (TAsm.runC e false (TAsm.init s.ty) h).1 ∧
    (TAsm.runC e b s (.reset :: h)).2 = .ok :: (TAsm.runC e false (TAsm.init s.ty) h).2 := by
  cases b <;> exact ⟨rfl, rfl⟩

/-- A history without resets is the history of `TAsm.run` (everything above is about it): same state, same answers. -/
theorem typed_runC_without_reset (e : Engine) (s : TAsm.St) (ops : List Op) :
    TAsm.runC e false s (ops.map .op) = TAsm.run e s ops := by
  rw [runC_eq_hist, TAsm.run_eq_hist]
  exact Hist.runC_ops s ops

/-- The state a history with at least one `Reset` ends in - so the node `Build`
    returns - is the one reached by running, on a new builder, only the calls made after the LAST reset (`tailOps`):
    nothing of what went before a reset shows, whatever it was (complete, cut off, refused calls, misuse, a wedged generated
    builder).  With `typed_history_result` applied to that tail: the node built holds exactly the entries accepted after the
    last reset, in call order.  Every engine. -/
theorem typed_reset_history_result (e : Engine) (b : Bool) (s : TAsm.St) (h : List Call)
    (hr : hasReset h = true) :
    (TAsm.runC e b s h).1 = (TAsm.run e (TAsm.init s.ty) (tailOps h)).1 ∧
    TAsm.build (TAsm.runC e b s h).1 = TAsm.build (TAsm.run e (TAsm.init s.ty) (tailOps h)).1 := by
  have : (TAsm.runC e b s h).1 = (TAsm.run e (TAsm.init s.ty) (tailOps h)).1 := by
    rw [runC_eq_hist, TAsm.run_eq_hist]
    exact Hist.runC_tail (reset := fun s => TAsm.init s.ty) (fun s op => congrArg TAsm.init (step_hdr e s op).1) (fun _ => rfl)
      b s h hr
  exact ⟨this, by rw [this]⟩

/-- (d) at full strength for histories with resets: whatever `Build` returns after
    any history of assembler calls and resets on a fresh builder conforms to the type, carries no key twice and is in
    canonical form. -/
theorem typed_built_conforms_with_resets {e : Engine} (he : e.keyAsmDupMapKey = false) {ty : Ty} (hwf : ty.wf = true)
    (hpl : plain ty = true) (h : List Call) {v : TL}
    (hb : TAsm.build (TAsm.runC e false (TAsm.init ty) h).1 = some v) :
    conforms ty false v = true ∧ TAsm.NoDup v ∧ Schema.normalize ty v = v := by
  have hg := build_good (runC_inv he false _ h (init_inv hwf hpl)) hb
  rw [runC_ty] at hg
  exact ⟨hg.conf, hg.nodup, hg.canon⟩

/-- a first history cut off inside `b`'s list, `Reset`, then `{"a":5}`: every call after the reset accepted, the node is
    `{a:5, b:absent}` - nothing of the first history shows; the same on generated code after the refused node that
    wedges it (the call after the refusal is not claimed, the reset makes the builder new) -/
example :
    (TAsm.runC .bindnode false (TAsm.init exStructTy)
      ((exStructHistory.take 5).map .op ++ [.reset] ++ exStructShort.map .op)).2
      = [.ok, .ok, .err .wrongKind, .ok, .ok, .ok, .ok, .ok, .ok, .ok] ∧
    TAsm.build (TAsm.runC .bindnode false (TAsm.init exStructTy)
      ((exStructHistory.take 5).map .op ++ [.reset] ++ exStructShort.map .op)).1
      = some (.map (.cons [97] (.int 5) (.cons [98] .absent .nil))) ∧
    (TAsm.runC .gen false (TAsm.init (.list .int false))
      (exRefusedNode.map .op ++ [.reset] ++ (exRefusedNode.drop 1).map .op)).2
      = [.err .wrongKind, .panic, .ok, .ok, .ok, .ok, .ok] ∧
    TAsm.build (TAsm.runC .gen false (TAsm.init (.list .int false))
      (exRefusedNode.map .op ++ [.reset] ++ (exRefusedNode.drop 1).map .op)).1
      = some (.list (.cons (.int 5) .nil)) := by decide +kernel

example : tailOps ((exStructHistory.take 5).map .op ++ [.reset] ++ exStructShort.map .op) = exStructShort := by decide +kernel

/-- optional fields (`b` of the example struct is optional and nullable): never supplied it is `absent` in the node,
    supplied as null it is null; a `Finish` while the REQUIRED field `a` is missing is refused and the struct assembler
    stays where it was - the history goes on and builds the node -/
example :
    (TAsm.run .bindnode (TAsm.init exStructTy)
      [.beginMap 0, .assembleEntry [98], .assign .null, .finish, .assembleEntry [97], .assign (.int 5), .finish]).2
      = [.ok, .ok, .ok, .err .other, .ok, .ok, .ok] ∧
    TAsm.build (TAsm.run .bindnode (TAsm.init exStructTy)
      [.beginMap 0, .assembleEntry [98], .assign .null, .finish, .assembleEntry [97], .assign (.int 5), .finish]).1
      = some (.map (.cons [97] (.int 5) (.cons [98] .null .nil))) := by decide +kernel

/-! ### (a)-(e) on one history per container kind -/

example : (TAsm.run .bindnode (TAsm.init exMapTy) exMapHistory).2 =
    [.ok, .ok, .ok, .err .repeatedKey, .ok, .err .repeatedKey, .ok, .err .wrongKind, .ok, .ok,
     .err .wrongKind, .err .wrongKind, .err .wrongKind, .err .wrongKind, .ok, .ok] := by decide +kernel

example : TAsm.build (TAsm.run .bindnode (TAsm.init exMapTy) exMapHistory).1
    = some (.map (.cons [97] (.int 1) (.cons [98] (.int 2) .nil))) := by decide +kernel

example : TAsm.erase .bindnode (TAsm.init exMapTy) exMapHistory =
    [.beginMap 2, .assembleEntry [97], .assign (.int 1),
     .assembleKey, .assign (.str [98]), .assembleValue, .assign (.int 2), .finish] := by decide +kernel

example : (TAsm.run .bindnode (TAsm.init exStructTy) exStructHistory).2 =
    [.ok, .ok, .err .wrongKind, .ok, .ok, .ok, .ok, .err .other, .ok, .ok, .err .repeatedKey, .ok,
     .err .repeatedKey, .ok] := by decide +kernel

example : TAsm.erase .bindnode (TAsm.init exStructTy) exStructHistory =
    [.beginMap 0, .assembleEntry [98], .beginList 1, .assembleValue, .assign (.str [120]), .finish,
     .assembleEntry [97], .assign (.int 5), .finish] := by decide +kernel

example : TAsm.build (TAsm.run .bindnode (TAsm.init exStructTy)
    (TAsm.erase .bindnode (TAsm.init exStructTy) exStructHistory)).1 = some exStructBuilt := by decide +kernel

/-- the third hypothesis of `typed_history_result` is needed: generated code, handed `[1,"x"]` for a list of Int, ends
    in a state that the history without that call does not reach -/
example :
    (TAsm.run .gen (TAsm.init (.list .int false)) (exRefusedNode.take 1)).2 = [.err .wrongKind] ∧
    TAsm.erase .gen (TAsm.init (.list .int false)) (exRefusedNode.take 1) = [] ∧
    (TAsm.run .gen (TAsm.init (.list .int false)) (exRefusedNode.take 1)).1.tainted = true ∧
    (TAsm.run .gen (TAsm.init (.list .int false)) []).1.tainted = false := by decide +kernel

end Ipld.Props.C12

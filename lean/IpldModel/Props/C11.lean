/-
  C11 — finished nodes are immutable, over the heap-level model of basicnode's map and list builders (Model/Heap.lean:
  Go slices over shared backing arrays, the header-copying shortcut `*na.w = *v2`, builders reset and reused).  Reading
  is no builder call: `absRef` (what a reader sees) and `readSet` (the locations it touches) are functions of the heap
  alone; what is proved is that *building* never disturbs what a reader of a finished node sees.  See DESIGN §13.3 C11.
-/
import IpldModel.Lemmas.HeapExamples
import IpldModel.Generated.AsmFacts
namespace Ipld.Props.C11
open Ipld Ipld.Asm Ipld.Heap

theorem frozen_inv_init : HInv {} := hinv_init

/-- Every well-formed builder call preserves the invariant: ids, array and lookup-map indices are in
    range; objects under construction are unfinished and pairwise distinct; an unfinished object
    owns its backing array and its lookup map exclusively (so in-place `append` is safe); every
    object refers only to scalars and finished nodes; finished nodes are acyclic. -/
theorem frozen_inv {s : HSt} {op : HOp} (hi : HInv s) (hw : OpWf s op) : HInv (hstep s op) :=
  hstep_inv hi hw

theorem frozen_inv_run {ops : List HOp} (hw : HistWf {} ops) : HInv (hrun {} ops) :=
  hrun_inv hinv_init hw

/-- Split a well-formed history anywhere: a node that is finished after the first
    part reads exactly the same (with any fuel) after the second part — whatever the second part
    does: store the node by reference in containers that are extended later, copy its header with
    the shortcut, reset and reuse builders, grow slices in place or by reallocation. -/
theorem read_stable (ops₁ ops₂ : List HOp) (hw : HistWf {} (ops₁ ++ ops₂)) (id : Nat)
    (hid : id ∈ (hrun {} ops₁).h.finished) (fuel : Nat) :
    absRef (hrun (hrun {} ops₁) ops₂).h fuel (.obj id) = absRef (hrun {} ops₁).h fuel (.obj id) := by
  obtain ⟨hw1, hw2⟩ := HistWf.append.1 hw
  have hi := hrun_inv hinv_init hw1
  exact (hrun_frozen hi hw2).absRef hi.heap hid fuel

/-- Footprint form: none of the locations written by the second part of the history (object headers,
    array cells, lookup maps) is a location that a reader of a node finished after the first part
    touches.  (`written` logs every write, most recent first; freshly allocated cells are not
    logged and cannot be in the read set of an older node.) -/
theorem no_write_to_finished (ops₁ ops₂ : List HOp) (hw : HistWf {} (ops₁ ++ ops₂)) :
    ∃ w, (hrun (hrun {} ops₁) ops₂).written = w ++ (hrun {} ops₁).written ∧
      ∀ l ∈ w, ∀ id ∈ (hrun {} ops₁).h.finished, ∀ fuel,
        l ∉ readSet (hrun {} ops₁).h fuel (.obj id) := by
  obtain ⟨hw1, hw2⟩ := HistWf.append.1 hw
  exact hrun_written (hrun_inv hinv_init hw1) hw2

/-- The locations a reader of a finished node touches are themselves the same after any further
    building (so the footprint statement above speaks about a fixed set). -/
theorem readSet_stable (ops₁ ops₂ : List HOp) (hw : HistWf {} (ops₁ ++ ops₂)) (id : Nat)
    (hid : id ∈ (hrun {} ops₁).h.finished) (fuel : Nat) :
    readSet (hrun (hrun {} ops₁) ops₂).h fuel (.obj id) = readSet (hrun {} ops₁).h fuel (.obj id) := by
  obtain ⟨hw1, hw2⟩ := HistWf.append.1 hw
  have hi := hrun_inv hinv_init hw1
  exact (hrun_frozen hi hw2).readSet hi.heap hid fuel

/-- One-step form, from any state satisfying the invariant: a well-formed call leaves the header,
    the visible cells and the lookup map of every finished node exactly as they were. -/
theorem step_keeps_finished {s : HSt} {op : HOp} (hi : HInv s) (hw : OpWf s op) {id : Nat}
    (hid : id ∈ s.h.finished) : SameObj s.h (hstep s op).h id :=
  (hstep_frozen hi hw).same id hid

/-- Once a node is finished it stays finished (no call un-finishes a node, so `read_stable` applies to it for
    the rest of the history). -/
theorem finished_monotone (s : HSt) (op : HOp) {id : Nat} (h : id ∈ s.h.finished) :
    id ∈ (hstep s op).h.finished :=
  Heap.finished_monotone s op h

/-- One call.  For a state satisfying the invariant whose abstraction has well-shaped map frames
    (`PInv`; it holds initially and is preserved, see `refines_run`), a well-formed call that is not
    misuse (`NoMisuse`: no `reset`, no shortcut — the pure model has no such calls —, `keyString`
    given to a key assembler and only `keyString` given to it, `assignScalar` with a scalar), and fuel
    exceeding the number of finished nodes (so that reads are not truncated): the abstraction of the
    heap-level step is the pure step on the abstraction, with the call translated by `trOp`
    (`keyString k ↦ assign (.str k)`, `assignScalar d ↦ assign d`,
    `assignNode r ↦ assignNode (absRef h fuel r)`, the others unchanged). -/
theorem refines_step {s : HSt} {op : HOp} {o : Op} (fuel : Nat) (hi : HInv s) (hw : OpWf s op)
    (hp : PInv (toPure fuel s)) (hF : s.h.finished.length < fuel) (hm : NoMisuse s op)
    (ht : trOp (absRef s.h fuel) op = some o) :
    toPure fuel (hstep s op) = (step (toPure fuel s) o).1 :=
  step_refines ⟨hi, hp, hF⟩ hw hm ht

/-- All calls, including misuse, `reset` and the shortcut: the abstraction of the heap-level step is
    the abstract step `astep`, which is `hstep` written over pure states. -/
theorem refines_astep {s : HSt} {op : HOp} (fuel : Nat) (hi : HInv s) (hw : OpWf s op)
    (hp : PInv (toPure fuel s)) (hF : s.h.finished.length < fuel) :
    toPure fuel (hstep s op) = astep (toPure fuel s) (absRef s.h fuel) op :=
  toPure_hstep ⟨hi, hp, hF⟩ hw

/-- Whole histories from the initial state: the abstraction of the heap-level run is the pure run
    (outcomes ignored) of the translated history. -/
theorem refines_run (ops : List HOp) (fuel : Nat) (hw : HistWf {} ops) (hok : HistOk {} ops)
    (hF : (hrun {} ops).h.finished.length < fuel) :
    toPure fuel (hrun {} ops) = steps (Asm.init .any) (pureOps fuel {} ops) :=
  run_refines fuel hinv_init hw hok (pinv_init fuel) hF

/-- Corollary: what `Build()` returns at heap level, read as a data-model value, is the value the
    pure model builds from the translated history (provided no call of the translated history
    panics: the pure model stops at a panic, the heap model treats misuse as a no-op). -/
theorem refines_build (ops : List HOp) (fuel : Nat) (hw : HistWf {} ops) (hok : HistOk {} ops)
    (hF : (hrun {} ops).h.finished.length < fuel)
    (hnp : Out.panic ∉ (Asm.run (Asm.init .any) (pureOps fuel {} ops)).2) :
    hbuild fuel (hrun {} ops) = Asm.build (Asm.run (Asm.init .any) (pureOps fuel {} ops)).1 := by
  rw [run_no_panic hnp, ← refines_run ops fuel hw hok hF, build_toPure]

/-- node 0 = {a: 1, b: 2}, built with size hint 4 (two spare cells) -/
example : absRef (hrun {} histA).h 5 (.obj 0) = .map (.cons ka (.int 1) (.cons kb (.int 2) .nil)) := by
  decide +kernel

example : 0 ∈ (hrun {} histA).h.finished := by decide +kernel

example : HistWf {} (histA ++ histB) := by decide +kernel

/-- after the shortcut copy (which shares the array with spare capacity), storing the node in a list
    that outgrows its capacity, storing it in another map, and three resets: still {a: 1, b: 2} -/
example : absRef (hrun (hrun {} histA) histB).h 5 (.obj 0) =
    .map (.cons ka (.int 1) (.cons kb (.int 2) .nil)) := by
  decide +kernel

/-- the same, from the theorem instead of by evaluation, for every fuel -/
example (fuel : Nat) : absRef (hrun (hrun {} histA) histB).h fuel (.obj 0) =
    absRef (hrun {} histA).h fuel (.obj 0) :=
  read_stable histA histB (by decide +kernel) 0 (by decide +kernel) fuel

/-- the shortcut copy really shares: nodes 0 and 1 have the same header after everything -/
example : (hrun (hrun {} histA) histB).h.objs.getD 0 default =
    (hrun (hrun {} histA) histB).h.objs.getD 1 default := by
  decide +kernel

/-- refinement on a concrete nested history: {a: [1, {b: null}]} -/
example : hbuild 4 (hrun {} histC) =
    some (.map (.cons ka (.list (.cons (.int 1) (.cons (.map (.cons kb .null .nil)) .nil))) .nil)) := by
  decide +kernel

example : hbuild 4 (hrun {} histC) = Asm.build (Asm.run (Asm.init .any) (pureOps 4 {} histC)).1 :=
  refines_build histC 4 (by decide +kernel) (by decide +kernel) (by decide +kernel) (by decide +kernel)

/-- (T) The write discipline the heap model's `hstep` assumes, read off the source on this run: a basicnode map/list
    assembler method that writes a field of the node under construction (`m`, `t`, `x`) is either guarded by the
    assembler's *initial* state (it panics once the node is finished), or is the child-value/key assembler's completion,
    which drops its back-pointer in the same call, or is `Begin*`, which (re)allocates the fields.  No method guarded by
    the finished state — in particular `Build` — writes anything. -/
theorem node_writes_need_unfinished_src :
    (Ipld.Generated.maFacts_src ++ Ipld.Generated.laFacts_src).all (fun f =>
      (!(f.writes.any (fun w => w == "m" || w == "t" || w == "x")) ||
        (f.guard == "maState_initial" || f.guard == "laState_initial" || f.nilsBack ||
          f.name == "BeginMap" || f.name == "BeginList")) &&
      (!(f.guard == "maState_finished" || f.guard == "laState_finished") || f.writes == [])) = true := by decide +kernel

end Ipld.Props.C11

/-
  C17 (companion) — `Has` at the one point `path_contained` had to exclude: the EMPTY key.  Its escaped form is empty, so
  its path ends in an empty component, which `filepath.Join` drops: the path of the empty key is a shard DIRECTORY, and
  `os.Stat` finds directories too, so `Has("")` answered `true` once any key with an escaped form of at most two
  characters had been stored (repaired in fed1c5b).  Here: `Stat` over a tree of files, and both versions of `Has`.
-/
import IpldModel.Props.C17
import IpldModel.Lemmas.ListMore
namespace Ipld.Props.C17
open Ipld Ipld.Store

/-- `filepath.Join`: empty elements are ignored -/
def joined (p : List Bytes) : List Bytes := p.filter (fun c => !c.isEmpty)

inductive StatRes where
  | file
  | dir
  | absent
  deriving DecidableEq, Repr

/-- `os.Stat` of a path below the base directory, on a tree that holds exactly the files of `fs`: a file path is found as
    a file, a proper prefix of a file path as a directory. -/
def stat (fs : Files) (p : List Bytes) : StatRes :=
  if fs.any (fun e => joined e.1 == p) then .file
  else if fs.any (fun e => decide (p.length < (joined e.1).length) && ((joined e.1).take p.length == p)) then .dir
  else .absent

/-- `Has` as it was: whatever `Stat` finds -/
def hasOld (esc : Bytes → Bytes) (sh : Sharder) (fs : Files) (k : Bytes) : Bool :=
  stat fs (joined (pathForKey esc sh k)) != .absent

/-- `Has` since fed1c5b: a directory is never a stored block -/
def hasNew (esc : Bytes → Bytes) (sh : Sharder) (fs : Files) (k : Bytes) : Bool :=
  stat fs (joined (pathForKey esc sh k)) == .file

/-- what `Put` leaves behind: files at the paths of NON-EMPTY keys (it refuses the empty key) -/
def Stored (sh : Sharder) (fs : Files) : Prop := ∀ e ∈ fs, ∃ k, k ≠ [] ∧ e.1 = pathForKey b32Std sh k

theorem joined_of_nonempty {p : List Bytes} (h : ∀ c ∈ p, c ≠ []) : joined p = p := by
  unfold joined
  rw [List.filter_eq_self]
  intro c hc
  have := h c hc
  cases c with
  | nil => exact absurd rfl this
  | cons _ _ => rfl

/-- the path of a non-empty key has no empty component: `Join` leaves it alone -/
theorem joined_path {n : Nat} {sh : Sharder} (hb : Bundled n sh) (k : Bytes) (hk : k ≠ []) :
    joined (pathForKey b32Std sh k) = pathForKey b32Std sh k :=
  joined_of_nonempty (fun c hc => (safeComponent_safe c (path_contained hb k hk c hc)).1)

/-- the path of the empty key, joined, is made of shard directory names only: no file of a non-empty key is there -/
theorem emptyKey_path_is_no_file {n : Nat} {sh : Sharder} (hb : Bundled n sh) (k : Bytes) (hk : k ≠ []) :
    pathForKey b32Std sh k ≠ joined (pathForKey b32Std sh []) := by
  intro e
  obtain ⟨pre, hpre, _⟩ := sharder_shape hb (b32Std [])
  have hb0 : b32Std [] = [] := rfl
  -- a path has as many components for one key as for another; the empty key's path loses its last one in `Join`
  have h1 : (pathForKey b32Std sh k).length = pre.length + 1 := by
    rw [pathForKey, bundled_length hb (b32Std k) (b32Std []), hpre, List.length_append]; rfl
  have h2 : (joined (pathForKey b32Std sh [])).length ≤ pre.length := by
    rw [pathForKey, hpre, hb0, joined, List.filter_append, List.length_append]
    exact List.length_filter_le _ pre
  rw [e] at h1
  omega

/-- on a tree that `Put` made, a file is at the (joined) path of key `k` exactly when `k` was stored - for every `k` -/
theorem file_at_path_iff {n : Nat} {sh : Sharder} (hb : Bundled n sh) (fs : Files) (hs : Stored sh fs) (k : Bytes) :
    fs.any (fun e => joined e.1 == joined (pathForKey b32Std sh k)) = (fsGet b32Std sh fs k).isSome := by
  rw [fsGet, Files.read_isSome]
  apply any_congr_mem
  intro e he
  obtain ⟨k0, hk0, he⟩ := hs e he
  rw [he, joined_path hb k0 hk0]
  by_cases hk : k = []
  · -- the empty key: its joined path is no file's path, and its path is no other key's
    subst hk
    rw [beq_false_of_ne (emptyKey_path_is_no_file hb k0 hk0), beq_false_of_ne fun x => hk0 (path_inj hb _ _ x)]
  · rw [joined_path hb k hk]

/-- The repaired `Has` answers `true` exactly for the keys that were stored - every key, the empty
    one included (for which the answer is always `false`: `Put` refuses it). -/
theorem has_iff_stored {n : Nat} {sh : Sharder} (hb : Bundled n sh) (fs : Files) (hs : Stored sh fs) (k : Bytes) :
    hasNew b32Std sh fs k = (fsGet b32Std sh fs k).isSome := by
  unfold hasNew stat
  rw [file_at_path_iff hb fs hs k]
  cases (fsGet b32Std sh fs k).isSome
  · simp only [Bool.false_eq_true, if_false]
    split <;> decide
  · simp

theorem has_empty_key_false {n : Nat} {sh : Sharder} (hb : Bundled n sh) (fs : Files) (hs : Stored sh fs) :
    hasNew b32Std sh fs [] = false := by
  rw [has_iff_stored hb fs hs, fsGet, Files.read_isSome, List.any_eq_false]
  intro e he
  obtain ⟨k0, hk0, he⟩ := hs e he
  exact fun x => hk0 (path_inj hb _ _ (he ▸ eq_of_beq x))

/-! The old `Has` is refuted on the smallest tree: one stored one-byte key ("k" ↦ base32 "NM", shard directory "00"). -/
def exTree : Files := [(pathForKey b32Std shardR12 [0x6b], [1, 2, 3])]

example : pathForKey b32Std shardR12 [0x6b] = [zeros 2, [0x4e, 0x4d]] := by decide +kernel
example : joined (pathForKey b32Std shardR12 []) = [zeros 2] := by decide +kernel
example : stat exTree (joined (pathForKey b32Std shardR12 [])) = .dir := by decide +kernel
example : hasOld b32Std shardR12 exTree [] = true := by decide +kernel      -- the defect: a key never stored, reported present
example : hasNew b32Std shardR12 exTree [] = false := by decide +kernel
example : hasNew b32Std shardR12 exTree [0x6b] = true := by decide +kernel
example : Stored shardR12 exTree := by
  intro e he
  simp only [exTree, List.mem_singleton] at he
  exact ⟨[0x6b], by decide, by rw [he]⟩

end Ipld.Props.C17

/-
  C17 (companion) — the generic storage helpers (`storage/funcs.go`, model `Model/StorageHelpers.lean`) keep a store a
  faithful key-value map: a successful `PutVec` is one `Put` of the concatenation of the pieces on every route, the
  committer of `PutStream` is one `Put` of everything written (the fallback's only once), `GetStream` / `Peek` return
  `Get`'s bytes.  Tie to the code: `C17skelHelpers`, the correspondence `C17/corr-storage-helpers` (driver `storehelp.run`).
-/
import IpldModel.Lemmas.StorageHelpers
namespace Ipld.Props.C17
open Ipld Ipld.Store Ipld.StoreHelp

/-- A successful `PutVec` leaves the contents of `Put key (concatenation of the pieces)`: the store's own `PutVec`
    (assumed all-or-nothing), its stream, or the helpers' buffer. -/
theorem putVec_ok_is_put_of_concat (st : Impl) (hv : st.VecAtomic) (s : Kv) (key : Bytes) (pieces : List Bytes)
    (h : (putVec st s key pieces).2 = true) : (putVec st s key pieces).1 = s.put key pieces.flatten := by
  rcases putVec_cases st hv s key pieces with e | e
  · rw [e] at h; cases h
  · rw [e]

/-- …and when nothing fails it does succeed, on both synthesised routes. -/
theorem putVec_succeeds (st : Impl) (hf : st.ownPutVec = none) (hp : st.failPut = false) (ho : st.failOpen = false)
    (hw : st.failWrite = none) (s : Kv) (key : Bytes) (pieces : List Bytes) :
    putVec st s key pieces = (s.put key pieces.flatten, true) := by
  have hput : put st s key pieces.flatten = (s.put key pieces.flatten, true) := by
    rw [put, hp]; rfl
  rw [putVec_synth hf, putStream, ho]
  cases st.ownStream <;> simp only [Bool.false_eq_true, if_true, if_false, writeAll_takes_all st pieces _ (Or.inr fun i _ => by rw [hw]; nofun), hput]

/-- `PutStream`'s committer: after writing `pieces` to the stream it hands out (the store's own or the buffer), the
    first commit is exactly `Put key (everything written)`. -/
theorem putStream_commit_is_put (st : Impl) (w w' : Stream) (ho : putStream st = some w) (pieces : List Bytes)
    (hw : writeAll st w pieces = (w', true)) (s : Kv) (key : Bytes) :
    (w'.commit st s key).1 = put st s key pieces.flatten :=
  commit_after_writeAll ho hw s key

/-- The fallback committer works once: a second use returns an error and stores nothing. -/
theorem putStream_commit_once (st : Impl) (hs : st.ownStream = false) (w : Stream) (ho : putStream st = some w)
    (s s' : Kv) (key key' : Bytes) : ((w.commit st s key).2.commit st s' key').1 = (s', false) := by
  obtain ⟨_, hu, _, hown⟩ := putStream_fresh ho
  rw [hs] at hown
  simp [Stream.commit, hown, hu]

/-- The helpers' buffer never refuses a write: on that route only `Put` can fail. -/
theorem putStream_buffer_takes_all (st : Impl) (hs : st.ownStream = false) (w : Stream) (ho : putStream st = some w)
    (pieces : List Bytes) : (writeAll st w pieces).2 = true := by
  obtain ⟨_, _, _, hown⟩ := putStream_fresh ho
  exact writeAll_takes_all st pieces w (Or.inl (by rw [hown, hs]))

/-- `GetStream` without a streaming store: the reader yields exactly `Get`'s bytes (and fails exactly when `Get` does). -/
theorem getStream_is_get (st : Impl) (h : st.ownGetStream = none) (s : Kv) (k : Bytes) : getStream st s k = s.get k := by
  simp [getStream, h, StoreHelp.get]

/-- `Peek` without a peekable store: exactly `Get`'s bytes. -/
theorem peek_is_get (st : Impl) (h : st.ownPeek = none) (s : Kv) (k : Bytes) : peek st s k = s.get k := by
  simp [peek, h, StoreHelp.get]

/-- With the capability the helper hands back what the store's own method returns. -/
theorem getStream_peek_own (st : Impl) (f g : Kv → Bytes → Option Bytes) (hf : st.ownGetStream = some f) (hg : st.ownPeek = some g)
    (s : Kv) (k : Bytes) : getStream st s k = f s k ∧ peek st s k = g s k := by
  simp [getStream, peek, hf, hg]

/-! ### non-vacuity -/

example : getStream {} [([1], [7, 8])] [1] = some [7, 8] ∧ peek {} [([1], [7, 8])] [2] = none ∧
    (putVec {} [([1], [7, 8])] [1] [[9]]).1 = [([1], [7, 8])] := by decide +kernel

example : putStream { ownStream := true, failOpen := true } = none ∧ (putStream {}).isSome = true := by decide +kernel

end Ipld.Props.C17

/-
  C18 (companion) — the generic vector write `storage.PutVec` (`storage/funcs.go`, model `Model/StorageHelpers.lean`) is
  all-or-nothing on every route: the store's own `PutVec` (assumed so: `Impl.VecAtomic`), the store's own stream (every
  piece written, THEN one commit: a failed `Write` returns before it), the helpers' buffer (one `Put`); with the commit
  in a `defer` it is not.  Tie to the code: `C18skelHelpers`, `C17/corr-storage-helpers`, the fsstore scenarios of c18.go.
-/
import IpldModel.Lemmas.StorageHelpers
namespace Ipld.Props.C18
open Ipld Ipld.Store Ipld.StoreHelp

/-- `PutVec` is all-or-nothing, whichever route it takes and whatever fails (opening the stream, the k-th write, the
    `Put` / commit): it returns an error with the contents untouched, or success with the contents after one `Put` of the
    concatenation of the pieces. -/
theorem putVec_atomic (st : Impl) (hv : st.VecAtomic) (s : Kv) (key : Bytes) (pieces : List Bytes) :
    putVec st s key pieces = (s, false) ∨ putVec st s key pieces = (s.put key pieces.flatten, true) :=
  putVec_cases st hv s key pieces

/-- An error return commits nothing. -/
theorem putVec_fail_commits_nothing (st : Impl) (hv : st.VecAtomic) (s : Kv) (key : Bytes) (pieces : List Bytes)
    (h : (putVec st s key pieces).2 = false) : (putVec st s key pieces).1 = s := by
  rcases putVec_atomic st hv s key pieces with e | e
  · rw [e]
  · rw [e] at h; cases h

/-- Route 1, the store's own `PutVec`: the helper returns what the store returns (all-or-nothing is the store's). -/
theorem putVec_own_vec (st : Impl) (f : Kv → Bytes → List Bytes → Kv × Bool) (hf : st.ownPutVec = some f)
    (s : Kv) (key : Bytes) (pieces : List Bytes) : putVec st s key pieces = f s key pieces := by
  simp [putVec, hf]

/-- Route 2, the store's own stream: if the write of piece `k` fails, an error is returned and nothing is committed —
    however many pieces were written before it. -/
theorem putVec_write_fails_commits_nothing (st : Impl) (hf : st.ownPutVec = none) (hs : st.ownStream = true)
    (k : Nat) (hk : st.failWrite = some k) (s : Kv) (key : Bytes) (pieces : List Bytes) (hlt : k < pieces.length) :
    putVec st s key pieces = (s, false) := by
  rw [putVec_synth hf]
  cases ho : putStream st with
  | none => rfl
  | some w =>
    obtain ⟨_, _, hn, hown⟩ := putStream_fresh ho
    simp only [writeAll_fails st k hk pieces w (hown.trans hs) (hn ▸ Nat.zero_le k) (by rwa [hn, Nat.zero_add]),
      Bool.false_eq_true, if_false]

/-- Routes 2 and 3: a refused `Put` / commit, or a stream that does not open, stores nothing either. -/
theorem putVec_put_fails_commits_nothing (st : Impl) (hf : st.ownPutVec = none) (hp : st.failPut = true ∨ (st.ownStream = true ∧ st.failOpen = true))
    (s : Kv) (key : Bytes) (pieces : List Bytes) : putVec st s key pieces = (s, false) := by
  rw [putVec_synth hf]
  rcases hp with hp | ⟨h1, h2⟩
  · have : put st s key pieces.flatten = (s, false) := by rw [put, if_pos hp]
    cases putStream st with
    | none => rfl
    | some w => simp only [this, ite_self]
  · rw [putStream, if_pos h1, if_pos h2]

/-- The commit-in-`defer` variant is not all-or-nothing: a stream whose second write fails — the first piece is
    committed under the key, and an error is returned. -/
theorem putVecDefer_commits_partial :
    putVecDefer { ownStream := true, failWrite := some 1 } [] [0x6b] [[1, 2], [3], [4]] = ([([0x6b], [1, 2])], false) ∧
    putVec { ownStream := true, failWrite := some 1 } [] [0x6b] [[1, 2], [3], [4]] = ([], false) := by
  decide +kernel

/-! ### non-vacuity -/

/-- the three routes, succeeding and failing -/
example : putVec { ownStream := true } [] [0x6b] [[1, 2], [3]] = ([([0x6b], [1, 2, 3])], true) := by decide +kernel
example : putVec {} [] [0x6b] [[1, 2], [3]] = ([([0x6b], [1, 2, 3])], true) := by decide +kernel
example : putVec { failPut := true } [] [0x6b] [[1, 2], [3]] = ([], false) := by decide +kernel
example : putVec { ownStream := true, failWrite := some 0 } [] [0x6b] [[1, 2], [3]] = ([], false) := by decide +kernel
example : putVec { ownStream := true, failWrite := some 2 } [] [0x6b] [[1, 2], [3]] = ([([0x6b], [1, 2, 3])], true) := by decide +kernel
example : putVec { ownPutVec := some fun s k ps => (Kv.put s k ps.flatten, true) } [] [0x6b] [[1, 2], [3]] = ([([0x6b], [1, 2, 3])], true) := by
  decide +kernel

example : (({} : Impl).VecAtomic) := by intro f h; cases h

end Ipld.Props.C18

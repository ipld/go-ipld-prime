/-
  C06 / C10 (companion) — links as UNTRUSTED data carry them: a link's multihash may declare more digest than its hash
  function yields, fewer, or be an identity multihash whose inline bytes are not what the storage answers with.  Every
  load entry point takes its verdict from `hashesTo`, which rebuilds the link with `BuildLink` from the link's own
  prototype, so these are statements about `buildLink l.proto` (`none` is the model's rendering of the Go panic; before
  library fix e7e1a89 `hashsum[:MhLength]` panicked - or, one byte over with spare capacity, extended the sum with zeros).
-/
import IpldModel.Lemmas.Link
namespace Ipld.Props.C06
open Ipld Ipld.Link

variable (H : Nat → Bytes → Bytes)

/-- `BuildLink` with the prototype of a version-1 link never panics, whatever the hash is and whatever digest length
    the link declares. -/
theorem buildLink_total_v1 (p : Proto) (h : Bytes) (hv : p.version = 1) : buildLink p h ≠ none := by
  rw [buildLink_of (by simp [v0ok, hv]) (truncate_eq p h)]
  simp [mkLink, hv]

/-- the hash check itself is total on a version-1 link: it answers, it does not panic -/
theorem hashCheck_total_v1 (l : Lnk) (b : Bytes) (hv : l.version = 1) :
    ∃ l', buildLink l.proto (H l.mhType b) = some l' :=
  Option.ne_none_iff_exists'.mp (buildLink_total_v1 l.proto (H l.mhType b) hv)

/-- a CIDv0 link is sha2-256 with 32 bytes by construction; with a hash function that yields 32 bytes the check is
    total there too -/
theorem hashCheck_total_v0 (l : Lnk) (b : Bytes) (hv : l.version = 0) (ht : l.mhType = sha256Code)
    (hd : l.digest.length = 32) (hH : (H sha256Code b).length = 32) :
    ∃ l', buildLink l.proto (H l.mhType b) = some l' := by
  have hok : v0ok l.proto = true := by simp [v0ok, Lnk.proto, hv, ht, hd]
  have hlen : (H l.mhType b).length = 32 := by rw [ht]; exact hH
  -- the link asks for 32 bytes and the hash has 32: cut or not, the digest is the whole hash
  have hfit : truncate l.proto (H l.mhType b) = some (H l.mhType b) := by
    rw [truncate_eq]
    split
    · rfl
    · rw [List.take_of_length_le (by simp [Lnk.proto, hd, hlen])]
  rw [buildLink_of hok hfit]
  exact ⟨_, mkLink_eq_some.mpr (Or.inl ⟨hv, hlen, rfl⟩)⟩

/-- A match pins the link's digest: it is a prefix of the hash of the content. -/
theorem hashesTo_digest_prefix (l : Lnk) (b : Bytes) (h : hashesTo H l b = true) :
    l.digest <+: H l.mhType b :=
  truncate_prefix (buildLink_digest ((hashesTo_iff H).mp h))

/-- A link that declares MORE digest than its hash function yields for the content matches no such content: nothing
    hashes to it, so no untrusted load returns anything under it. -/
theorem overlong_digest_matches_nothing (l : Lnk) (b : Bytes)
    (hlong : (H l.mhType b).length < l.digest.length) : hashesTo H l b = false := by
  cases hh : hashesTo H l b with
  | false => rfl
  | true =>
    have := (hashesTo_digest_prefix H l b hh).length_le
    omega

/-- An identity link matches only the content whose (identity) hash is the inline bytes, all of them: no content that
    merely starts with them, none that is a proper prefix of them. -/
theorem identity_matches_whole_only (l : Lnk) (b : Bytes) (hi : l.mhType = identityCode)
    (h : hashesTo H l b = true) : H l.mhType b = l.digest :=
  hashesTo_identity H hi h

/-- the consequences for the entry points: under a link with an overlong digest `Fill` never succeeds untrusted … -/
theorem fill_overlong_never_ok (l : Lnk) (s : Stream) (d : DecRun)
    (hlong : (H l.mhType s.data).length < l.digest.length) : fill H false l s d ≠ .ok := by
  intro hf
  have h3 := ((Link.fill_ok_iff H l s d).mp hf).2.2
  rw [overlong_digest_matches_nothing H l _ hlong] at h3
  cases h3

/-- … `Load` neither … -/
theorem load_overlong_never_ok (l : Lnk) (s : Stream) (d : DecRun) (reifyOk : Bool)
    (hlong : ∀ b, (H l.mhType b).length < l.digest.length) : load H false l s d reifyOk ≠ .res .ok :=
  fun h => fill_overlong_never_ok H l s d (hlong _) ((load_ok_iff H false l s d reifyOk).mp h).1

/-- … and `LoadRaw` hands out no bytes. -/
theorem loadRaw_overlong_no_bytes (l : Lnk) (s : Stream)
    (hlong : ∀ b, (H l.mhType b).length < l.digest.length) : (loadRaw H l s).2 = none := by
  rw [loadRaw_eq, overlong_digest_matches_nothing H l _ (hlong _)]
  cases s.failAt <;> rfl

/-- an identity link whose inline bytes differ from the answer's identity hash: refused by every untrusted `Fill`,
    whatever the decoder read -/
theorem fill_identity_other_content (l : Lnk) (b : Bytes) (d : DecRun) (hi : l.mhType = identityCode)
    (hne : H l.mhType b ≠ l.digest) : fill H false l ⟨b, none⟩ d ≠ .ok := by
  intro hf
  have h3 := ((Link.fill_ok_iff H l ⟨b, none⟩ d).mp hf).2.2
  exact hne (identity_matches_whole_only H l b hi h3)

/-! Non-vacuity: a concrete hash function (identity for code 0, a 2-byte "hash" otherwise), a link that claims 3 bytes
    of it, an identity link carrying a proper prefix of the answer. -/
def exH : Nat → Bytes → Bytes := fun c b => if c = 0 then b else [b.length.toUInt8, 7]

example : buildLink (Lnk.proto ⟨1, 0x55, 0x12, [1, 7, 0]⟩) (exH 0x12 [9]) = some ⟨1, 0x55, 0x12, [1, 7]⟩ := by decide +kernel
example : hashesTo exH ⟨1, 0x55, 0x12, [1, 7, 0]⟩ [9] = false := by decide +kernel
example : hashesTo exH ⟨1, 0x55, 0x12, [1, 7]⟩ [9] = true := by decide +kernel
example : hashesTo exH ⟨1, 0x55, 0x00, [9]⟩ [9, 9] = false := by decide +kernel
example : hashesTo exH ⟨1, 0x55, 0x00, [9, 9]⟩ [9, 9] = true := by decide +kernel
example : ∀ b, (exH 0x12 b).length < (⟨1, 0x55, 0x12, [1, 7, 0]⟩ : Lnk).digest.length := by intro b; simp [exH]

end Ipld.Props.C06

/-
  C14 — paths: printing then parsing a path gives back the same segments; `get` is the fold of its steps;
  what the walk visits at a path is what `get` resolves that path to.
-/
import IpldModel.Lemmas.Path
import IpldModel.Lemmas.WalkGet
import IpldModel.Lemmas.WalkExamples
namespace Ipld.Props.C14
open Ipld Ipld.Sel Ipld.Walk

/-- For a path whose segments print to non-empty, slash-free text, parsing the printed path gives segments
    with the same text, in the same order. -/
theorem parse_toString (p : Path) (h : ∀ s ∈ p, s.toString ≠ [] ∧ slashB ∉ s.toString) :
    (parsePath (pathToString p)).map Seg.toString = p.map Seg.toString := by
  rw [parsePath_pathToString p h]
  simp [List.map_map, Function.comp_def, Seg.toString]

/-- …and the parsed segments are pairwise `Equals` to the original ones (an index segment is equal to the
    string segment with its decimal text). -/
theorem parse_toString_equals (p : Path) (h : ∀ s ∈ p, s.toString ≠ [] ∧ slashB ∉ s.toString) :
    (parsePath (pathToString p)).length = p.length ∧
    ∀ ab ∈ (parsePath (pathToString p)).zip p, Seg.equals ab.1 ab.2 = true := by
  rw [parsePath_pathToString p h]
  refine ⟨by simp, ?_⟩
  clear h
  induction p with
  | nil => intro ab hab; simp at hab
  | cons s r ih =>
    intro ab hab
    simp only [List.map_cons, List.zip_cons_cons, List.mem_cons] at hab
    rcases hab with rfl | hab
    · exact equals_str_toString s
    · exact ih ab hab

/-- The empty path prints to the empty string and parses back to the empty path. -/
theorem parse_toString_nil : parsePath (pathToString []) = [] := by
  simp [pathToString, parsePath, splitSlash, splitSlash.go]

/-- Resolving a concatenated path is resolving the first part, then the second from where that arrived. -/
theorem get_eq_steps (store : List (Bytes × DM)) (fuel : Nat) (n : DM) (p q : Path) :
    get store fuel n (p ++ q) = (get store fuel n p).bind fun m => get store fuel m q :=
  get_append store fuel p q n

/-- A one-segment path is one step. -/
theorem get_single (store : List (Bytes × DM)) (fuel : Nat) (n : DM) (seg : Seg) :
    get store fuel n [seg] = getStep store fuel n seg :=
  Walk.get_single store fuel n seg

/-- Every visit of a walk — any configuration, budgets, selector — happens at a path that `get` resolves
    (with at least 2 units of link-following fuel: one for a link child, one for the block behind it), and what
    is handed to the callback is the visit event of the resolved node under some selector `s'` (the statement
    does not say which: `Props.C07.visit_is_visitEvent` ties it to a reachable position): provided no map has a
    duplicate key (root and store blocks) and no stored block is a bare link. -/
theorem visit_resolves (cfg : Cfg) (F : Nat) (root : DM) (hroot : root.NoDup)
    (hstore : ∀ c blk, storeGet cfg.store c = some blk → blk.NoDup ∧ ∀ c', blk ≠ .link c')
    (fuel : Nat) (nb lb : Option Int) (s : S) (p : Path) (m : DM) (r : Reason)
    (h : .visit p m r ∈ (walk cfg fuel nb lb root s).events) :
    ∃ n' s', get cfg.store (F + 2) root p = .ok n' ∧
      Event.visit p m r = (match matchNode s' n' with
        | some m' => .visit p m' .matched
        | none => .visit p n' .candidate) := by
  obtain ⟨n', s', hr, he⟩ := walk_visit_ok h
  exact ⟨n', s', reach_get F hroot hstore hr, he⟩

/-- A candidate visit hands over exactly the node `get` resolves the path to. -/
theorem candidate_resolves (cfg : Cfg) (F : Nat) (root : DM) (hroot : root.NoDup)
    (hstore : ∀ c blk, storeGet cfg.store c = some blk → blk.NoDup ∧ ∀ c', blk ≠ .link c')
    (fuel : Nat) (nb lb : Option Int) (s : S) (p : Path) (m : DM)
    (h : .visit p m .candidate ∈ (walk cfg fuel nb lb root s).events) :
    get cfg.store (F + 2) root p = .ok m := by
  obtain ⟨n', s', hg, he⟩ := visit_resolves cfg F root hroot hstore fuel nb lb s p m .candidate h
  split at he
  · cases he
  · cases he; exact hg

/-- A matched visit hands over `Match` of the node `get` resolves the path to, for some selector `s'` (not tied
    to the walk's selector here); that is the node itself unless it is a string or bytes (which a slicing
    matcher may cut). -/
theorem matched_resolves (cfg : Cfg) (F : Nat) (root : DM) (hroot : root.NoDup)
    (hstore : ∀ c blk, storeGet cfg.store c = some blk → blk.NoDup ∧ ∀ c', blk ≠ .link c')
    (fuel : Nat) (nb lb : Option Int) (s : S) (p : Path) (m : DM)
    (h : .visit p m .matched ∈ (walk cfg fuel nb lb root s).events) :
    ∃ n' s', get cfg.store (F + 2) root p = .ok n' ∧ matchNode s' n' = some m ∧
      ((∀ b, n' ≠ .str b) → (∀ b, n' ≠ .bytes b) → m = n') := by
  obtain ⟨n', s', hg, he⟩ := visit_resolves cfg F root hroot hstore fuel nb lb s p m .matched h
  split at he
  · rename_i m' hm
    cases he
    exact ⟨n', s', hg, hm, matchNode_self s' n' m hm⟩
  · cases he

section Examples
open Ipld.Walk.Ex
/-- `a/1` round-trips; the index comes back as the string segment "1", `Equals` to it -/
example : parsePath (pathToString [.str [0x61], .idx 1]) = [.str [0x61], .str [0x31]] := by decide +kernel
/-- the hypothesis matters: an empty segment disappears, a segment with a slash splits -/
example : parsePath (pathToString [.str [], .str [0x61]]) = [.str [0x61]] := by decide +kernel
example : parsePath (pathToString [.str [0x61, 0x2f, 0x62]]) = [.str [0x61], .str [0x62]] := by decide +kernel
/-- `PathSegmentOfInt(-1)` prints as the empty string -/
example : (Seg.ofInt (-1)).toString = [] := by decide +kernel
example : get Ex.cfg.store 3 Ex.root [.str [0x6c], .str [0x78]] = .ok (.str [0x68, 0x69]) := by decide +kernel
example : get Ex.cfg.store 3 Ex.root [.str [0x61], .idx 1] = .ok (.int 2) := by decide +kernel
/-- the example graph satisfies the hypotheses of `visit_resolves` -/
example : Ex.root.NoDup := by
  simp [Ex.root, DM.NoDup, DMs.NoDup, DMKVs.NoDupVals, DMKVs.keys, DMKVs.toList]
example : ∀ c blk, storeGet Ex.cfg.store c = some blk → blk.NoDup ∧ ∀ c', blk ≠ .link c' := by
  intro c blk h
  simp only [Ex.cfg, storeGet, List.find?] at h
  split at h
  · simp only [Option.map_some, Option.some.injEq] at h
    subst h
    simp [Ex.blk, DM.NoDup, DMKVs.NoDupVals, DMKVs.keys, DMKVs.toList]
  · simp at h
/-- the hypothesis "no stored block is a bare link" is needed: the walk hands over the loaded block (a link
    node) where `get` keeps following links -/
example : (visitsOf (walk { store := [([1], .link [2]), ([2], .int 7)] } 9 none none
      (.map (.cons [0x6c] (.link [1]) .nil)) selAll).events).map (fun v => (v.1, v.2.1))
    = [([], .map (.cons [0x6c] (.link [1]) .nil)), ([.str [0x6c]], .link [2])] := by decide +kernel
example : get [([1], .link [2]), ([2], .int 7)] 9 (.map (.cons [0x6c] (.link [1]) .nil)) [.str [0x6c]]
    = .ok (.int 7) := by decide +kernel
/-- the hypothesis "no duplicate keys" is needed: the walk iterates both entries, `get` finds the first -/
example : (visitsOf (walk {} 9 none none (.map (.cons [0x61] (.int 1) (.cons [0x61] (.int 2) .nil))) selAll).events).map
      (fun v => (v.1, v.2.1))
    = [([], .map (.cons [0x61] (.int 1) (.cons [0x61] (.int 2) .nil))), ([.str [0x61]], .int 1), ([.str [0x61]], .int 2)] := by
  decide +kernel
end Examples

end Ipld.Props.C14

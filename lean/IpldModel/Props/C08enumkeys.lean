/-
  C08 (node reading is self-consistent), typed maps keyed by a string-represented enum: at each level a lookup by key
  agrees with what iteration yields, a text that is not a key of that level's view is not found, and the representation
  view is the type-level view with every key respelled.  Model: Model/EnumKeyMap.lean (node/bindnode `LookupByString` of
  `_node` / `_nodeRepr` AFTER the fix that made type-level lookups take member names; `_mapIterator`, `_mapIteratorRepr`).
-/
import IpldModel.Lemmas.EnumKeyMap
namespace Ipld.Props.C08
open Ipld Ipld.EnumKey

/-- **Lookups agree with iteration**, in both views: every entry `(k, v)` that a view's iteration yields is found
    under `k` with value `v` by that view's lookup.  (Type level needs only a valid value; the representation level
    also distinct representation strings — the counterexample is below.) -/
theorem enumkey_lookup_agrees_with_iteration (e : EnumTy) (hwf : wf e) (m : EMap) (hv : valid e m) (k : Bytes) (v : Int) :
    ((k, v) ∈ viewType m → lookupType e m k = some v) ∧
    ((k, v) ∈ viewRepr e m → lookupRepr e m k = some v) := by
  have hT : ∀ k v, (k, v) ∈ m → lookupType e m k = some v := by
    intro k v h
    have hk : k ∈ names e := hv.2 k (List.mem_map.2 ⟨(k, v), h, rfl⟩)
    simp [lookupType, (isMember_iff e k).2 hk, assoc_of_mem hv.1 h]
  refine ⟨hT k v, ?_⟩
  intro h
  obtain ⟨⟨n, v'⟩, hmem, heq⟩ := List.mem_map.1 h
  simp only [Prod.mk.injEq] at heq
  obtain ⟨hk, hv'⟩ := heq
  subst hk; subst hv'
  have hn : n ∈ names e := hv.2 n (List.mem_map.2 ⟨(n, v'), hmem, rfl⟩)
  simp [lookupRepr, memberOfRepr_reprOf hwf.2 hn, hT n v' hmem]

/-- ... and conversely a lookup that finds something finds an entry of the view's iteration (any enum type at type
    level; distinct names at representation level). -/
theorem enumkey_lookup_found_is_entry (e : EnumTy) (hn : (names e).Nodup) (m : EMap) (k : Bytes) (v : Int) :
    (lookupType e m k = some v → (k, v) ∈ viewType m) ∧
    (lookupRepr e m k = some v → (k, v) ∈ viewRepr e m) := by
  have hT : ∀ k v, lookupType e m k = some v → (k, v) ∈ m := by
    intro k v h
    simp only [lookupType] at h
    by_cases hm : isMember e k = true
    · simp [hm] at h; exact assoc_some_mem h
    · simp [hm] at h
  refine ⟨hT k v, ?_⟩
  intro h
  simp only [lookupRepr] at h
  cases hmr : memberOfRepr e k with
  | none => simp [hmr] at h
  | some n =>
    simp [hmr] at h
    exact List.mem_map.2 ⟨(n, v), hT n v h, by simp [reprOf_memberOfRepr hn hmr]⟩

/-- **A text that is not a key of the level's view is not found** (of `wf` only the distinct member names are used, and
    only at representation level). -/
theorem enumkey_foreign_spelling_not_found (e : EnumTy) (hwf : wf e) (m : EMap) (k : Bytes) :
    (k ∉ keys (viewType m) → lookupType e m k = none) ∧
    (k ∉ keys (viewRepr e m) → lookupRepr e m k = none) := by
  refine ⟨fun h => ?_, fun h => ?_⟩
  · simp only [lookupType, viewType] at *
    simp [assoc_none_of_not_key h]
  · cases hl : lookupRepr e m k with
    | none => rfl
    | some v =>
      exact absurd (List.mem_map.2 ⟨(k, v), (enumkey_lookup_found_is_entry e hwf.1 m k v).2 hl, rfl⟩) h

/-- In particular the OTHER level's spelling of a member is not found unless it is also a spelling of this level: the
    name of a renamed member at representation level (unless it is some member's representation string), a
    representation string at type level (unless it is some member's name).  Any enum type, any value. -/
theorem enumkey_other_level_spelling_not_found (e : EnumTy) (m : EMap) (s : Bytes) :
    (s ∉ reprs e → lookupRepr e m s = none) ∧ (s ∉ names e → lookupType e m s = none) := by
  refine ⟨fun h => ?_, fun h => ?_⟩
  · simp [lookupRepr, memberOfRepr_none_of_not_repr h]
  · have : isMember e s = false := by
      cases hm : isMember e s with
      | false => rfl
      | true => exact absurd ((isMember_iff e s).1 hm) h
    simp [lookupType, this]

/-- **The views correspond**: the representation view is the type-level view with every key replaced by its
    representation string — same length, same order, same values. -/
theorem enumkey_views_correspond (e : EnumTy) (m : EMap) :
    viewRepr e m = (viewType m).map (fun kv => (reprOf e kv.1, kv.2)) ∧
    keys (viewRepr e m) = (keys (viewType m)).map (reprOf e) ∧
    (viewRepr e m).map (·.2) = (viewType m).map (·.2) ∧
    (viewRepr e m).length = (viewType m).length := by
  refine ⟨rfl, ?_, ?_, ?_⟩ <;> simp [viewRepr, viewType, keys, List.map_map, Function.comp_def]

/-- ... and under `wf` the representation view of a valid value has distinct keys too (a data-model map). -/
theorem enumkey_viewRepr_keys_distinct (e : EnumTy) (hwf : wf e) (m : EMap) (hv : valid e m) :
    (keys (viewRepr e m)).Nodup := by
  rw [(enumkey_views_correspond e m).2.1, viewType]
  exact List.pairwise_map.2 (hv.1.imp_of_mem fun ha hb hne h => hne (reprOf_inj hwf.2 (hv.2 _ ha) (hv.2 _ hb) h))

/-! ### Why `wf` -/

/-- Two members with ONE representation string (`enum { A ("x"), B ("x") }`): iteration of the representation view of
    `{B: 1}` yields the key `x`, the lookup of `x` translates it to `A` and finds nothing. -/
example :
    let e : EnumTy := [([65], [120]), ([66], [120])]
    (names e).Nodup ∧ ¬ wf e ∧ valid e [([66], 1)] ∧
      (([120], 1) : Bytes × Int) ∈ viewRepr e [([66], 1)] ∧ lookupRepr e [([66], 1)] [120] = none := by decide +kernel

/-- Two members with ONE name (`enum { A ("x"), A ("y") }`): `y` is not a key of the representation view of `{A: 1}`
    (that is `x`), but the lookup of `y` finds the entry. -/
example :
    let e : EnumTy := [([65], [120]), ([65], [121])]
    (reprs e).Nodup ∧ ¬ wf e ∧ [121] ∉ keys (viewRepr e [([65], 1)]) ∧ lookupRepr e [([65], 1)] [121] = some 1 := by decide +kernel

/-! ### Non-vacuity: `enum E { Yes ("y"), No, Maybe ("Yes") }`, value `{Yes: 1, Maybe: 2}` -/

def exKeyEnum : EnumTy := [([89, 101, 115], [121]), ([78, 111], [78, 111]), ([77, 97, 121, 98, 101], [89, 101, 115])]
def exKeyedVal : EMap := [([89, 101, 115], 1), ([77, 97, 121, 98, 101], 2)]

example : wf exKeyEnum ∧ valid exKeyEnum exKeyedVal := by decide +kernel
example : viewType exKeyedVal = [([89, 101, 115], 1), ([77, 97, 121, 98, 101], 2)] := by decide +kernel
example : viewRepr exKeyEnum exKeyedVal = [([121], 1), ([89, 101, 115], 2)] := by decide +kernel
/-- `Yes` is a key at both levels, of different entries -/
example : lookupType exKeyEnum exKeyedVal [89, 101, 115] = some 1 := by decide +kernel
example : lookupRepr exKeyEnum exKeyedVal [89, 101, 115] = some 2 := by decide +kernel
example : lookupRepr exKeyEnum exKeyedVal [121] = some 1 := by decide +kernel
/-- the other level's spellings: `y` at type level, `Maybe` at representation level -/
example : lookupType exKeyEnum exKeyedVal [121] = none := by decide +kernel
example : lookupRepr exKeyEnum exKeyedVal [77, 97, 121, 98, 101] = none := by decide +kernel
/-- a member that is not in the map -/
example : lookupType exKeyEnum exKeyedVal [78, 111] = none ∧ lookupRepr exKeyEnum exKeyedVal [78, 111] = none := by decide +kernel

end Ipld.Props.C08

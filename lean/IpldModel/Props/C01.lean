/-
  C01 — what is built is what was assembled, and the read side reports it faithfully: the canonical plan of a value (and
  every variant of it) builds exactly that value; `LookupByString` through the Go map agrees with the entry table;
  `Length`/`LookupByIndex`/wrong-kind behaviour of the read side.  `Runs s ops s'` of Lemmas/AsmInv.lean is spelled out
  here as `run s ops = (s', all ok)`.  See DESIGN §13.3 C01.
-/
import IpldModel.Lemmas.AsmPlan
import IpldModel.Lemmas.FirstOfKey
import IpldModel.Lemmas.AsmExamples
namespace Ipld.Props.C01
open Ipld Ipld.Asm

/-- Generalisation used for every subtree: whenever the current object is a value assembler that
    can take a value of `d`'s kind (the empty root builder, a map value assembler, or a list value
    assembler), running the canonical plan of a duplicate-free `d` is accepted call by call and
    leaves the assembler exactly where handing over the finished `d` in one step would leave it. -/
theorem plan_delivers {s : St} {d : DM} (hn : d.NoDup) (hv : ValuePos s d.kind) :
    run s (planOf d) = ((deliver s d).1, List.replicate (planOf d).length .ok) :=
  Plan.runs d _ (plan_planOf d) hn s hv

/-- `plan_delivers` for the value assembler of a map: under the invariant, a map frame in phase
    `midValue` takes the canonical plan of any duplicate-free `d` and ends up with `d` recorded as
    the value of the waiting entry. -/
theorem plan_delivers_map_value {s : St} (hi : Inv s) {t m rest} {d : DM} (hn : d.NoDup)
    (hf : s.frames = .map t m .midValue :: rest) :
    run s (planOf d) = ((deliver s d).1, List.replicate (planOf d).length .ok) :=
  plan_delivers hn (ValuePos.of_inv_map hi d.kind hf)

/-- For every value `d` in which no map carries a key twice, and every root prototype that accepts
    `d`'s kind (in particular `Any`): running the canonical plan of `d` on a fresh builder is
    accepted call by call, and `Build` then returns exactly `d` — same entries, same order, same
    nesting. -/
theorem plan_builds (p : Proto) (d : DM) (hn : d.NoDup) (hp : p.accepts d.kind = true) :
    ∃ s, run (init p) (planOf d) = (s, List.replicate (planOf d).length .ok) ∧
      build s = some d :=
  ⟨_, plan_delivers hn (ValuePos.root rfl rfl hp), rfl⟩

theorem plan_builds_any (d : DM) (hn : d.NoDup) :
    ∃ s, run (init .any) (planOf d) = (s, List.replicate (planOf d).length .ok) ∧
      build s = some d :=
  plan_builds .any d hn rfl

theorem planOf_is_plan (d : DM) : Plan d (planOf d) := plan_planOf d

/-- The generalisation of `plan_delivers` to every variant plan: in value position, any call
    sequence related to `d` by `Plan` is accepted call by call and has the effect of delivering
    `d`. -/
theorem plan_variant_delivers {s : St} {d : DM} {ops : List Op} (hpl : Plan d ops) (hn : d.NoDup)
    (hv : ValuePos s d.kind) :
    run s ops = ((deliver s d).1, List.replicate ops.length .ok) :=
  Plan.runs d ops hpl hn s hv

/-- Every variant plan of a duplicate-free `d` — whatever integers are passed as size hints,
    whichever entries are opened with `AssembleKey`/assign-string/`AssembleValue` instead of
    `AssembleEntry`, whichever subtrees are handed over with `AssignNode` instead of being
    assembled — is accepted call by call on a fresh builder whose prototype accepts `d`'s kind, and
    `Build` returns exactly `d`. -/
theorem plan_variant_builds (p : Proto) (d : DM) (ops : List Op) (hpl : Plan d ops) (hn : d.NoDup)
    (hp : p.accepts d.kind = true) :
    ∃ s, run (init p) ops = (s, List.replicate ops.length .ok) ∧ build s = some d :=
  ⟨_, plan_variant_delivers hpl hn (ValuePos.root rfl rfl hp), rfl⟩

/-- The size hint of `BeginMap` and of `BeginList` has no influence on the state or on the
    outcome, in any state. -/
theorem hint_ignored (s : St) (n n' : Int) :
    step s (.beginMap n) = step s (.beginMap n') ∧ step s (.beginList n) = step s (.beginList n') :=
  ⟨step_beginMap_hint s n n', step_beginList_hint s n n'⟩

/-- On a map assembler between entries, for a key not yet present, the three calls
    `AssembleKey`, assign the string `k` to the key assembler (by `AssignString` or by `AssignNode`
    of a string node), `AssembleValue` are all accepted and end in the same state as the single
    call `AssembleEntry k`. -/
theorem three_call_entry {s : St} {t m rest} {k : Bytes} (hf : s.frames = .map t m .init :: rest)
    (hk : mapHas m k = false) (keyOp : Op)
    (hko : keyOp = .assign (.str k) ∨ keyOp = .assignNode (.str k)) :
    run s [.assembleKey, keyOp, .assembleValue] = ((step s (.assembleEntry k)).1, [.ok, .ok, .ok]) ∧
    (step s (.assembleEntry k)).2 = .ok := by
  rw [step_assembleEntry hf hk]
  exact ⟨runs_open_entry hf hk hko, rfl⟩

/-- In value position, assembling a duplicate-free subtree `d` by any of its plans ends in
    the same state as handing the finished `d` over with a single `AssignNode d`, and both are
    accepted. -/
theorem assignNode_same_as_plan {s : St} {d : DM} {ops : List Op} (hpl : Plan d ops) (hn : d.NoDup)
    (hv : ValuePos s d.kind) :
    (run s ops).1 = (run s [.assignNode d]).1 ∧
    (∀ o ∈ (run s ops).2, o = .ok) ∧ (run s [.assignNode d]).2 = [.ok] := by
  have h1 := plan_variant_delivers hpl hn hv
  have h2 : run s [.assignNode d] = ((deliver s d).1, [.ok]) := plan_node_runs hv
  rw [h1, h2]
  exact ⟨rfl, fun o ho => (List.mem_replicate.1 ho).2, rfl⟩

/-- For every map frame of a state satisfying the invariant (in particular a frame in phase `init`
    that is about to be finished), and every key `k`: what Go's `LookupByString` finds through the
    lookup map `m` is exactly what a search of the finished entries in iteration order finds first —
    a hit in `m` with value `v` corresponds to `ok v`, a miss in `m` to the not-exists error.  So
    the two fields of `plainMap` never disagree about any key. -/
theorem lookup_agree {s : St} (hi : Inv s) {t m ph} (hf : Frame.map t m ph ∈ s.frames) (k : Bytes) :
    lookupByString (.map (DMKVs.ofList (tableEntries t))) k =
      match mapLookup m k with
      | some v => .ok v
      | none => .error .notExists := by
  have h : MapInv t m ph := hi.frames _ hf
  rw [h.agree k]
  simp only [lookupByString, DMKVs.toList_ofList]
  cases (tableEntries t).find? (fun e => e.1 == k) <;> rfl

/-- The same statement at the moment of `Finish`: the call hands to the parent the map value
    `d` made of the table's entries, and every lookup in `d` agrees with the Go map `m`. -/
theorem lookup_agree_finish {s : St} (hi : Inv s) {t m rest} (hf : s.frames = .map t m .init :: rest) :
    ∃ d, step s .finish = deliver { s with frames := rest } d ∧
      ∀ k, lookupByString d k =
        match mapLookup m k with
        | some v => .ok v
        | none => .error .notExists :=
  ⟨_, step_finish_map hf, fun k => lookup_agree hi (by rw [hf]; exact List.mem_cons_self ..) k⟩

/-- In a map without duplicate keys, looking up the key of any entry returns that entry's value. -/
theorem lookup_finds_entry {es : DMKVs} (hn : es.keys.Nodup) {k : Bytes} {v : DM}
    (hm : (k, v) ∈ es.toList) : lookupByString (.map es) k = .ok v := by
  rw [lookupByString, find?_key_of_mem Prod.fst hn _ hm]

/-- Looking up a key that no entry carries reports not-exists. -/
theorem lookup_missing {es : DMKVs} {k : Bytes} (hm : k ∉ es.keys) :
    lookupByString (.map es) k = .error .notExists := by
  simp only [lookupByString, find_none_iff.2 hm]

/-! `Length` is the number of entries of a map, of elements of a list, and `-1` of a scalar; `LookupByIndex` on a list
returns the element at a non-negative index in range and the not-exists error otherwise. -/

theorem length_map (es : DMKVs) : length (.map es) = (es.toList.length : Int) := rfl

theorem length_list (xs : DMs) : length (.list xs) = (xs.toList.length : Int) := rfl

theorem length_scalar {d : DM} (h : isScalar d = true) : length d = -1 := by
  cases d <;> first | rfl | simp [isScalar] at h

theorem lookupByIndex_list_nat (xs : DMs) (n : Nat) :
    lookupByIndex (.list xs) (n : Int) =
      match xs.toList[n]? with
      | some x => .ok x
      | none => .error .notExists := by
  simp only [lookupByIndex, Int.toNat_natCast]
  rw [if_neg (by omega)]
  cases xs.toList[n]? <;> rfl

theorem lookupByIndex_list_in_range (xs : DMs) (n : Nat) (h : n < xs.toList.length) :
    lookupByIndex (.list xs) (n : Int) = .ok xs.toList[n] := by
  rw [lookupByIndex_list_nat, List.getElem?_eq_getElem h]

theorem lookupByIndex_list_past_end (xs : DMs) (n : Nat) (h : xs.toList.length ≤ n) :
    lookupByIndex (.list xs) (n : Int) = .error .notExists := by
  rw [lookupByIndex_list_nat, List.getElem?_eq_none h]

theorem lookupByIndex_list_neg (xs : DMs) (i : Int) (h : i < 0) :
    lookupByIndex (.list xs) i = .error .notExists := by
  simp [lookupByIndex, h]

/-- Wrong-kind totality of `LookupByString`: on every value that is not a map (every scalar and
    every list) it returns the wrong-kind error, for every key; on a map it never does.  (The read
    side of the model has no panic outcome at all: both lookups are total functions into
    `Except ReadErr DM`.) -/
theorem lookupByString_wrongKind (d : DM) (k : Bytes) :
    lookupByString d k = .error .wrongKind ↔ d.kind ≠ .map := by
  cases d <;> simp [lookupByString, DM.kind]
  split <;> simp

/-- Wrong-kind totality of `LookupByIndex`: on every value that is not a list (every scalar and
    every map) it returns the wrong-kind error, for every index; on a list it never does. -/
theorem lookupByIndex_wrongKind (d : DM) (i : Int) :
    lookupByIndex d i = .error .wrongKind ↔ d.kind ≠ .list := by
  cases d <;> simp [lookupByIndex, DM.kind]
  split
  · simp
  · split <;> simp

/-! ### non-vacuity -/

example : exNested.NoDup := by simp [exNested, DM.NoDup, DMs.NoDup, DMKVs.NoDupVals, DMKVs.keys, DMKVs.toList]

example : build (run (init .any) (planOf exNested)).1 = some exNested := by decide +kernel

example : (run (init .map) (planOf exNested)).2 = List.replicate (planOf exNested).length .ok := by
  decide +kernel

/-- a prototype that does not accept the kind rejects the first call and nothing is built -/
example : run (init .list) (planOf exMap) |>.2.head? = some (.err .wrongKind) := by decide +kernel

example : Plan exNested exVariantPlan := by
  refine Plan.map _ _ ([.assembleKey, .assign (.str [97]), .assembleValue,
     .beginList 1000, .assembleValue, .assign (.int 1),
       .assembleValue, .assignNode (.map (.cons [120] .null .nil)), .finish,
     .assembleEntry [98], .assign (.str [115])]) ?_
  refine PlanKVs.keyAssign _ _ _ [.beginList 1000, .assembleValue, .assign (.int 1),
       .assembleValue, .assignNode (.map (.cons [120] .null .nil)), .finish]
       [.assembleEntry [98], .assign (.str [115])] ?_ ?_
  · refine Plan.list _ _ [.assembleValue, .assign (.int 1),
       .assembleValue, .assignNode (.map (.cons [120] .null .nil))] ?_
    exact PlanList.cons _ _ [_] _ (Plan.scalar _ rfl)
      (PlanList.cons _ _ [_] [] (Plan.node _) PlanList.nil)
  · exact PlanKVs.entry _ _ _ [_] [] (Plan.scalar _ rfl) PlanKVs.nil

example : build (run (init .any) exVariantPlan).1 = some exNested := by decide +kernel

/-- the duplicate-key hypothesis of `plan_builds` is needed: the plan of `{"a":1,"a":2}` has its
    second entry rejected -/
example : (run (init .any) (planOf (.map (.cons [97] (.int 1) (.cons [97] (.int 2) .nil))))).2 =
    [.ok, .ok, .ok, .err .repeatedKey, .panic] := by decide +kernel

example : lookupByString exMap [98] = .ok (.int 2) := rfl
example : lookupByString exMap [99] = .error .notExists := rfl
example : lookupByIndex exMap 0 = .error .wrongKind := rfl

end Ipld.Props.C01

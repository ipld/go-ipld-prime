/-
  C15 — what restricts a walk: under a node or a link budget it is a prefix of the walk without one; with
  `LinkVisitOnlyOnce` no link is loaded twice; a `SkipMe` link is not fetched; resumed at a start-at path it
  visits a suffix.
-/
import IpldModel.Lemmas.WalkBudget
import IpldModel.Lemmas.WalkLinkBudget
import IpldModel.Lemmas.WalkLinkOnce
import IpldModel.Lemmas.ListMore
import IpldModel.Lemmas.WalkStartAt
import IpldModel.Lemmas.WalkExamples
import IpldModel.Generated.WalkFacts
namespace Ipld.Props.C15
open Ipld Ipld.Sel Ipld.Walk

variable (cfg : Cfg) (fuel : Nat) (N : Int) (lb : Option Int) (root : DM) (s : S)

/-- Without a start-at path, the events of the walk with node budget `N` are a prefix of the events of the
    walk without a node budget; when the budgeted walk stopped on the budget it made exactly `N` visits, and
    the unbudgeted walk's next event (if any) is a visit: the cut is right before the (N+1)-th visit. -/
theorem budget_prefix (hs : cfg.startAt = []) (hN : 0 ≤ N) :
    ∃ rest, (walk cfg fuel none lb root s).events = (walk cfg fuel (some N) lb root s).events ++ rest ∧
      (rest = [] ∨ ((walk cfg fuel (some N) lb root s).outcome = .error .budgetNode ∧
        (visitsOf (walk cfg fuel (some N) lb root s).events).length = N.toNat ∧
        ∃ p m r rest', rest = .visit p m r :: rest')) := by
  obtain ⟨_, h⟩ := walk_nodeBudget_noStart cfg hs fuel N hN lb root s
  rcases h with ⟨hr, hlen, rest, he, hx⟩ | ⟨_, he, _, _⟩
  · refine ⟨rest, he, ?_⟩
    rcases hx with ⟨h1, _⟩ | hx
    · exact Or.inl h1
    · exact Or.inr ⟨hr, hlen, hx⟩
  · exact ⟨[], by rw [he]; simp, Or.inl rfl⟩

/-- The visits of the budgeted walk are the first `N` visits of the unbudgeted walk. -/
theorem budget_visits_take (hs : cfg.startAt = []) (hN : 0 ≤ N) :
    visitsOf (walk cfg fuel (some N) lb root s).events
      = (visitsOf (walk cfg fuel none lb root s).events).take N.toNat := by
  obtain ⟨hle, h⟩ := walk_nodeBudget_noStart cfg hs fuel N hN lb root s
  rcases h with ⟨_, hlen, rest, he, _⟩ | ⟨_, he, _, _⟩
  · rw [he, visitsOf_append, List.take_append_of_le_length (Nat.le_of_eq hlen.symm),
      List.take_of_length_le (Nat.le_of_eq hlen)]
  · rw [← he, List.take_of_length_le hle]

/-- The link loads of the budgeted walk are a prefix of those of the unbudgeted walk. -/
theorem budget_loads_prefix (hs : cfg.startAt = []) (hN : 0 ≤ N) :
    loadsOf (walk cfg fuel (some N) lb root s).events <+: loadsOf (walk cfg fuel none lb root s).events := by
  obtain ⟨rest, he, _⟩ := budget_prefix cfg fuel N lb root s hs hN
  rw [he, loadsOf_append]
  exact List.prefix_append _ _

/-- The budgeted walk fails with "node budget exceeded" exactly when the unbudgeted walk makes more than `N`
    visits, or makes exactly `N` and then fails on an unregistered reifier (the budget is checked first). -/
theorem budget_exceeded_iff (hs : cfg.startAt = []) (hN : 0 ≤ N) :
    (walk cfg fuel (some N) lb root s).outcome = .error .budgetNode ↔
      (N.toNat < (visitsOf (walk cfg fuel none lb root s).events).length ∨
       (N.toNat = (visitsOf (walk cfg fuel none lb root s).events).length ∧
        (walk cfg fuel none lb root s).outcome = .error .reify)) := by
  obtain ⟨hle, h⟩ := walk_nodeBudget_noStart cfg hs fuel N hN lb root s
  rcases h with ⟨hr, hlen, rest, he, hx⟩ | ⟨hr, he, ho, hre⟩
  · refine ⟨fun _ => ?_, fun _ => hr⟩
    rcases hx with ⟨h1, h2⟩ | ⟨p, m, r, rest', h1⟩
    · right; subst h1; rw [he]; simp [hlen, h2]
    · left; rw [he, visitsOf_append, h1, visitsOf_cons_visit, List.length_append, List.length_cons, hlen]
      exact Nat.lt_add_of_pos_right (Nat.succ_pos _)
  · refine ⟨fun h => absurd h hr, ?_⟩
    rintro (h | ⟨h1, h2⟩)
    · rw [← he] at h; exact absurd hle (Nat.not_le_of_gt h)
    · exact absurd h1 (Nat.ne_of_gt (hre h2))

/-- When the unbudgeted walk succeeds: the budget is exceeded iff it makes more than `N` visits. -/
theorem budget_exceeded_iff_of_ok (hs : cfg.startAt = []) (hN : 0 ≤ N)
    (hok : (walk cfg fuel none lb root s).outcome = .ok ()) :
    (walk cfg fuel (some N) lb root s).outcome = .error .budgetNode ↔
      N.toNat < (visitsOf (walk cfg fuel none lb root s).events).length := by
  rw [budget_exceeded_iff cfg fuel N lb root s hs hN, hok]
  simp

/-- A budget that covers all visits changes nothing in what is observed… -/
theorem budget_enough_events (hs : cfg.startAt = []) (hN : 0 ≤ N)
    (h : (visitsOf (walk cfg fuel none lb root s).events).length ≤ N.toNat) :
    (walk cfg fuel (some N) lb root s).events = (walk cfg fuel none lb root s).events := by
  obtain ⟨_, h'⟩ := walk_nodeBudget_noStart cfg hs fuel N hN lb root s
  rcases h' with ⟨_, hlen, rest, he, hx⟩ | ⟨_, he, _, _⟩
  · rcases hx with ⟨h1, _⟩ | ⟨p, m, r, rest', h1⟩
    · subst h1; rw [he]; simp
    · rw [he, visitsOf_append, h1, visitsOf_cons_visit, List.length_append, List.length_cons, hlen] at h
      exact absurd h (Nat.not_le_of_gt (Nat.lt_add_of_pos_right (Nat.succ_pos _)))
  · exact he

/-- …nor in the outcome, unless the unbudgeted walk fails on a reifier exactly when the budget is used up. -/
theorem budget_enough_outcome (hs : cfg.startAt = []) (hN : 0 ≤ N)
    (h : (visitsOf (walk cfg fuel none lb root s).events).length ≤ N.toNat)
    (hre : (walk cfg fuel none lb root s).outcome ≠ .error .reify ∨
           (visitsOf (walk cfg fuel none lb root s).events).length < N.toNat) :
    (walk cfg fuel (some N) lb root s).outcome = (walk cfg fuel none lb root s).outcome := by
  obtain ⟨_, h'⟩ := walk_nodeBudget_noStart cfg hs fuel N hN lb root s
  rcases h' with ⟨hr, _, _⟩ | ⟨_, _, ho, _⟩
  · have := (budget_exceeded_iff cfg fuel N lb root s hs hN).1 hr
    rcases this with h1 | ⟨h1, h2⟩
    · exact absurd h (Nat.not_le_of_gt h1)
    · rcases hre with h3 | h3
      · exact absurd h2 h3
      · exact absurd h1 (Nat.ne_of_gt h3)
  · exact ho

/-- Whatever the configuration: the budgeted walk's events are a prefix of the unbudgeted walk's events, and
    unless it stops on the node budget it ends exactly as the unbudgeted walk does.  The budget spent `k` is
    the number of `walkAdv` calls that passed the budget check (with a start-at path, nodes before the start
    cost budget without being visited, so the visits only bound `k` from below); stopping on the budget
    means all `N` units were spent. -/
theorem budget_prefix_general (hN : 0 ≤ N) :
    ∃ k : Nat, (walk cfg fuel (some N) lb root s).st.nodeBudget = some (N - k) ∧ (k : Int) ≤ N ∧
      (visitsOf (walk cfg fuel (some N) lb root s).events).length ≤ k ∧
      (((walk cfg fuel (some N) lb root s).outcome = .error .budgetNode ∧ (k : Int) = N ∧
          ∃ rest, (walk cfg fuel none lb root s).events = (walk cfg fuel (some N) lb root s).events ++ rest)
       ∨ ((walk cfg fuel (some N) lb root s).outcome ≠ .error .budgetNode ∧
          (walk cfg fuel (some N) lb root s).events = (walk cfg fuel none lb root s).events ∧
          (walk cfg fuel (some N) lb root s).outcome = (walk cfg fuel none lb root s).outcome)) := by
  obtain ⟨k, hb, hk, hv, _, h⟩ := walk_nodeBudget cfg fuel N hN lb root s
  exact ⟨k, hb, hk, hv, h.imp (fun ⟨hr, hkN, rest, he, _⟩ => ⟨hr, hkN, rest, he⟩) id⟩

variable (nb : Option Int)

/-- The events of the walk with link budget `N` are a prefix of those of the walk without a link budget; when
    it stopped on the budget it made exactly `N` loads and the unbudgeted walk's next event is a load. -/
theorem link_budget_prefix (hN : 0 ≤ N) :
    ∃ rest, (walk cfg fuel nb none root s).events = (walk cfg fuel nb (some N) root s).events ++ rest ∧
      (rest = [] ∨ ((walk cfg fuel nb (some N) root s).outcome = .error .budgetLink ∧
        (loadsOf (walk cfg fuel nb (some N) root s).events).length = N.toNat ∧
        ∃ c rest', rest = .load c :: rest')) := by
  obtain ⟨_, h⟩ := walk_linkBudget_cases cfg fuel N hN nb root s
  rcases h with ⟨hr, hlen, c, rest, he⟩ | ⟨_, he, _⟩
  · exact ⟨_, he, Or.inr ⟨hr, hlen, c, rest, rfl⟩⟩
  · exact ⟨[], by rw [he]; simp, Or.inl rfl⟩

/-- The loads of the link-budgeted walk are the first `N` loads of the unbudgeted walk. -/
theorem link_budget_loads_take (hN : 0 ≤ N) :
    loadsOf (walk cfg fuel nb (some N) root s).events
      = (loadsOf (walk cfg fuel nb none root s).events).take N.toNat := by
  obtain ⟨hle, h⟩ := walk_linkBudget_cases cfg fuel N hN nb root s
  rcases h with ⟨_, hlen, c, rest, he⟩ | ⟨_, he, _⟩
  · rw [he, loadsOf_append, List.take_append_of_le_length (Nat.le_of_eq hlen.symm),
      List.take_of_length_le (Nat.le_of_eq hlen)]
  · rw [← he, List.take_of_length_le hle]

/-- The link-budgeted walk fails with "link budget exceeded" exactly when the unbudgeted walk makes more than
    `N` loads; otherwise both walks are the same. -/
theorem link_budget_exceeded_iff (hN : 0 ≤ N) :
    (walk cfg fuel nb (some N) root s).outcome = .error .budgetLink ↔
      N.toNat < (loadsOf (walk cfg fuel nb none root s).events).length := by
  obtain ⟨hle, h⟩ := walk_linkBudget_cases cfg fuel N hN nb root s
  rcases h with ⟨hr, hlen, c, rest, he⟩ | ⟨hr, he, _⟩
  · refine ⟨fun _ => ?_, fun _ => hr⟩
    rw [he, loadsOf_append, loadsOf_cons_load, List.length_append, List.length_cons, hlen]
    exact Nat.lt_add_of_pos_right (Nat.succ_pos _)
  · refine ⟨fun h => absurd h hr, fun h => ?_⟩
    rw [← he] at h; exact absurd hle (Nat.not_le_of_gt h)

/-- A link budget that covers all loads changes neither what is observed nor the outcome. -/
theorem link_budget_enough (hN : 0 ≤ N)
    (h : (loadsOf (walk cfg fuel nb none root s).events).length ≤ N.toNat) :
    (walk cfg fuel nb (some N) root s).events = (walk cfg fuel nb none root s).events ∧
    (walk cfg fuel nb (some N) root s).outcome = (walk cfg fuel nb none root s).outcome := by
  obtain ⟨_, h'⟩ := walk_linkBudget_cases cfg fuel N hN nb root s
  rcases h' with ⟨hr, _, _⟩ | ⟨_, he, ho⟩
  · exact absurd h (Nat.not_le_of_gt ((link_budget_exceeded_iff cfg fuel N root s nb hN).1 hr))
  · exact ⟨he, ho⟩

/-- With `LinkVisitOnlyOnce`, no link is loaded twice in one walk. -/
theorem once_each_link_at_most_once (hl : cfg.linkOnce = true) :
    (loadsOf (walk cfg fuel nb lb root s).events).Nodup := by
  rw [walk_events, loadsOf_reverse, nodup_reverse']
  exact (walk_onceInv cfg hl fuel false [] root s { nodeBudget := nb, linkBudget := lb }
    ⟨List.nodup_nil, fun c hc => by cases hc⟩).1

/-- For a link the loader answers `SkipMe` to, exploring the child logs at most the load and no visit, and
    never fails on the store. -/
theorem skip_no_visit_under (past : Bool) (path : Path) (n : DM) (ps : Seg) (c : Bytes) (st : St)
    (hk : cfg.skip.contains c = true) :
    ((exploreChild cfg fuel past path n s ps (.link c) st).1.events = st.events ∨
     (exploreChild cfg fuel past path n s ps (.link c) st).1.events = .load c :: st.events) ∧
    (exploreChild cfg fuel past path n s ps (.link c) st).2 ≠ .error .load := by
  cases fuel with
  | zero => rw [exploreChild_zero]; exact ⟨Or.inl rfl, by simp⟩
  | succ fuel =>
    rw [exploreChild_succ]
    split
    · exact ⟨Or.inl rfl, by simp⟩
    · exact ⟨Or.inl rfl, by simp⟩
    · exact ⟨Or.inl rfl, by simp⟩
    · simp only [enterChild]
      have h1 := linkStep_skip st hk
      have h2 := linkStep_events_cases cfg c st
      generalize linkStep cfg c st = ls at h1 h2
      obtain ⟨st', r⟩ := ls
      simp only at h1 h2
      rcases h1 with h1 | h1 <;> subst h1 <;> exact ⟨h2, by simp⟩

/-- The store is never consulted for skipped links: changing what it holds for them changes nothing. -/
theorem skip_store_not_consulted (store' : List (Bytes × DM))
    (h : ∀ c, cfg.skip.contains c = false → storeGet store' c = storeGet cfg.store c) :
    walk { cfg with store := store' } fuel nb lb root s = walk cfg fuel nb lb root s := by
  unfold walk
  rw [(walk_congr cfg { cfg with store := store' } (fun _ _ _ _ _ => rfl) (fun _ _ _ => rfl)
    (linkStep_store_indep cfg store' h) fuel).1]

/-- Resuming at a start path (no budgets, no visit-once): if the full walk succeeds, so does the resumed one;
    its events are a sub-sequence of the full walk's events and its visits are a suffix of the full walk's
    visits.  (The events themselves are not a suffix: the link on the start path is logged as loaded although
    the block it loads is not visited.) -/
theorem startAt_resume (hl : cfg.linkOnce = false)
    (hok : (walk { cfg with startAt := [] } fuel none none root s).outcome = .ok ()) :
    (walk cfg fuel none none root s).outcome = .ok () ∧
    (walk cfg fuel none none root s).events.Sublist (walk { cfg with startAt := [] } fuel none none root s).events ∧
    visitsOf (walk cfg fuel none none root s).events <:+
      visitsOf (walk { cfg with startAt := [] } fuel none none root s).events := by
  have h := (startAt_all cfg hl fuel).1 false false [] root s {} {} ⟨rfl, rfl⟩ ⟨rfl, rfl⟩
  unfold walk at hok ⊢
  simp only at hok ⊢
  obtain ⟨hr, _, _, newR, newU, heR, heU, hsub, hpre, _⟩ := h hok
  simp only [List.append_nil] at heR heU
  refine ⟨hr, ?_, ?_⟩
  · rw [heR]
    have : (walkAdv { cfg with startAt := [] } fuel false [] root s {}).1.events = newU := heU
    rw [this]
    exact hsub.reverse
  · rw [heR]
    have : (walkAdv { cfg with startAt := [] } fuel false [] root s {}).1.events = newU := heU
    rw [this, visitsOf_reverse, visitsOf_reverse]
    exact List.reverse_suffix.2 hpre

section Examples
open Ipld.Walk.Ex

example : Ex.cfg.startAt = [] := rfl
example : (walk Ex.cfg 20 none none Ex.root selAll).outcome = .ok () := by decide +kernel
example : (visitsOf (walk Ex.cfg 20 none none Ex.root selAll).events).length = 6 := by decide +kernel
example : loadsOf (walk Ex.cfg 20 none none Ex.root selAll).events = [Ex.cid] := by decide +kernel
example : (walk Ex.cfg 20 (some 3) none Ex.root selAll).outcome = .error .budgetNode := by decide +kernel
example : (visitsOf (walk Ex.cfg 20 (some 3) none Ex.root selAll).events).map (·.1) =
    [[], [.str [0x61]], [.str [0x61], .idx 0]] := by decide +kernel
example : (walk Ex.cfg 20 (some 6) none Ex.root selAll).outcome = .ok () := by decide +kernel
/-- the reifier corner: the unbudgeted walk makes one visit and fails on the reifier; with budget 1 the
    budgeted walk reports the budget instead -/
example : (walk {} 5 none none Ex.root (.all (.interpretAs [] (.matcher none)))).outcome = .error .reify := by
  decide +kernel
example : (walk {} 5 (some 1) none Ex.root (.all (.interpretAs [] (.matcher none)))).outcome = .error .budgetNode := by
  decide +kernel

/-- link budget 0: the walk stops at the link, having visited everything before it -/
example : (walk Ex.cfg 20 none (some 0) Ex.root selAll).outcome = .error .budgetLink := by decide +kernel
example : (visitsOf (walk Ex.cfg 20 none (some 0) Ex.root selAll).events).length = 4 := by decide +kernel
/-- skipping the link: it is logged as loaded, its block is not visited, and an empty store does as well -/
example : (walk { Ex.cfg with skip := [Ex.cid] } 20 none none Ex.root selAll).outcome = .ok () := by decide +kernel
example : (visitsOf (walk { skip := [Ex.cid] } 20 none none Ex.root selAll).events).length = 4 := by decide +kernel
/-- visit-once: a root with the same link twice loads it once -/
example : loadsOf (walk { Ex.cfg with linkOnce := true } 20 none none
    (.list (.cons (.link Ex.cid) (.cons (.link Ex.cid) .nil))) selAll).events = [Ex.cid] := by decide +kernel
example : loadsOf (walk Ex.cfg 20 none none
    (.list (.cons (.link Ex.cid) (.cons (.link Ex.cid) .nil))) selAll).events = [Ex.cid, Ex.cid] := by decide +kernel
/-- with a start-at path, nodes before it cost budget without being visited: start at `l/x`, budget 2 is spent
    on the root and `l`, nothing is visited (the unbudgeted walk visits `l/x`) -/
example : (walk { Ex.cfg with startAt := [.str [0x6c], .str [0x78]] } 20 (some 2) none Ex.root selAll).outcome
    = .error .budgetNode := by decide +kernel
example : (visitsOf (walk { Ex.cfg with startAt := [.str [0x6c], .str [0x78]] } 20 (some 2) none Ex.root selAll).events).length
    = 0 := by decide +kernel
example : (visitsOf (walk { Ex.cfg with startAt := [.str [0x6c], .str [0x78]] } 20 none none Ex.root selAll).events).length
    = 1 := by decide +kernel
/-- resuming at `a/1`: the visits are the last three of the full walk's six -/
example : (visitsOf (walk { Ex.cfg with startAt := [.str [0x61], .idx 1] } 20 none none Ex.root selAll).events).map (·.1)
    = [[.str [0x61], .idx 1], [.str [0x6c]], [.str [0x6c], .str [0x78]]] := by decide +kernel
/-- resuming at `l/x`: the load of `l` is logged, the visit of the block is not (so events are a sub-sequence,
    not a suffix, of the full walk's) -/
example : (walk { Ex.cfg with startAt := [.str [0x6c], .str [0x78]] } 20 none none Ex.root selAll).events
    = [.load Ex.cid, .visit [.str [0x6c], .str [0x78]] (.str [0x68, 0x69]) .matched] := by decide +kernel
/-- `startAt_resume` needs "no visit-once": resumed at index 1 the link is loaded there, in the full walk at
    index 0 and not again -/
example : (visitsOf (walk { Ex.cfg with linkOnce := true, startAt := [.idx 1] } 20 none none
      (.list (.cons (.link Ex.cid) (.cons (.link Ex.cid) .nil))) selAll).events).map (·.1)
    = [[.idx 1], [.idx 1, .str [0x78]]] := by decide +kernel
example : (visitsOf (walk { Ex.cfg with linkOnce := true } 20 none none
      (.list (.cons (.link Ex.cid) (.cons (.link Ex.cid) .nil))) selAll).events).map (·.1)
    = [[], [.idx 0], [.idx 0, .str [0x78]]] := by decide +kernel

end Examples

open Ipld.Generated in
/-- (T) The shape of the two budget checks re-extracted from `traversal/walk.go` on this run — test `<= 0`,
    return the budget error, otherwise decrement — is the one the model's `checkNode` / `checkLink` implement
    (test, then decrement: a budget of N admits exactly N visits / loads). -/
theorem budget_checks_src :
    checkNodeBudget_src = ["test:<=:0", "return-error", "step:--"] ∧
    checkLinkBudget_src = ["test:<=:0", "return-error", "step:--"] := by decide

end Ipld.Props.C15

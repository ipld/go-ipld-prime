/-
  C10 — decoders are bounded.  Whatever the input claims, under every configuration: the DAG-CBOR decoder never returns
  a value nested deeper than `maxDepth`, never lets the allocation budget go negative, charges exactly `Spec.cost v`,
  refuses a collection header larger than the remaining budget before reading any element, and consumes at least one
  byte per item (so `input length + 1` recursion fuel is enough); the DAG-JSON token decoder keeps to `maxDepth` too.
-/
import IpldModel.Model.JsonTok
import IpldModel.Spec.CanonJson
import IpldModel.Lemmas.CborBounds
import IpldModel.Lemmas.CborReject
import IpldModel.Lemmas.JsonBounds
import IpldModel.Lemmas.JsonWin
namespace Ipld.Props.C10
open Ipld Ipld.Cbor Ipld.Spec

/-- One item decoded at nesting level `depth ≤ maxDepth` fits under the cap.  (A container is refused
    when `depth ≥ maxDepth`, so a container decoded at `depth` has `depth + 1 ≤ maxDepth`; a scalar
    has depth 0, which is why `depth ≤ maxDepth` is needed and enough.) -/
theorem decItem_depth (cfg : DecCfg) (fuel depth : Nat) (extra : Int) (tag : Option Nat) (s s' : DS) (v : DM) :
    depth ≤ cfg.maxDepth → decItem cfg fuel depth extra tag s = .ok (v, s') →
    depth + v.depth ≤ cfg.maxDepth :=
  fun hd h => (decItem_bounds cfg fuel depth extra tag h).2.2.2 hd

/-- The list loop, for any element decoder whose results fit under the cap at `depth`. -/
theorem decList_depth (cfg : DecCfg) (depth : Nat) (item : DS → R (DM × DS))
    (hitem : ∀ s v s', item s = .ok (v, s') → depth + v.depth ≤ cfg.maxDepth)
    (n : Nat) (s s' : DS) (xs : List DM) :
    depth ≤ cfg.maxDepth → decList item n s = .ok (xs, s') →
    depth + (DMs.ofList xs).depth ≤ cfg.maxDepth := by
  intro hd h
  exact (decList_ind (P := fun _ xs _ => depth + (DMs.ofList xs).depth ≤ cfg.maxDepth)
    (fun _ => hd) (fun h1 ih => add_max_le_iff.mpr ⟨hitem _ _ _ h1, ih⟩) h).2

/-- The map loop, likewise. -/
theorem decMap_depth (cfg : DecCfg) (depth : Nat) (item : DS → R (DM × DS))
    (hitem : ∀ s v s', item s = .ok (v, s') → depth + v.depth ≤ cfg.maxDepth)
    (n : Nat) (seen : List Bytes) (s s' : DS) (es : List (Bytes × DM)) :
    depth ≤ cfg.maxDepth → decMap cfg item n seen s = .ok (es, s') →
    depth + (DMKVs.ofList es).depth ≤ cfg.maxDepth := by
  intro hd h
  exact (decMap_ind (P := fun _ _ es _ => depth + (DMKVs.ofList es).depth ≤ cfg.maxDepth)
    (fun _ _ => hd) (fun _ _ h5 ih => add_max_le_iff.mpr ⟨hitem _ _ _ h5, ih⟩) h).2

/-- No successfully decoded value is nested deeper than `maxDepth`. -/
theorem decode_depth (cfg : DecCfg) (bs : Bytes) (v : DM) :
    decode cfg bs = .ok v → v.depth ≤ cfg.maxDepth := by
  intro h
  obtain ⟨s', h1, _⟩ := decode_eq_ok.mp h
  have := decItem_depth cfg _ 0 0 none _ s' v (Nat.zero_le _) h1
  rwa [Nat.zero_add] at this

/-- Exact accounting: a successful item decode charges the list-entry charge `extra` plus `Spec.cost v`,
    no more and no less, whatever the sign of anything. -/
theorem decItem_budget_exact (cfg : DecCfg) (fuel depth : Nat) (extra : Int) (tag : Option Nat) (s s' : DS) (v : DM) :
    depth ≤ cfg.maxDepth → decItem cfg fuel depth extra tag s = .ok (v, s') →
    s.budget - s'.budget = extra + cost v :=
  fun _ h => (decItem_bounds cfg fuel depth extra tag h).2.2.1

/-- The budget never goes negative (even if it started negative: every successful path ends in a
    `charge`, which refuses a negative remainder) and, for a non-negative entry charge, only decreases. -/
theorem decItem_budget (cfg : DecCfg) (fuel depth : Nat) (extra : Int) (tag : Option Nat) (s s' : DS) (v : DM) :
    depth ≤ cfg.maxDepth → 0 ≤ extra → decItem cfg fuel depth extra tag s = .ok (v, s') →
    0 ≤ s'.budget ∧ s'.budget ≤ s.budget := by
  intro _ he h
  obtain ⟨_, h0, hb, _⟩ := decItem_bounds cfg fuel depth extra tag h
  exact ⟨h0, Int.le_of_sub_nonneg (hb ▸ Int.add_nonneg he (cost_nonneg v))⟩

/-- The list loop charges `4 + cost x` per element (`Spec.costList`), keeps the budget non-negative. -/
theorem decList_budget (cfg : DecCfg) (fuel depth n : Nat) (s s' : DS) (xs : List DM) :
    depth ≤ cfg.maxDepth → decList (decItem cfg fuel depth 4 none) n s = .ok (xs, s') →
    xs.length = n ∧ (0 ≤ s.budget → 0 ≤ s'.budget) ∧ s.budget - s'.budget = costList (DMs.ofList xs) := by
  intro _ h
  obtain ⟨q1, _, q3, q4, _⟩ := decList_bounds (decItem_bounds cfg fuel depth 4 none) h
  exact ⟨q1, q3, q4⟩

/-- The map loop charges `key length + 8 + cost v` per entry (`Spec.costKVs`). -/
theorem decMap_budget (cfg : DecCfg) (fuel depth n : Nat) (seen : List Bytes) (s s' : DS) (es : List (Bytes × DM)) :
    depth ≤ cfg.maxDepth → decMap cfg (decItem cfg fuel depth 0 none) n seen s = .ok (es, s') →
    es.length = n ∧ (0 ≤ s.budget → 0 ≤ s'.budget) ∧ s.budget - s'.budget = costKVs (DMKVs.ofList es) := by
  intro _ h
  obtain ⟨q1, _, q3, q4, _⟩ := decMap_bounds (decItem_bounds cfg fuel depth 0 none) h
  exact ⟨q1, q3, q4⟩

/-- Whatever lengths the input claims, a successfully decoded value costs at most
    the configured budget.  (No sign hypothesis is needed: with a negative budget nothing decodes.) -/
theorem decode_budget (cfg : DecCfg) (bs : Bytes) (v : DM) :
    decode cfg bs = .ok v → cost v ≤ cfg.budget := by
  intro h
  obtain ⟨s', h1, _⟩ := decode_eq_ok.mp h
  obtain ⟨_, h0, hb, _⟩ := decItem_bounds cfg _ 0 0 none h1
  rw [← Int.zero_add (cost v), ← hb]
  exact Int.sub_le_self _ h0

/-- With a negative budget nothing decodes. -/
theorem decode_negative_budget (cfg : DecCfg) (bs : Bytes) (v : DM) :
    cfg.budget < 0 → decode cfg bs ≠ .ok v := by
  intro hneg h
  exact Int.lt_irrefl 0 (Int.lt_of_le_of_lt (Int.le_trans (cost_nonneg v) (decode_budget cfg bs v h)) hneg)

/-- Every node is paid for: a scalar costs at least 0 and is one node, each list element costs 4 more,
    each map entry 8 more, each collection header one per entry. -/
theorem nodes_le_cost (v : DM) : (v.size : Int) ≤ cost v + 1 := size_le_cost v

/-- Every payload byte (strings, byte strings, CIDs, map keys) is paid for. -/
theorem payload_le_cost (v : DM) : (payload v : Int) ≤ cost v := Cbor.payload_le_cost v

/-- The number of nodes of a decoded value is bounded by the budget. -/
theorem decode_nodes_bounded (cfg : DecCfg) (bs : Bytes) (v : DM) :
    decode cfg bs = .ok v → (v.size : Int) ≤ cfg.budget + 1 := by
  intro h
  exact Int.le_trans (nodes_le_cost v) (Int.add_le_add_right (decode_budget cfg bs v h) 1)

/-- The total payload of a decoded value is bounded by the budget. -/
theorem decode_payload_bounded (cfg : DecCfg) (bs : Bytes) (v : DM) :
    decode cfg bs = .ok v → (payload v : Int) ≤ cfg.budget := by
  intro h
  exact Int.le_trans (payload_le_cost v) (decode_budget cfg bs v h)

/-! ## a declared length is charged before any element is decoded -/

/-- A list header claiming `n` entries with `n` above what is left of the budget (after the entry
    charge) fails with `.budget` whatever follows it — `rest` is arbitrary, so no element is looked at.
    Conditions that reach that point: untagged, `depth < maxDepth` (else `.depth`), `n < 2^63`
    (else `.lenOverflow`); the head is the shortest one, which both strict and relaxed mode accept. -/
theorem prealloc_charged_list (cfg : DecCfg) (fuel depth : Nat) (extra B : Int) (n : Nat) (rest : Bytes) :
    n < 2 ^ 63 → depth < cfg.maxDepth → B - extra < n →
    decItem cfg (fuel + 1) depth extra none ⟨shortestHead 4 n ++ rest, B⟩ = .error .budget :=
  decItem_count_over_budget cfg fuel depth extra B 4 n rest (Or.inl rfl)

/-- The same for a map header. -/
theorem prealloc_charged_map (cfg : DecCfg) (fuel depth : Nat) (extra B : Int) (n : Nat) (rest : Bytes) :
    n < 2 ^ 63 → depth < cfg.maxDepth → B - extra < n →
    decItem cfg (fuel + 1) depth extra none ⟨shortestHead 5 n ++ rest, B⟩ = .error .budget :=
  decItem_count_over_budget cfg fuel depth extra B 5 n rest (Or.inr rfl)

/-- At top level: an input that opens with a list or map header larger than the budget is refused
    with `.budget`, whatever follows. -/
theorem decode_prealloc (cfg : DecCfg) (m n : Nat) (rest : Bytes) (hm : m = 4 ∨ m = 5) :
    n < 2 ^ 63 → 0 < cfg.maxDepth → cfg.budget < n →
    decode cfg (shortestHead m n ++ rest) = .error .budget := by
  intro hn hd hB
  unfold decode
  rw [decItem_count_over_budget cfg _ 0 0 cfg.budget m n rest hm hn hd (by rw [Int.sub_zero]; exact hB)]; rfl

/-! ## every item consumes input -/

/-- A successful item decode leaves strictly less input than it was given. -/
theorem consumed_lt_input (cfg : DecCfg) (fuel depth : Nat) (extra : Int) (tag : Option Nat) (s s' : DS) (v : DM) :
    depth ≤ cfg.maxDepth → decItem cfg fuel depth extra tag s = .ok (v, s') →
    s'.rest.length < s.rest.length :=
  fun _ h => (decItem_bounds cfg fuel depth extra tag h).1

theorem consumed_le_input (cfg : DecCfg) (fuel depth : Nat) (extra : Int) (tag : Option Nat) (s s' : DS) (v : DM) :
    depth ≤ cfg.maxDepth → decItem cfg fuel depth extra tag s = .ok (v, s') →
    s'.rest.length ≤ s.rest.length :=
  fun hd h => Nat.le_of_lt (consumed_lt_input cfg fuel depth extra tag s s' v hd h)

/-- Each list element takes at least one byte, each map entry at least two (key head, value). -/
theorem decList_consumed (cfg : DecCfg) (fuel depth n : Nat) (s s' : DS) (xs : List DM) :
    depth ≤ cfg.maxDepth → decList (decItem cfg fuel depth 4 none) n s = .ok (xs, s') →
    s'.rest.length + n ≤ s.rest.length :=
  fun _ h => have q := decList_bounds (decItem_bounds cfg fuel depth 4 none) h; q.1 ▸ q.2.1

theorem decMap_consumed (cfg : DecCfg) (fuel depth n : Nat) (seen : List Bytes) (s s' : DS) (es : List (Bytes × DM)) :
    depth ≤ cfg.maxDepth → decMap cfg (decItem cfg fuel depth 0 none) n seen s = .ok (es, s') →
    s'.rest.length + 2 * n ≤ s.rest.length :=
  fun _ h => have q := decMap_bounds (decItem_bounds cfg fuel depth 0 none) h; q.1 ▸ q.2.1

/-- Any two amounts of recursion fuel above the input length give the
    same result — value or error — at every depth, entry charge, pending tag and budget. -/
theorem decItem_fuel_irrelevant (cfg : DecCfg) (fuel fuel' depth : Nat) (extra : Int) (tag : Option Nat) (s : DS) :
    s.rest.length < fuel → s.rest.length < fuel' →
    decItem cfg fuel depth extra tag s = decItem cfg fuel' depth extra tag s :=
  decItem_fuel_irrel cfg fuel fuel' depth extra tag s

/-- In particular `decode`'s own choice `input length + 1` is as good as any larger fuel. -/
theorem decode_fuel_irrelevant (cfg : DecCfg) (bs : Bytes) (fuel : Nat) (hf : bs.length + 1 ≤ fuel) :
    decItem cfg fuel 0 0 none ⟨bs, cfg.budget⟩ = decItem cfg (bs.length + 1) 0 0 none ⟨bs, cfg.budget⟩ :=
  decItem_fuel_irrel cfg fuel (bs.length + 1) 0 0 none ⟨bs, cfg.budget⟩ hf (Nat.lt_succ_self _)

/-- The token-level DAG-JSON decoder never returns a value nested deeper than `maxDepth`, counting
    nesting as DAG-JSON sees it (`Spec.jsonDepth`: a link or a byte string is a map on the wire and
    counts one level — the decoder makes its depth check on the opening `{` before it looks for the
    reserved forms). -/
theorem decodeToks_jsonDepth (cfg : Json.DecCfg) (toks : List Json.JTok) (v : DM) :
    Json.decodeToks cfg toks = .ok v → jsonDepth v ≤ cfg.maxDepth :=
  Json.decodeToks_jsonDepth

/-- Hence also in the data-model sense. -/
theorem decodeToks_depth (cfg : Json.DecCfg) (toks : List Json.JTok) (v : DM) :
    Json.decodeToks cfg toks = .ok v → v.depth ≤ cfg.maxDepth :=
  fun h => Nat.le_trans (Json.depth_le_jsonDepth v) (Json.decodeToks_jsonDepth h)

/-- Mid-stream: a value decoded at nesting `depth ≤ maxDepth`. -/
theorem unTok_jsonDepth (cfg : Json.DecCfg) (fuel depth : Nat) (toks r : List Json.JTok) (v : DM) :
    depth ≤ cfg.maxDepth → Json.unTok cfg fuel depth toks = .ok (v, r) → depth + jsonDepth v ≤ cfg.maxDepth :=
  Json.unTok_depth cfg

/-- The same for the code's 7-slot token window mechanism (it computes what `decodeToks` computes). -/
theorem decodeToksWin_jsonDepth (cfg : Json.DecCfg) (toks : List Json.JTok) (v : DM) :
    Json.decodeToksWin cfg toks = .ok v → jsonDepth v ≤ cfg.maxDepth := by
  intro h
  rw [Json.decodeToksWin_eq] at h
  exact Json.decodeToks_jsonDepth h

/-- `[1, [2]]` decodes; its depth 2, cost `2 + (4+1) + (4 + (1 + (4+1)))` = 17 and 4 nodes are within
    every bound above. -/
example : decode dagcborDec [0x82, 0x01, 0x81, 0x02] =
    .ok (.list (.cons (.int 1) (.cons (.list (.cons (.int 2) .nil)) .nil))) := by rfl
example : cost (.list (.cons (.int 1) (.cons (.list (.cons (.int 2) .nil)) .nil))) = 17 := by decide +kernel
example : (DM.list (.cons (.int 1) (.cons (.list (.cons (.int 2) .nil)) .nil))).size = 4 := by decide +kernel
/-- the depth cap is exact: the same input with `maxDepth := 1` is refused, with `2` accepted -/
example : decode { dagcborDec with maxDepth := 1 } [0x82, 0x01, 0x81, 0x02] = .error .depth := by rfl
example : decode { dagcborDec with maxDepth := 2 } [0x82, 0x01, 0x81, 0x02] =
    .ok (.list (.cons (.int 1) (.cons (.list (.cons (.int 2) .nil)) .nil))) := by rfl
/-- the budget bound is exact: 17 is enough, 16 is not -/
example : decode { dagcborDec with budget := 17 } [0x82, 0x01, 0x81, 0x02] =
    .ok (.list (.cons (.int 1) (.cons (.list (.cons (.int 2) .nil)) .nil))) := by rfl
example : decode { dagcborDec with budget := 16 } [0x82, 0x01, 0x81, 0x02] = .error .budget := by rfl
/-- a 5-byte input claiming 2^32-1 list entries is refused on the header alone -/
example (rest : Bytes) : decode dagcborDec (shortestHead 4 4294967295 ++ rest) = .error .budget :=
  decode_prealloc dagcborDec 4 4294967295 rest (Or.inl rfl) (by decide) (by decide) (by decide)
example : shortestHead 4 4294967295 = [0x9a, 0xff, 0xff, 0xff, 0xff] := by decide +kernel
/-- DAG-JSON: `[{"/":{"bytes":""}}]` has jsonDepth 2; refused at `maxDepth := 1` -/
example : Json.decodeToks { Json.dagjsonDec with maxDepth := 1 }
    [.arrOpen, .mapOpen, .str Json.slash, .mapOpen, .str Json.bytesWord, .str [], .mapClose, .mapClose, .arrClose] =
    .error .depth := by rfl

end Ipld.Props.C10

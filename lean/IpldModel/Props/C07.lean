/-
  C07 — selectors and the walk: slice bounds, what is visited and matched, visiting order, unions and the
  recursion limit.
-/
import IpldModel.Lemmas.SliceBounds
import IpldModel.Generated.SliceBounds
import IpldModel.Lemmas.WalkOrder
import IpldModel.Lemmas.WalkNodup
import IpldModel.Lemmas.WalkExamples
import IpldModel.Lemmas.WalkVisits
import IpldModel.Lemmas.WalkOk
namespace Ipld.Props.C07
open Ipld Ipld.Sel Ipld.Walk

/-- The Go `sliceBounds` (translated from the source, with wrapping int64 arithmetic) computes the model's
    `sliceBounds` for all int64 arguments with a non-negative length: no intermediate sum wraps. -/
theorem slice_bounds_src (from_ to length : Int) (hf : inI64 from_) (ht : inI64 to) (hl : inI64 length)
    (h0 : 0 ≤ length) : Generated.sliceBounds_src from_ to length = Sel.sliceBounds from_ to length := by
  unfold inI64 at hf ht hl
  have w1 : to < 0 → wrapI64 (length + to) = length + to := fun h => wrapI64_id (by unfold inI64; omega)
  have w2 : from_ < 0 → wrapI64 (length + from_) = length + from_ := fun h => wrapI64_id (by unfold inI64; omega)
  unfold Generated.sliceBounds_src sliceBounds
  by_cases c1 : to < 0
  · by_cases c2 : from_ < 0
    · simp only [c1, c2, w1 c1, w2 c2, decide_true, if_true]
      by_cases c3 : length + from_ < 0 <;> simp [c3]
    · simp [c1, c2, w1 c1]
  · by_cases c4 : length < to
    · by_cases c2 : from_ < 0
      · simp only [c1, c2, c4, w2 c2, decide_true, decide_false, if_true, if_false]
        by_cases c3 : length + from_ < 0 <;> simp [c3]
      · simp [c1, c2, c4]
    · by_cases c2 : from_ < 0
      · simp only [c1, c2, c4, w2 c2, decide_true, decide_false, if_true, if_false]
        by_cases c3 : length + from_ < 0 <;> simp [c3, c1]
      · simp [c1, c2, c4]

/-- A successful `sliceBounds` gives a non-empty-able window inside `[0, len]` starting before the end. -/
theorem slice_bounds_ok {f t len a z : Int} (h : sliceBounds f t len = (true, a, z)) :
    0 ≤ a ∧ a ≤ z ∧ z ≤ len ∧ a < len :=
  sliceBounds_true h

/-- A failed `sliceBounds` returns zeros. -/
theorem slice_bounds_fail {f t len a z : Int} (h : sliceBounds f t len = (false, a, z)) : a = 0 ∧ z = 0 :=
  sliceBounds_false h

/-- `sliceBounds` always answers `(false, 0, 0)` for an empty string. -/
theorem slice_bounds_empty (f t : Int) : sliceBounds f t 0 = (false, 0, 0) := by
  cases h : sliceBounds f t 0 with
  | mk ok az =>
    obtain ⟨a, z⟩ := az
    cases ok with
    | true => have := sliceBounds_true h; omega
    | false => obtain ⟨rfl, rfl⟩ := sliceBounds_false h; rfl

/-- Events only grow: `walkAdv` leaves the log it was given untouched and prepends to it (the log is kept
    most-recent-first). -/
theorem events_extend (cfg : Cfg) (fuel : Nat) (past : Bool) (path : Path) (n : DM) (s : S) (st : St) :
    ∃ new, (walkAdv cfg fuel past path n s st).1.events = new ++ st.events :=
  (eventsExtend_all cfg fuel).1 past path n s st

/-- Every event of a walk is a link load, or the visit event of a position (path, node, selector) the walk
    can reach from the root: matched with `Match`'s result if the selector at that position matches the node
    there, candidate with the node itself otherwise. -/
theorem visit_is_visitEvent (cfg : Cfg) (fuel : Nat) (nb lb : Option Int) (root : DM) (s : S) (e : Event)
    (he : e ∈ (walk cfg fuel nb lb root s).events) :
    (∃ c, e = .load c) ∨ ∃ path n' s', Reach cfg root s path n' s' ∧
      e = (match matchNode s' n' with
            | some m => .visit path m .matched
            | none => .visit path n' .candidate) := by
  cases e with
  | load c => exact .inl ⟨c, rfl⟩
  | visit p m r =>
    obtain ⟨n', s', hr, h⟩ := walk_visit_ok he
    exact .inr ⟨p, n', s', hr, h⟩

/-- `WalkMatching` hears exactly of the matched visits: its list is a filter of the log.  (What a matched visit
    carries is `matched_is_match`.) -/
theorem matching_is_filter (cfg : Cfg) (fuel : Nat) (nb lb : Option Int) (root : DM) (s : S) (p : Path) (m : DM) :
    (p, m) ∈ matchesOf (walk cfg fuel nb lb root s).events ↔
      .visit p m .matched ∈ (walk cfg fuel nb lb root s).events :=
  mem_matchesOf

/-- A matched visit carries `Match(n')` for the selector `s'` and node `n'` at a reachable position. -/
theorem matched_is_match (cfg : Cfg) (fuel : Nat) (nb lb : Option Int) (root : DM) (s : S) (p : Path) (m : DM)
    (h : .visit p m .matched ∈ (walk cfg fuel nb lb root s).events) :
    ∃ n' s', Reach cfg root s p n' s' ∧ matchNode s' n' = some m := by
  obtain ⟨n', s', hr, he⟩ := walk_visit_ok h
  unfold visitEvent at he
  cases hm : matchNode s' n' with
  | some m' => rw [hm] at he; cases he; exact ⟨n', s', hr, hm⟩
  | none => rw [hm] at he; cases he

/-- A candidate visit carries the node at a reachable position whose selector does not match it. -/
theorem candidate_is_node (cfg : Cfg) (fuel : Nat) (nb lb : Option Int) (root : DM) (s : S) (p : Path) (m : DM)
    (h : .visit p m .candidate ∈ (walk cfg fuel nb lb root s).events) :
    ∃ s', Reach cfg root s p m s' ∧ matchNode s' m = none := by
  obtain ⟨n', s', hr, he⟩ := walk_visit_ok h
  unfold visitEvent at he
  cases hm : matchNode s' n' with
  | some m' => rw [hm] at he; cases he
  | none => rw [hm] at he; cases he; exact ⟨s', hr, hm⟩

/-- Parent before child (no start-at path): a visit at `p ++ [seg]` is preceded by a visit at `p`.  The full
    document order of the visits is `visits_doc_sorted`. -/
theorem doc_order (cfg : Cfg) (hs : cfg.startAt = []) (fuel : Nat) (nb lb : Option Int) (root : DM) (s : S)
    (a b : List Event) (p : Path) (seg : Seg) (m : DM) (r : Reason)
    (h : (walk cfg fuel nb lb root s).events = a ++ .visit (p ++ [seg]) m r :: b) :
    ∃ m' r', .visit p m' r' ∈ a :=
  walk_parentFirst cfg hs fuel nb lb root s a b p seg m r h

/-- No path is visited twice (any configuration), provided that at every reachable position the children
    the selector actually explores sit at pairwise distinct segments (`childList n s'` = the children the
    per-node loop runs over: all of them, or the found interests; `explored` = `Explore` returns a selector). -/
theorem visit_paths_nodup (cfg : Cfg) (fuel : Nat) (nb lb : Option Int) (root : DM) (s : S)
    (H : ∀ path n s', Reach cfg root s path n s' →
      (((childList n s').filter (explored n s')).map (·.1)).Nodup) :
    ((visitsOf (walk cfg fuel nb lb root s).events).map (·.1)).Nodup := by
  rw [List.nodup_iff_count]
  intro q
  rw [count_visit_paths, walk_events, cnt, List.countP_reverse]
  exact ((grow_all cfg root s H fuel).1 false [] root s { nodeBudget := nb, linkBudget := lb } Reach.root q).2.1

/-- In particular: no path is visited twice when no map (root, store blocks) has a duplicate key and every
    reachable selector's explicit interest list is duplicate-free. -/
theorem visit_paths_nodup_of_noDup (cfg : Cfg) (fuel : Nat) (nb lb : Option Int) (root : DM) (s : S)
    (hroot : root.NoDup) (hstore : ∀ c blk, storeGet cfg.store c = some blk → blk.NoDup)
    (hsel : ∀ path n s', Reach cfg root s path n s' → ∀ l, interests s' = some l → l.Nodup) :
    ((visitsOf (walk cfg fuel nb lb root s).events).map (·.1)).Nodup :=
  visit_paths_nodup cfg fuel nb lb root s fun path n s' hr => List.Nodup.sublist (List.filter_sublist.map _)
    (childList_segs_nodup (reach_noDup hroot hstore hr) (hsel path n s' hr))

/-- A union's interest list is duplicate-free (first occurrence of every segment text is kept). -/
theorem union_interests_nodup (ms : SList) (l : List Seg) (h : interests (.union ms) = some l) : l.Nodup := by
  simp only [interests, Option.map_eq_some_iff] at h
  obtain ⟨a, _, rfl⟩ := h
  exact dedupSegs_nodup a

/-- A union matches with its first matching member. -/
theorem union_first_match (ms : SList) (n : DM) :
    matchNode (.union ms) n = ms.toList.findSome? (fun s => matchNode s n) := by
  rw [matchNode, matchList_eq_findSome]

/-- A union whose members are all bare recursive edges explores to nothing (no `Explore` is called on them). -/
theorem explore_union_comm_edges (ms : SList) (h : ∀ s ∈ ms.toList, s = .edge) (n : DM) (p : Seg) :
    explore (.union ms) n p = .ok none := by
  simp [explore, exploreList_all_edges ms h n p, bind, Except.bind, pure, Except.pure]

/-- With a depth limit below 2 the recursion makes one pass: exploring either stays inside the current pass
    (same limit, the sequence not substituted) or, on reaching the edges, drops them and leaves an edge-free
    selector outside any recursion wrapper. -/
theorem recursive_limit (sq cur : S) (d : Int) (hd : d < 2) (stop : Option Bytes) (n : DM) (p : Seg)
    (r : S) (h : explore (.recursive sq cur (some d) stop) n p = .ok (some r)) :
    ∃ nx, explore cur n p = .ok (some nx) ∧
      ((hasEdge nx = false ∧ r = .recursive sq nx (some d) stop) ∨
       (hasEdge nx = true ∧ replaceEdge none nx = some r ∧ hasEdge r = false)) := by
  simp only [explore] at h
  -- of all the arms only the last two answer `ok (some _)`
  repeat' split at h
  all_goals try cases h
  · rename_i _ nx hx he
    exact ⟨nx, hx, .inl ⟨by simpa using he, rfl⟩⟩
  · rename_i _ nx hx he
    simp only [Except.ok.injEq] at h
    exact ⟨nx, hx, .inr ⟨by simpa using he, h, replaceEdge_none_noEdge nx r h⟩⟩

section Examples
open Ipld.Walk.Ex
example : sliceBounds 1 (-1) 5 = (true, 1, 4) := by decide +kernel
example : sliceBounds (-2) 100 5 = (true, 3, 5) := by decide +kernel
example : Generated.sliceBounds_src (-9223372036854775808) 9223372036854775807 9223372036854775807
    = (true, 0, 9223372036854775807) := by decide +kernel
/-- the explore-everything walk over the example graph: paths in document order, all matched -/
example : (visitsOf (walk Ex.cfg 20 none none Ex.root selAll).events).map (·.1) =
    [[], [.str [0x61]], [.str [0x61], .idx 0], [.str [0x61], .idx 1], [.str [0x6c]], [.str [0x6c], .str [0x78]]] := by
  decide +kernel
example : (matchesOf (walk Ex.cfg 20 none none Ex.root selAll).events).length = 6 := by decide +kernel
/-- depth limit 1: the root only; depth limit 2: the root and its children (the link is loaded and its block
    visited, not the block's content) -/
example : (visitsOf (walk Ex.cfg 20 none none Ex.root (.recursive seqAll seqAll (some 1) none)).events).map (·.1) =
    [[]] := by decide +kernel
example : (visitsOf (walk Ex.cfg 20 none none Ex.root (.recursive seqAll seqAll (some 2) none)).events).map (·.1) =
    [[], [.str [0x61]], [.str [0x6c]]] := by decide +kernel
/-- a slicing matcher under a field selector -/
example : matchesOf (walk Ex.cfg 20 none none Ex.blk
      (.fields (.cons [0x78] (.matcher (some (1, 2))) .nil))).events = [([.str [0x78]], .str [0x69])] := by
  decide +kernel
/-- the hypothesis of `visit_paths_nodup` is needed: a fields selector listing a key twice (no spec compiles
    to one) visits that field twice -/
example : (visitsOf (walk {} 9 none none (.map (.cons [0x61] (.int 1) .nil))
      (.fields (.cons [0x61] (.matcher none) (.cons [0x61] (.matcher none) .nil)))).events).map (·.1)
    = [[], [.str [0x61]], [.str [0x61]]] := by decide +kernel
end Examples

/-! ### what a selector denotes, and completeness of the walk

The walk against an independent, path-indexed denotation (`Spec/SelectorDenote.lean`):
`selectorAt store s root path` follows `path` from `root` under `s` (random-access
lookup of each segment, `Explore` for the residual selector, a link child replaced by its block) and
`Selected store s root path` says it gets there.  `denote store depth s root` lists the selected positions of
depth `< depth` in document order.

Hypotheses, all explicit:
  * `Unrestricted cfg`: `cfg.startAt = []`, `cfg.skip = []`, `cfg.linkOnce = false`; and no budgets (`none none`);
  * `root.NoDup`, `StoreNoDup cfg.store`: no map of the root or of a stored block has a key twice (what C12 proves
    of every built node).  NEEDED: a path does not name a position otherwise (example below);
  * `(walk …).outcome = .ok ()`: enough fuel, every explored link loadable, no failing `Explore`, no ADL clause.
    `walk_ok_is_clean` / `clean_walk_ok` say this is exactly `Spec.cleanFrom` plus enough fuel. -/

section Complete
open Ipld.Spec

/-- A successful unrestricted walk visits exactly the enumeration `denote` (to any depth `d` at
    least the fuel: the selection has ended by then): the same positions, with the same node and reason, in
    the same order, with the same multiplicity. -/
theorem visits_eq_denote (cfg : Cfg) (hu : Unrestricted cfg) (hstore : StoreNoDup cfg.store) (root : DM)
    (hroot : root.NoDup) (s : S) (fuel : Nat) (hok : (walk cfg fuel none none root s).outcome = .ok ())
    (d : Nat) (hd : fuel ≤ d) :
    visitsOf (walk cfg fuel none none root s).events = denote cfg.store d s root :=
  walk_visits_eq_denote hu hstore hroot hok d hd

/-- What `denote` lists, without reference to any traversal: the entry for every path of length `< d` that
    `selectorAt` reaches, carrying `visitOf` of the node and residual selector found there. -/
theorem denote_characterised (store : Store) (d : Nat) (s : S) (root : DM) (x : Path × DM × Reason) :
    x ∈ denote store d s root ↔
      ∃ n' s', x.1.length < d ∧ selectorAt store s root x.1 = some (n', s') ∧ x = visitOf x.1 n' s' :=
  mem_denote store d s root x

/-- Soundness and completeness in one: a path is visited iff the selector leads to it. -/
theorem visited_iff_selected (cfg : Cfg) (hu : Unrestricted cfg) (hstore : StoreNoDup cfg.store) (root : DM)
    (hroot : root.NoDup) (s : S) (fuel : Nat) (hok : (walk cfg fuel none none root s).outcome = .ok ())
    (p : Path) :
    (∃ n r, (p, n, r) ∈ visitsOf (walk cfg fuel none none root s).events) ↔ Selected cfg.store s root p :=
  Walk.visited_iff_selected cfg hu hstore root hroot s fuel hok p

/-- The visit at `p` reports the node `selectorAt` reaches there, or `Match`'s answer for it (the
    slice, for a matcher with a subset) when the residual selector decides it; the reason is `matched`
    exactly in that case. -/
theorem visit_reason (cfg : Cfg) (hu : Unrestricted cfg) (hstore : StoreNoDup cfg.store) (root : DM)
    (hroot : root.NoDup) (s : S) (fuel : Nat) (hok : (walk cfg fuel none none root s).outcome = .ok ())
    (p : Path) (m : DM) (r : Reason) (h : (p, m, r) ∈ visitsOf (walk cfg fuel none none root s).events) :
    ∃ n s', selectorAt cfg.store s root p = some (n, s') ∧ m = (matchNode s' n).getD n ∧
      (r = .matched ↔ decides s' n = true) :=
  Walk.visit_reason cfg hu hstore root hroot s fuel hok p m r h

/-- Completeness with node and reason: the position `selectorAt` reaches at `p` is visited, as `visitOf` says. -/
theorem selected_is_visited (cfg : Cfg) (hu : Unrestricted cfg) (hstore : StoreNoDup cfg.store) (root : DM)
    (hroot : root.NoDup) (s : S) (fuel : Nat) (hok : (walk cfg fuel none none root s).outcome = .ok ())
    (p : Path) (n : DM) (s' : S) (h : selectorAt cfg.store s root p = some (n, s')) :
    visitOf p n s' ∈ visitsOf (walk cfg fuel none none root s).events :=
  selected_visited cfg hu hstore root hroot s fuel hok p n s' h

/-- Soundness holds for EVERY walk (any configuration, budgets, fuel, outcome): what is visited is selected and
    is reported as the spec says.  Only completeness needs the unrestricted, successful walk. -/
theorem visited_is_selected_any (cfg : Cfg) (hstore : StoreNoDup cfg.store) (root : DM) (hroot : root.NoDup)
    (s : S) (fuel : Nat) (nb lb : Option Int) (x : Path × DM × Reason)
    (h : x ∈ visitsOf (walk cfg fuel nb lb root s).events) :
    ∃ n s', selectorAt cfg.store s root x.1 = some (n, s') ∧ x = visitOf x.1 n s' :=
  visited_selectorAt hstore hroot h

/-- The walk's own account of the positions it can arrive at (`Reach`, used by the theorems above) is the
    path-indexed `selectorAt`. -/
theorem reach_is_selectorAt (cfg : Cfg) (hk : cfg.skip = []) (root : DM) (s0 : S) (hroot : root.NoDup)
    (hstore : StoreNoDup cfg.store) (path : Path) (n : DM) (s : S) :
    Reach cfg root s0 path n s ↔ selectorAt cfg.store s0 root path = some (n, s) :=
  reach_iff_selectorAt hk hroot hstore

/-- The visited paths are sorted by document order `DocBefore`: an ancestor before its descendants, and below a
    common ancestor the branch through the segment tried earlier first (the node's own order for selectors
    without explicit interests, the interest order otherwise). -/
theorem visits_doc_sorted (cfg : Cfg) (hu : Unrestricted cfg) (hstore : StoreNoDup cfg.store) (root : DM)
    (hroot : root.NoDup) (s : S) (fuel : Nat) (hok : (walk cfg fuel none none root s).outcome = .ok ()) :
    ((visitsOf (walk cfg fuel none none root s).events).map (·.1)).Pairwise (DocBefore cfg.store s root) :=
  walk_visits_sorted cfg hu hstore root hroot s fuel hok

/-- `DocBefore` is asymmetric (so irreflexive) when no selected position tries a segment twice. -/
theorem doc_before_asymm (store : Store) (s : S) (root : DM) (hnd : SegsNodup store s root) (p q : Path)
    (h : DocBefore store s root p q) : ¬ DocBefore store s root q p :=
  docBefore_asymm hnd h

/-- `SegsNodup` holds when nodes have no duplicate keys and explicit interest lists no duplicate segments
    (unions de-duplicate theirs: `union_interests_nodup`). -/
theorem segs_nodup_of (store : Store) (hstore : StoreNoDup store) (root : DM) (hroot : root.NoDup) (s : S)
    (hsel : ∀ q n s', selectorAt store s root q = some (n, s') → ∀ l, interests s' = some l → l.Nodup) :
    SegsNodup store s root :=
  segsNodup_of hstore hroot hsel

/-- The visit sequence is DETERMINED by the spec: any list holding exactly the selected paths and sorted by
    document order is the list of visited paths. -/
theorem visits_unique (cfg : Cfg) (hu : Unrestricted cfg) (hstore : StoreNoDup cfg.store) (root : DM)
    (hroot : root.NoDup) (s : S) (fuel : Nat) (hok : (walk cfg fuel none none root s).outcome = .ok ())
    (hnd : SegsNodup cfg.store s root) (L : List Path) (hmem : ∀ p, p ∈ L ↔ Selected cfg.store s root p)
    (hsorted : L.Pairwise (DocBefore cfg.store s root)) :
    (visitsOf (walk cfg fuel none none root s).events).map (·.1) = L := by
  rw [walk_visits_eq_denote hu hstore hroot hok fuel (Nat.le_refl _)]
  symm
  apply denote_unique hnd fuel L _ hsorted
  intro p
  rw [hmem]
  refine ⟨fun h => ⟨h, ?_⟩, fun h => h.1⟩
  obtain ⟨n, r, hv⟩ := (Walk.visited_iff_selected cfg hu hstore root hroot s fuel hok p).2 h
  rw [walk_visits_eq_denote hu hstore hroot hok fuel (Nat.le_refl _), mem_denote] at hv
  obtain ⟨_, _, hlen, _⟩ := hv
  exact hlen

/-- Exactly once: a selected path is visited once, any other path never. -/
theorem visited_exactly_once (cfg : Cfg) (hu : Unrestricted cfg) (hstore : StoreNoDup cfg.store) (root : DM)
    (hroot : root.NoDup) (s : S) (fuel : Nat) (hok : (walk cfg fuel none none root s).outcome = .ok ())
    (hnd : SegsNodup cfg.store s root) (p : Path) :
    ((visitsOf (walk cfg fuel none none root s).events).map (·.1)).count p =
      if Selected cfg.store s root p then 1 else 0 := by
  have hn := walk_visits_nodup cfg hu hstore root hroot s fuel hok hnd
  have hle := List.nodup_iff_count.1 hn p
  have hiff := visited_iff_selected cfg hu hstore root hroot s fuel hok p
  by_cases hsel : Selected cfg.store s root p
  · rw [if_pos hsel]
    obtain ⟨n, r, hv⟩ := hiff.2 hsel
    have : 0 < ((visitsOf (walk cfg fuel none none root s).events).map (·.1)).count p :=
      List.count_pos_iff.2 (List.mem_map.2 ⟨_, hv, rfl⟩)
    exact Nat.le_antisymm hle this
  · rw [if_neg hsel]
    apply List.count_eq_zero.2
    intro hm
    obtain ⟨x, hx, rfl⟩ := List.mem_map.1 hm
    exact hsel (hiff.1 ⟨x.2.1, x.2.2, hx⟩)

/-- A successful walk with fuel `f` means the selection is clean to depth `f`: no ADL clause is reached, no
    `Explore` fails, every explored link is in the store, and nothing is selected at depth `f` or below. -/
theorem walk_ok_is_clean (cfg : Cfg) (hu : Unrestricted cfg) (hstore : StoreNoDup cfg.store) (root : DM)
    (hroot : root.NoDup) (s : S) (fuel : Nat) (hok : (walk cfg fuel none none root s).outcome = .ok ()) :
    cleanFrom cfg.store fuel root s = true :=
  clean_of_walk_ok hu hstore hroot hok

/-- Conversely a selection clean to depth `d`, none of whose positions tries more than `W` segments, is walked
    successfully with any fuel from `d * (W + 3)`: the `ok` hypothesis of the theorems above is satisfiable
    whenever it should be. -/
theorem clean_walk_ok (cfg : Cfg) (hu : Unrestricted cfg) (hstore : StoreNoDup cfg.store) (root : DM)
    (hroot : root.NoDup) (s : S) (d W : Nat) (hc : cleanFrom cfg.store d root s = true)
    (hw : WidthLe cfg.store W root s) (fuel : Nat) (hf : d * (W + 3) ≤ fuel) :
    (walk cfg fuel none none root s).outcome = .ok () :=
  (ok_all cfg hu hstore W fuel).1 false [] root s { nodeBudget := none, linkBudget := none } ⟨rfl, rfl⟩ hroot d hc hw hf

/-- The explore-all-recursively selector `R(none, |[., a(@)])` (and any selector that explores every child with
    itself and matches every node) visits every position of the graph reachable through loadable links
    (`nodeAt`), reports the node there as a match, visits no path twice, and does so in pre-order
    (`preorder`: a node, then its children's subtrees in the node's own order). -/
theorem explore_all_visits_every_node (cfg : Cfg) (hu : Unrestricted cfg) (hstore : StoreNoDup cfg.store)
    (root : DM) (hroot : root.NoDup) (s : S) (hs : ExploresAll s) (fuel : Nat)
    (hok : (walk cfg fuel none none root s).outcome = .ok ()) :
    (∀ p, (∃ n r, (p, n, r) ∈ visitsOf (walk cfg fuel none none root s).events) ↔
      (nodeAt cfg.store root p).isSome = true) ∧
    (∀ p n r, (p, n, r) ∈ visitsOf (walk cfg fuel none none root s).events →
      nodeAt cfg.store root p = some n ∧ r = .matched) ∧
    ((visitsOf (walk cfg fuel none none root s).events).map (·.1)).Nodup ∧
    (∀ d, fuel ≤ d → visitsOf (walk cfg fuel none none root s).events =
      (preorder cfg.store d [] root).map fun x => (x.1, x.2, Reason.matched)) := by
  refine ⟨?_, ?_, ?_, ?_⟩
  · intro p
    rw [visited_iff_selected cfg hu hstore root hroot s fuel hok p, selected_all hs]
  · intro p n r h
    obtain ⟨n', s', hsel, hx⟩ := visited_selectorAt hstore hroot h
    simp only at hsel hx
    have hs' := selectorAt_all_sel hs hsel
    subst hs'
    rw [visitOf_all hs] at hx
    cases hx
    rw [selectorAt_all hs] at hsel
    simp only [Option.map_eq_some_iff, Prod.mk.injEq, and_true] at hsel
    obtain ⟨a, ha, rfl⟩ := hsel
    exact ⟨ha, rfl⟩
  · exact walk_visits_nodup cfg hu hstore root hroot s fuel hok (segsNodup_all hs hstore hroot)
  · intro d hd
    rw [walk_visits_eq_denote hu hstore hroot hok d hd]
    exact denoteFrom_all hs cfg.store d [] root

/-- the selector of the examples is of that kind -/
theorem selAll_explores_all : ExploresAll Ex.selAll := selAll_exploresAll

/-- An ExploreFields selector whose fields carry matchers visits exactly the root and the named children that
    exist (`LookupBySegment` of the key, taken as a string segment, finds them; a link child stands for its
    block, which the successful walk has loaded). -/
theorem fields_selector_visits_only_named (cfg : Cfg) (hu : Unrestricted cfg) (hstore : StoreNoDup cfg.store)
    (root : DM) (hroot : root.NoDup) (fs : SFields) (hfs : AllMatchers fs) (fuel : Nat)
    (hok : (walk cfg fuel none none root (.fields fs)).outcome = .ok ()) (p : Path) :
    (∃ n r, (p, n, r) ∈ visitsOf (walk cfg fuel none none root (.fields fs)).events) ↔
      p = [] ∨ ∃ k v, p = [.str k] ∧ k ∈ fieldKeys fs ∧ lookupBySegment root (.str k) = some v := by
  rw [visited_iff_selected cfg hu hstore root hroot _ fuel hok p, selected_fields_matchers cfg.store fs hfs]
  constructor
  · rintro (h | ⟨k, v, h1, h2, h3, _⟩)
    · exact Or.inl h
    · exact Or.inr ⟨k, v, h1, h2, h3⟩
  · rintro (h | ⟨k, v, h1, h2, h3⟩)
    · exact Or.inl h
    · right
      refine ⟨k, v, h1, h2, h3, ?_⟩
      obtain _ | f := fuel
      · rw [walk_outcome, walkAdv_zero] at hok; cases hok
      have hc := clean_of_walk_ok hu hstore hroot hok
      obtain ⟨s', hx⟩ := fieldLookup_eq_some fs k h2
      obtain ⟨n', hd, _⟩ := clean_step hc (mem_segsAt_fields.2 ⟨k, rfl, h2⟩) h3 (s' := s')
        (by simp only [explore, Seg.toString, hx])
      rw [hd]; rfl

/-- In general a field selector selects the root, and below a named child that exists whatever that field's
    selector selects there. -/
theorem fields_selected (store : Store) (fs : SFields) (root : DM) (p : Path) :
    Selected store (.fields fs) root p ↔
      p = [] ∨ ∃ k rest v n' s', p = .str k :: rest ∧ k ∈ fieldKeys fs ∧ lookupBySegment root (.str k) = some v ∧
        deref store v = some n' ∧ fieldLookup fs k = some s' ∧ Selected store s' n' rest :=
  selected_fields store fs root p

/-- With depth limit `d` the explore-all selector `R(depth d, |[., a(@)])` visits the positions of the graph at
    depth `< d` — and the root in any case: a limit of 0 (or a negative one) behaves like a limit of 1. -/
theorem recursion_limit_depth (cfg : Cfg) (hu : Unrestricted cfg) (hstore : StoreNoDup cfg.store) (root : DM)
    (hroot : root.NoDup) (d : Int) (fuel : Nat)
    (hok : (walk cfg fuel none none root (recAll d)).outcome = .ok ()) (p : Path) :
    (∃ n r, (p, n, r) ∈ visitsOf (walk cfg fuel none none root (recAll d)).events) ↔
      (nodeAt cfg.store root p).isSome = true ∧ (p = [] ∨ (p.length : Int) < d) := by
  rw [visited_iff_selected cfg hu hstore root hroot _ fuel hok p, selected_recAll]

section Examples
open Ipld.Walk.Ex
/-- the hypotheses hold of the example graph: the walk succeeds, and `clean_walk_ok` predicts it -/
example : (walk Ex.cfg 20 none none Ex.root selAll).outcome = .ok () := by decide +kernel
example : (walk Ex.cfg 20 none none Ex.root selAll).outcome = .ok () :=
  clean_walk_ok Ex.cfg Ex.unrestricted Ex.store_noDup Ex.root Ex.root_noDup selAll 3 2 (by decide)
    (widthLe_of_within _ 2 3 _ _ (by decide) (by decide)) 20 (by decide)
example : cleanFrom Ex.cfg.store 3 Ex.root selAll = true := by decide +kernel
example : cleanFrom Ex.cfg.store 2 Ex.root selAll = false := by decide +kernel   -- the selection is 3 levels deep
/-- selected / not selected, and what is found at a selected path (behind the link: the block) -/
example : Selected Ex.cfg.store selAll Ex.root [.str [0x6c], .str [0x78]] := by decide +kernel
example : ¬ Selected Ex.cfg.store selAll Ex.root [.str [0x6c], .str [0x79]] := by decide +kernel
example : (selectorAt Ex.cfg.store selAll Ex.root [.str [0x6c]]).map (·.1) = some Ex.blk := by decide +kernel
/-- `denote` on the example graph, and the conclusion of `visits_eq_denote` checked directly -/
example : denote Ex.cfg.store 20 selAll Ex.root =
    [([], Ex.root, .matched), ([.str [0x61]], .list (.cons (.int 1) (.cons (.int 2) .nil)), .matched),
     ([.str [0x61], .idx 0], .int 1, .matched), ([.str [0x61], .idx 1], .int 2, .matched),
     ([.str [0x6c]], Ex.blk, .matched), ([.str [0x6c], .str [0x78]], .str [0x68, 0x69], .matched)] := by decide
example : visitsOf (walk Ex.cfg 20 none none Ex.root selAll).events = denote Ex.cfg.store 20 selAll Ex.root := by
  decide +kernel
/-- the no-duplicate-keys hypothesis is needed: over `{"a": 1, "a": [2]}` the walk succeeds, visits `a` twice and
    `a/0` below the second, which no path-indexed reading can select -/
example : (walk {} 20 none none rootDup selAll).outcome = .ok () := by decide +kernel
example : (visitsOf (walk {} 20 none none rootDup selAll).events).map (·.1) =
    [[], [.str [0x61]], [.str [0x61]], [.str [0x61], .idx 0]] := by decide +kernel
example : ¬ Selected [] selAll rootDup [.str [0x61], .idx 0] := by decide +kernel
/-- the `ok` hypothesis is needed: with an empty store the link cannot be loaded, the walk stops, and the
    selection is not clean -/
example : (walk {} 20 none none Ex.root selAll).outcome = .error .load := by decide +kernel
example : cleanFrom [] 20 Ex.root selAll = false := by decide +kernel
/-- a block that is itself a bare link is a position as the link node (spec and walk agree) -/
example : (selectorAt store2 selAll root2 [.str [0x6c]]).map (·.1) = some (.link [2]) := by decide +kernel
example : visitsOf (walk { store := store2 } 20 none none root2 selAll).events =
    [([], root2, .matched), ([.str [0x6c]], .link [2], .matched)] := by decide +kernel
/-- fields `l`, `z` over the example root: the root (a candidate) and `l` (its block, matched); `z` does not exist -/
example : (walk Ex.cfg 20 none none Ex.root (.fields fsEx)).outcome = .ok () := by decide +kernel
example : visitsOf (walk Ex.cfg 20 none none Ex.root (.fields fsEx)).events =
    [([], Ex.root, .candidate), ([.str [0x6c]], Ex.blk, .matched)] := by decide +kernel
/-- a field selector reaches into a list when the key reads as an index (the path keeps the string segment) -/
example : visitsOf (walk {} 20 none none (.list (.cons (.int 7) .nil))
      (.fields (.cons [0x30] (.matcher none) .nil))).events =
    [([], .list (.cons (.int 7) .nil), .candidate), ([.str [0x30]], .int 7, .matched)] := by decide +kernel
/-- depth limits 0 and below still visit the root -/
example : (visitsOf (walk Ex.cfg 20 none none Ex.root (recAll 0)).events).map (·.1) = [[]] := by decide +kernel
example : (visitsOf (walk Ex.cfg 20 none none Ex.root (recAll (-5))).events).map (·.1) = [[]] := by decide +kernel
example : (visitsOf (walk Ex.cfg 20 none none Ex.root (recAll 2)).events).map (·.1) =
    [[], [.str [0x61]], [.str [0x6c]]] := by decide +kernel
end Examples

end Complete

end Ipld.Props.C07

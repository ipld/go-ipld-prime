/-
  C10 (companion) — a walk that follows links consumes the LINKS as untrusted data too: the hash check of every load runs
  `BuildLink` with the prototype of a link the data supplied.  Totality of that step (no panic, whatever digest length
  the link claims; before library fix e7e1a89 it panicked on a link declaring more digest than its hash function yields)
  is proved in Props/C06hostile.lean and restated here as C10's obligation ("the walk … never panics").
-/
import IpldModel.Props.C06hostile
namespace Ipld.Props.C10
open Ipld Ipld.Link

/-- the hash check of a load under any version-1 link from the data answers (match or mismatch), it does not panic -/
theorem link_hashCheck_total (H : Nat → Bytes → Bytes) (l : Lnk) (b : Bytes) (hv : l.version = 1) :
    ∃ l', buildLink l.proto (H l.mhType b) = some l' :=
  Ipld.Props.C06.hashCheck_total_v1 H l b hv

/-- … and so does the load: `fill` is a total function whose every outcome is one of the four verdicts; under a link
    that claims more digest than the function yields the verdict is never `ok` -/
theorem hostile_link_load_refused (H : Nat → Bytes → Bytes) (l : Lnk) (s : Stream) (d : DecRun)
    (hlong : ∀ b, (H l.mhType b).length < l.digest.length) :
    fill H false l s d = .hashMismatch ∨ fill H false l s d = .ioErr ∨ fill H false l s d = .decodeErr :=
  match h : fill H false l s d with
  | .ok => absurd h (Ipld.Props.C06.fill_overlong_never_ok H l s d (hlong _))
  | .hashMismatch => Or.inl rfl
  | .ioErr => Or.inr (Or.inl rfl)
  | .decodeErr => Or.inr (Or.inr rfl)

end Ipld.Props.C10

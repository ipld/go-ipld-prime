/-
  C14 (companion) — paths are values, at the level of Go slices and backing arrays (`Model/PathHeap.lean`, a
  transcription of `datamodel/path.go` with its allocations, copies and re-slicings): no operation changes what an
  existing path reads, and with `Join` written as `append(p.segments, p2.segments...)` that would be false.  Tie to the
  code: the skeletons of `C14skel` and the correspondence `C14/corr-path-heap` (driver `pathheap.run`) on `datamodel.Path`.
-/
import IpldModel.Lemmas.PathHeap
namespace Ipld.Props.C14
open Ipld Ipld.Sel Ipld.PathHeap

/-- One operation of path.go, any heap, any paths: a slice that existed before it (`WF`: its window lies inside its
    array) reads the same after it, and still exists. -/
theorem path_ops_preserve_reads (st st' : St) (op : Op) (hs : step st op = some st') (s : Slice) (w : s.WF st.heap) :
    read st'.heap s = read st.heap s ∧ s.WF st'.heap :=
  w.ext (step_later hs).heap

/-- The same for a whole history: any existing slice, not only the paths the history knows about. -/
theorem path_run_preserves_reads : ∀ (ops : List Op) (st st' : St), run st ops = some st' → ∀ s : Slice, s.WF st.heap →
    read st'.heap s = read st.heap s ∧ s.WF st'.heap :=
  fun ops _ _ h _ w => w.ext (run_later ops h).heap

/-- Paths are values.  From any well-formed start, run any history `ops1`, look at any path `s` that exists at that
    moment (`mid`), then run any further history `ops2` — derivations from `s` itself, from its re-slices, from anything:
    `s` is still among the paths and reads exactly what it read at `mid`. -/
theorem path_history_stable (st mid st' : St) (ops1 ops2 : List Op) (hwf : st.WF)
    (h1 : run st ops1 = some mid) (h2 : run mid ops2 = some st') :
    ∀ s ∈ mid.paths, s ∈ st'.paths ∧ read st'.heap s = read mid.heap s :=
  fun s hs => ⟨(run_later ops2 h2).paths.subset hs, (((run_later ops1 h1).wf hwf s hs).ext (run_later ops2 h2).heap).1⟩

/-- Within its contract (`Op.spec` defined on the current path values: names in range, `Truncate` within the length)
    every operation succeeds — no panic — adds exactly one path, and that path reads what the operation means on
    values: `AppendSegment p s` reads `read p ++ [s]`, `Join p q` reads `read p ++ read q`, `Parent`/`Pop` drop the last
    segment, `Truncate n` takes `n`, `Shift` drops the first, `NewPath` reads its argument, `ParsePath` the parse. -/
theorem derived_reads (st : St) (op : Op) (hwf : st.WF) (v : List Seg)
    (hv : op.spec (st.paths.map (read st.heap)) = some v) :
    ∃ h' q, step st op = some ⟨h', st.paths ++ [q]⟩ ∧ read h' q = v := by
  -- `hv` spelled out for each operation: the paths it names exist and `v` is the operation's meaning on what they
  -- read; then, per operation, `step` is computed and the new path read by that operation's lemma
  cases op <;>
    simp only [Op.spec, List.getElem?_map, Option.bind_eq_some_iff, Option.map_eq_some_iff, Option.some.injEq] at hv
  case newPath segs =>
    cases hv
    exact ⟨_, _, by simp only [step, stepWith, newPath_eq]; rfl, read_alloc⟩
  case parsePath txt =>
    cases hv
    exact ⟨_, _, by simp only [step, stepWith, parsePath_eq]; rfl, read_alloc⟩
  case append i x =>
    obtain ⟨_, ⟨p, hp, rfl⟩, rfl⟩ := hv
    obtain ⟨y, he, hy⟩ := appendSegment_eq st.heap p x
    cases hy (hwf.get hp)
    exact ⟨_, _, by simp only [step, stepWith, hp, Option.map_some, he]; rfl, read_alloc⟩
  case join i j =>
    obtain ⟨_, ⟨p, hp, rfl⟩, _, ⟨p2, hp2, rfl⟩, rfl⟩ := hv
    obtain ⟨y, he, hy⟩ := join_eq st.heap p p2
    cases hy (hwf.get hp) (hwf.get hp2)
    exact ⟨_, _, by simp only [step, stepWith, hp, hp2, Option.bind_some, Option.map_some, he]; rfl, read_alloc⟩
  case parent i =>
    obtain ⟨_, ⟨p, hp, rfl⟩, rfl⟩ := hv
    exact ⟨_, _, by simp only [step, stepWith, hp, Option.map_some], (parent_spec (hwf.get hp)).1⟩
  case pop i =>
    obtain ⟨_, ⟨p, hp, rfl⟩, rfl⟩ := hv
    exact ⟨_, _, by simp only [step, stepWith, hp, Option.map_some, pop_eq_parent], (parent_spec (hwf.get hp)).1⟩
  case truncate i n =>
    obtain ⟨_, ⟨p, hp, rfl⟩, hv⟩ := hv
    split at hv
    · next hn =>
      cases hv
      rw [read_length (hwf.get hp)] at hn
      obtain ⟨hq, _, hr⟩ := truncate_spec (hwf.get hp) n hn.1 (Int.le_trans hn.2 (Int.ofNat_le.2 (hwf.get hp).1))
      exact ⟨_, _, by simp only [step, stepWith, hp, Option.bind_some, hq, Option.map_some], hr hn.2⟩
    · cases hv
  case shift i =>
    obtain ⟨_, ⟨p, hp, rfl⟩, rfl⟩ := hv
    exact ⟨_, _, by simp only [step, stepWith, hp, Option.map_some], (shift_spec (hwf.get hp)).1⟩

/-- `Last()` is the last segment of what the path reads (`EmptyPathSegment` for the empty path). -/
theorem last_reads (h : Heap) (p : Slice) (w : p.WF h) : last h p = (read h p).getLast?.getD emptySeg := by
  unfold last; rw [← read_length w]
  cases read h p with
  | nil => rfl
  | cons a l =>
    rw [List.getLast?_eq_getElem?, List.length_cons, if_neg (Nat.not_lt.2 (Nat.le_add_left 1 _)),
      List.getElem?_eq_getElem (Nat.lt_succ_self l.length)]; rfl

/-- `Shift()`'s segment is the first segment of what the path reads (`EmptyPathSegment` for the empty path). -/
theorem shiftSeg_reads (h : Heap) (p : Slice) (w : p.WF h) : shiftSeg h p = (read h p).head?.getD emptySeg := by
  unfold shiftSeg; rw [← read_length w]
  cases read h p with
  | nil => rfl
  | cons a l => exact if_neg (Nat.not_lt.2 (Nat.le_add_left 1 _))

/-- the counterexample history: `p0 = NewPath [0, 1]`, `p1 = NewPath [7]`, `p2 = NewPath [8]`, `p3 = p0.Parent()`
    (reads `[0]`, capacity 2), `p4 = p3.Join(p1)` — then, later, `p5 = p3.Join(p2)` -/
def breakOps1 : List Op := [.newPath [.idx 0, .idx 1], .newPath [.idx 7], .newPath [.idx 8], .parent 0, .join 3 1]
def breakOps2 : List Op := [.join 3 2]

/-- With `Join` implemented by `append`, `path_history_stable` is false: after `breakOps1` the fifth path reads
    `[0, 7]`; one more join from the same parent later it reads `[0, 8]`.  (The first join had already turned the
    original path `[0, 1]` into `[0, 7]`.) -/
theorem joinAppend_breaks_stability :
    ∃ mid st' : St, runWith joinAppend St.empty breakOps1 = some mid ∧ runWith joinAppend mid breakOps2 = some st' ∧
      St.empty.WF ∧ (∀ s ∈ mid.paths, s.WF mid.heap) ∧
      ∃ s ∈ mid.paths, read mid.heap s = [.idx 0, .idx 7] ∧ read st'.heap s = [.idx 0, .idx 8] ∧
        read st'.heap s ≠ read mid.heap s :=
  ⟨⟨[[.idx 0, .idx 7], [.idx 7], [.idx 8]], [⟨0, 0, 2, 2⟩, ⟨1, 0, 1, 1⟩, ⟨2, 0, 1, 1⟩, ⟨0, 0, 1, 2⟩, ⟨0, 0, 2, 2⟩]⟩,
   ⟨[[.idx 0, .idx 8], [.idx 7], [.idx 8]], [⟨0, 0, 2, 2⟩, ⟨1, 0, 1, 1⟩, ⟨2, 0, 1, 1⟩, ⟨0, 0, 1, 2⟩, ⟨0, 0, 2, 2⟩, ⟨0, 0, 2, 2⟩]⟩,
   by decide +kernel, by decide +kernel, (by intro s hs; cases hs), by decide +kernel,
   ⟨⟨0, 0, 2, 2⟩, by decide +kernel, by decide +kernel, by decide +kernel, by decide +kernel⟩⟩

/-- …and already the first in-place join changes the ORIGINAL path: `[0, 1]` reads `[0, 7]`. -/
theorem joinAppend_overwrites_base :
    (runWith joinAppend St.empty (breakOps1.take 4)).map (fun st => st.paths.map (read st.heap))
      = some [[.idx 0, .idx 1], [.idx 7], [.idx 8], [.idx 0]] ∧
    (runWith joinAppend St.empty breakOps1).map (fun st => st.paths.map (read st.heap))
      = some [[.idx 0, .idx 7], [.idx 7], [.idx 8], [.idx 0], [.idx 0, .idx 7]] := by
  decide +kernel

/-- the same histories under path.go's `Join`: nothing moves (the hypotheses of `path_history_stable` are met and its
    conclusion is about real, distinct reads) -/
example : (run St.empty breakOps1).map (fun st => st.paths.map (read st.heap))
      = some [[.idx 0, .idx 1], [.idx 7], [.idx 8], [.idx 0], [.idx 0, .idx 7]] ∧
    (run St.empty (breakOps1 ++ breakOps2)).map (fun st => st.paths.map (read st.heap))
      = some [[.idx 0, .idx 1], [.idx 7], [.idx 8], [.idx 0], [.idx 0, .idx 7], [.idx 0, .idx 8]] := by decide +kernel

/-- re-slices do share the array: `Parent()` then `Truncate(2)` reaches the original's last cell again (within capacity);
    `Truncate(3)` panics; a made path has no spare capacity -/
example : (run St.empty [.newPath [.idx 0, .idx 1], .parent 0, .truncate 1 2]).map (fun st => st.paths.map (read st.heap))
      = some [[.idx 0, .idx 1], [.idx 0], [.idx 0, .idx 1]] ∧
    run St.empty [.newPath [.idx 0, .idx 1], .parent 0, .truncate 1 3] = none ∧
    run St.empty [.newPath [.idx 0, .idx 1], .truncate 0 3] = none ∧
    run St.empty [.newPath [.idx 0, .idx 1], .truncate 0 (-1)] = none := by decide +kernel

/-- `derived_reads` is not vacuous: every kind of operation within its contract, on a history with shared arrays -/
example : (run St.empty [.parsePath [0x61, 0x2f, 0x62, 0x2f, 0x2f, 0x63], .shift 0, .append 1 (.idx 5), .pop 2, .join 3 0,
      .truncate 4 2, .parent 5]).map (fun st => st.paths.map (read st.heap))
      = some [[.str [0x61], .str [0x62], .str [0x63]], [.str [0x62], .str [0x63]], [.str [0x62], .str [0x63], .idx 5],
          [.str [0x62], .str [0x63]], [.str [0x62], .str [0x63], .str [0x61], .str [0x62], .str [0x63]],
          [.str [0x62], .str [0x63]], [.str [0x62]]] := by decide +kernel

example : St.empty.WF := by intro s hs; cases hs

end Ipld.Props.C14

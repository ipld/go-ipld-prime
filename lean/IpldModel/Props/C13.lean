/-
  C13 — generated code (schema/gen/go) against the reflection binding: what the schema model says about
  `Engine.gen`.  The differential run of go/internal/checks/c13.go found five deviations of the generated
  builders, each a named flag of `Engine` (`tupleShortAccepted`, `prefixEmptyDelimSplit`,
  `kindedNullRejected`, `keyAsmDupMapKey`, `assignNodeSkipsBegin`); four of them have since been repaired in
  /repo, so `Engine.gen` is `Engine.ideal` plus the one remaining flag `keyAsmDupMapKey`.
-/
import IpldModel.Lemmas.SchemaEngineEq
import IpldModel.Lemmas.SchemaSeal
import IpldModel.Props.C09
namespace Ipld.Props.C13
open Ipld Ipld.Schema

/-- The deviations of generated code, by name: exactly this one flag is set. -/
theorem gen_flags :
    (Engine.gen.flags.filter (fun f => f.2.1)).map (·.1) = ["keyAsmDupMapKey"] :=
  rfl

/-- Nothing else separates generated code from the ideal builders: with that flag cleared it IS `ideal`
    (and therefore `bindnode`, whose flags are all off). -/
theorem gen_cleared_is_ideal : { Engine.gen with keyAsmDupMapKey := false } = Engine.ideal :=
  rfl

theorem bindnode_is_ideal : Engine.bindnode = Engine.ideal := rfl

/-- The two plan-dependent flags are inert unless the builder is driven that way: `gen` itself is driven through
    `AssembleEntry` with `Begin*` called. -/
theorem gen_plan : Engine.gen.viaKeys = false ∧ Engine.gen.viaNode = false := ⟨rfl, rfl⟩

/-- `kindedNullRejected`, in full: an engine with the flag accepts null exactly in a nullable slot that is not a
    kinded union seen at representation level ... -/
theorem kindedNullRejected_null (e : Engine) (h : e.kindedNullRejected = true) (lvl : Level) (ty : Ty) (nul : Bool)
    (cur : Option TL) :
    build e lvl ty nul cur .null
      = if nul && !(lvl == Level.repr && isKinded ty) then .ok .null else .reject := by
  unfold build
  rw [h, Bool.true_and]

/-- ... and an engine without it exactly in a nullable slot, like the ideal one. -/
theorem no_kindedNullRejected_null (e : Engine) (h : e.kindedNullRejected = false) (lvl : Level) (ty : Ty)
    (nul : Bool) (cur : Option TL) :
    build e lvl ty nul cur .null = if nul then .ok .null else .reject :=
  build_null_off h lvl ty nul cur

/-- Generated code (the kinded `AssignNull` repaired) treats null as the ideal builder does. -/
theorem gen_null (lvl : Level) (ty : Ty) (nul : Bool) (cur : Option TL) :
    build Engine.gen lvl ty nul cur .null = if nul then .ok .null else .reject :=
  no_kindedNullRejected_null _ rfl lvl ty nul cur

theorem ideal_null (lvl : Level) (ty : Ty) (nul : Bool) (cur : Option TL) :
    build Engine.ideal lvl ty nul cur .null = if nul then .ok .null else .reject :=
  build_null_ideal lvl ty nul cur

/-- `tupleShortAccepted` at the empty list, any engine with the flag: nothing is checked, every field reads its
    zero value (an optional one Absent). -/
theorem tupleShortAccepted_empty (e : Engine) (h : e.tupleShortAccepted = true) (fs : List Field) (st : SSt)
    (i : Nat) : buildTuple e fs st i .nil = st.finishZero fs := by
  simp [buildTuple, h]

/-- `assignNodeSkipsBegin` acts only when the builder is driven by `AssignNode` of prebuilt nodes, only with the flag,
    and only on a slot that is a `Maybe`. -/
theorem nilSlot_needs_node_plan (e : Engine) (lvl : Level) (m : Bool) (ty : Ty) (d : DM) (h : e.viaNode = false) :
    nilSlotAssign e lvl m ty d = none :=
  nilSlotAssign_off (by rw [h]; rfl) lvl m ty d

theorem nilSlot_needs_flag (e : Engine) (lvl : Level) (m : Bool) (ty : Ty) (d : DM) (h : e.assignNodeSkipsBegin = false) :
    nilSlotAssign e lvl m ty d = none :=
  nilSlotAssign_off (by rw [h, Bool.and_false]) lvl m ty d

theorem nilSlot_needs_maybe (e : Engine) (lvl : Level) (ty : Ty) (d : DM) :
    nilSlotAssign e lvl false ty d = none := by
  unfold nilSlotAssign
  rw [Bool.and_false]
  rfl

/-- ... and never on a scalar input: only map and list nodes are iterated by `AssignNode`. -/
theorem nilSlot_scalar (e : Engine) (lvl : Level) (m : Bool) (ty : Ty) (d : DM) (h : isScalar d = true) :
    nilSlotAssign e lvl m ty d = none := by
  unfold nilSlotAssign
  rw [ite_eq_left_iff]
  intro _
  -- every equation that answers takes a map or a list; a scalar falls through to the last one
  split
  · cases h
  · cases h
  · cases h
  · rfl

/-- Generated code as it is never decides a slot ahead of its builder, however it is driven. -/
theorem gen_nilSlot (viaKeys viaNode : Bool) (lvl : Level) (m : Bool) (ty : Ty) (d : DM) :
    nilSlotAssign { Engine.gen with viaKeys := viaKeys, viaNode := viaNode } lvl m ty d = none :=
  nilSlot_needs_flag _ lvl m ty d rfl

/-- `strings.SplitN(s, "", 2)` on ASCII text: one byte and the rest, if there is a rest. -/
theorem splitFirstRune_ascii (a b : UInt8) (rest : Bytes) (h : a < 0x80) :
    splitFirstRune (a :: b :: rest) = some ([a], b :: rest) := by
  have hw : firstRuneWidth (a :: b :: rest) = 1 := by
    dsimp only [firstRuneWidth]
    rw [if_pos h, ite_self]
  unfold splitFirstRune
  rw [hw]
  rfl

theorem splitFirstRune_short (a : UInt8) (h : a < 0x80) : splitFirstRune [a] = none ∧ splitFirstRune [] = none := by
  have hw : firstRuneWidth [a] = 1 := by
    dsimp only [firstRuneWidth]
    rw [if_pos h, ite_self]
  refine ⟨?_, rfl⟩
  unfold splitFirstRune
  rw [hw]
  rfl

/-- An accepted value that holds the unreadable marker is a panic; any other outcome is untouched. -/
theorem seal_ok (v : TL) (h : v.broken = false) : (Outcome.ok v).seal = .ok v := by
  simp [Outcome.seal, h]

theorem seal_reject : (Outcome.reject : Outcome TL).seal = .reject := rfl

/-! ### The witnesses of known_findings.json, inside the model

  `keyAsmDupMapKey` is still a flag of `Engine.gen`; the other four were repaired in /repo, their witnesses are
  replayed on the ideal engine with that one flag set (what the generator of the pinned commit did). -/

private def tupA : Ty := .struct (.cons [0x61] [0x61] false false .int .nil) .tuple

/-- `C13/gen-tupleShortAccepted` (repaired): `[]` for `struct {a Int} representation tuple` built `{a: 0}`;
    ideal - and generated code now - refuses. -/
theorem witness_tupleShortAccepted :
    buildSealed { Engine.ideal with tupleShortAccepted := true } .repr tupA (.list .nil)
        = .ok (.map (.cons [0x61] (.int 0) .nil))
    ∧ buildSealed Engine.ideal .repr tupA (.list .nil) = .reject
    ∧ buildSealed Engine.gen .repr tupA (.list .nil) = .reject := by
  decide +kernel

private def tupL : Ty := .struct (.cons [0x61] [0x61] false false .link .nil) .tuple

/-- ... and where the zero value cannot be read back (a nil link) the accepted node is unreadable: `build` says `ok`,
    the sealed outcome is a panic.  This is the one way `tupleShortAccepted` panics; `build` itself never does
    (C09 `never_panics_without_panic_flags` has no hypothesis on it). -/
theorem witness_tupleShortAccepted_unreadable :
    build { Engine.ideal with tupleShortAccepted := true } .repr tupL false none (.list .nil)
        = .ok (.map (.cons [0x61] TL.unreadable .nil))
    ∧ buildSealed { Engine.ideal with tupleShortAccepted := true } .repr tupL (.list .nil) = .panic
    ∧ buildSealed Engine.ideal .repr tupL (.list .nil) = .reject := by
  decide +kernel

private def prefAA : Ty := .union (.cons [0x54, 0x31] [0x61, 0x61] .str .str .nil) (.stringprefix [])

/-- `C13/gen-prefixEmptyDelimSplit` (repaired): "aax" for discriminant "aa" without delimiter. -/
theorem witness_prefixEmptyDelimSplit :
    buildSealed { Engine.ideal with prefixEmptyDelimSplit := true } .repr prefAA (.str [0x61, 0x61, 0x78]) = .reject
    ∧ buildSealed Engine.ideal .repr prefAA (.str [0x61, 0x61, 0x78]) = .ok (.map (.cons [0x54, 0x31] (.str [0x78]) .nil))
    ∧ buildSealed Engine.gen .repr prefAA (.str [0x61, 0x61, 0x78]) = .ok (.map (.cons [0x54, 0x31] (.str [0x78]) .nil)) := by
  decide +kernel

private def listKinded : Ty := .list (.union (.cons [0x54, 0x32] [0x54, 0x32] .int .int .nil) .kinded) true

/-- `C13/gen-kindedNullRejected` (repaired): `[null]` for a list of nullable kinded unions. -/
theorem witness_kindedNullRejected :
    buildSealed { Engine.ideal with kindedNullRejected := true } .repr listKinded (.list (.cons .null .nil)) = .reject
    ∧ buildSealed Engine.ideal .repr listKinded (.list (.cons .null .nil)) = .ok (.list (.cons .null .nil))
    ∧ buildSealed Engine.gen .repr listKinded (.list (.cons .null .nil)) = .ok (.list (.cons .null .nil)) := by
  decide +kernel

private def kk : DM := .map (.cons [0x6b] (.int 1) (.cons [0x6b] (.int 2) .nil))

/-- `C13/gen-keyAsmDupMapKey`: `{k:1, k:2}` through the key assembler; through `AssembleEntry` it is refused. -/
theorem witness_keyAsmDupMapKey :
    buildSealed { Engine.gen with viaKeys := true } .type (.map .int false) kk
        = .ok (.map (.cons [0x6b] (.int 1) (.cons [0x6b] (.int 2) .nil)))
    ∧ buildSealed Engine.gen .type (.map .int false) kk = .reject
    ∧ buildSealed { Engine.ideal with viaKeys := true } .type (.map .int false) kk = .reject := by
  decide +kernel

/-- `C13/gen-assignNodeSkipsBegin` (repaired): a prebuilt `{k:1}` handed to a typed map by `AssignNode`; the flag
    needs the driving mode, the driving mode needs the flag. -/
theorem witness_assignNodeSkipsBegin :
    buildSealed { Engine.ideal with assignNodeSkipsBegin := true, viaNode := true } .type (.map .int false)
        (.map (.cons [0x6b] (.int 1) .nil)) = .panic
    ∧ buildSealed { Engine.ideal with assignNodeSkipsBegin := true } .type (.map .int false)
        (.map (.cons [0x6b] (.int 1) .nil)) = .ok (.map (.cons [0x6b] (.int 1) .nil))
    ∧ buildSealed { Engine.ideal with viaNode := true } .type (.map .int false) (.map (.cons [0x6b] (.int 1) .nil))
        = .ok (.map (.cons [0x6b] (.int 1) .nil))
    ∧ buildSealed { Engine.gen with viaNode := true } .type (.map .int false) (.map (.cons [0x6b] (.int 1) .nil))
        = .ok (.map (.cons [0x6b] (.int 1) .nil)) := by
  decide +kernel

/-! ### C09 for generated code -/

/-- `Engine.flags` lists all sixteen deviation flags (the driving modes `viaKeys`, `viaNode` are not deviations and
    not listed): "every listed flag is off" is "each of the sixteen fields is `false`". -/
theorem flags_off_iff (e : Engine) :
    e.flags.all (fun f => !f.2.1) = true ↔
      (e.dupStructField = false ∧ e.reuseSlot = false ∧ e.dupMapKey = false ∧ e.unionMulti = false ∧
       e.renameFallback = false ∧ e.discFallback = false ∧ e.enumTypeAnyString = false ∧
       e.enumNameAtRepr = false ∧ e.nullableUnionPanic = false ∧ e.lpShortPair = false ∧
       e.lpUnknownKeyPanic = false ∧ e.tupleShortAccepted = false ∧ e.prefixEmptyDelimSplit = false ∧
       e.kindedNullRejected = false ∧ e.keyAsmDupMapKey = false ∧ e.assignNodeSkipsBegin = false) :=
  Engine.flags_off_iff e

/-- An engine whose sixteen flags (the eleven of the reflection binding and the five of
    generated code) are all off builds what the ideal engine builds - every level, type, slot and input - in ANY
    driving mode: `viaKeys` and `viaNode` only ever matter together with `keyAsmDupMapKey` / `assignNodeSkipsBegin`. -/
theorem build_with_flags_cleared (e : Engine) (h : e.flags.all (fun f => !f.2.1) = true) (lvl : Level) (ty : Ty)
    (nul : Bool) (cur : Option TL) (d : DM) :
    build e lvl ty nul cur d = build Engine.ideal lvl ty nul cur d :=
  build_of_flags_off e h lvl ty nul cur d

/-- The strongest form behind it: two engines that agree on the fourteen flags read on their own and on the two
    combinations `keyAsmDupMapKey && viaKeys`, `viaNode && assignNodeSkipsBegin` build the same thing from every
    input (`Engine.Same`; the flags and the driving modes are read nowhere else). -/
theorem build_depends_only_on (e e' : Engine) (h : e.Same e') (lvl : Level) (ty : Ty) (nul : Bool)
    (cur : Option TL) (d : DM) : build e lvl ty nul cur d = build e' lvl ty nul cur d :=
  build_congr e e' h d lvl ty nul cur

/-- Generated code with its flag cleared, driven in any mode, satisfies the hypothesis. -/
theorem gen_cleared_flags_off (viaKeys viaNode : Bool) :
    ({ Engine.gen with keyAsmDupMapKey := false, viaKeys := viaKeys, viaNode := viaNode } : Engine).flags.all
      (fun f => !f.2.1) = true :=
  rfl

/-- ... and so does generated code as it is, as long as it is not driven through the key assembler: the one flag
    it has left is inert without `viaKeys`. -/
theorem gen_is_ideal_without_viaKeys (viaNode : Bool) (lvl : Level) (ty : Ty) (nul : Bool) (cur : Option TL)
    (d : DM) :
    build { Engine.gen with viaNode := viaNode } lvl ty nul cur d = build Engine.ideal lvl ty nul cur d :=
  build_congr { Engine.gen with viaNode := viaNode } Engine.ideal
    ⟨rfl, rfl, rfl, rfl, rfl, rfl, rfl, rfl, rfl, rfl, rfl, rfl, rfl, rfl, rfl, Bool.and_false viaNode⟩
    d lvl ty nul cur

/-- For generated code once its flags are off, in any driving mode and any slot, what C09 says of the ideal engine. -/
theorem gen_with_flags_cleared_accepts_iff_conforms (e : Engine) (h : e.flags.all (fun f => !f.2.1) = true)
    (ty : Ty) (nul : Bool) (d : DM) (hwf : ty.wf = true) :
    (build e .type ty nul none d =
        if conforms ty nul (TL.ofDM d) = true then .ok (normalize ty (TL.ofDM d)) else .reject) ∧
    ((build e .type ty nul none d).isOk = true ↔ conforms ty nul (TL.ofDM d) = true) ∧
    ((build e .repr ty nul none d).isOk = true ↔ conformsRepr ty nul d = true) ∧
    (∀ lvl, build e lvl ty nul none d ≠ .panic) ∧
    (∀ lvl v, build e lvl ty nul none d = .ok v → conforms ty nul v = true) := by
  have hb : ∀ lvl, build e lvl ty nul none d = build Engine.ideal lvl ty nul none d :=
    fun lvl => build_with_flags_cleared e h lvl ty nul none d
  simp only [hb]
  refine ⟨C09.ofType_eq ty nul d hwf, ?_, ?_, fun lvl => C09.ideal_never_panics lvl ty nul none d,
    fun lvl v hv => C09.built_conforms lvl ty nul d v hwf hv⟩
  · rw [C09.ofType_eq ty nul d hwf]
    cases conforms ty nul (TL.ofDM d) <;> exact Iff.rfl
  · rw [C09.ofRepr_isOk_eq ty nul d hwf]

/-- What the ideal builder of a well-formed type builds conforms, hence can be read back in full: sealing
    (`buildSealed`, what the differential run observes) changes nothing. -/
theorem ideal_sealed (lvl : Level) (ty : Ty) (d : DM) (hwf : ty.wf = true) :
    buildSealed Engine.ideal lvl ty d = build Engine.ideal lvl ty false none d :=
  Outcome.seal_of_conforms _ ty false (fun v hv => C09.built_conforms lvl ty false d v hwf hv)

theorem buildSealed_with_flags_cleared (e : Engine) (h : e.flags.all (fun f => !f.2.1) = true) (lvl : Level)
    (ty : Ty) (d : DM) (hwf : ty.wf = true) :
    buildSealed e lvl ty d = build Engine.ideal lvl ty false none d := by
  unfold buildSealed
  rw [build_with_flags_cleared e h]
  exact ideal_sealed lvl ty d hwf

theorem gen_cleared_root_builders (viaKeys viaNode : Bool) (ty : Ty) (d : DM) (hwf : ty.wf = true) :
    let e : Engine := { Engine.gen with keyAsmDupMapKey := false, viaKeys := viaKeys, viaNode := viaNode }
    ((ofType e ty d).isOk = true ↔ conforms ty false (TL.ofDM d) = true) ∧
    ((ofRepr e ty d).isOk = true ↔ conformsRepr ty false d = true) := by
  intro e
  have := gen_with_flags_cleared_accepts_iff_conforms e (gen_cleared_flags_off viaKeys viaNode) ty false d hwf
  exact ⟨this.2.1, this.2.2.1⟩

/-- Generated code AS IT IS (flag `keyAsmDupMapKey` set), in any driving mode:
    whatever the ideal builder accepts it accepts, with the same node, and it never panics - its remaining deviation
    only shows on input the ideal builder refuses (a repeated map key through the key assembler,
    `witness_keyAsmDupMapKey`). -/
theorem gen_accepts_what_ideal_accepts (viaKeys viaNode : Bool) (lvl : Level) (ty : Ty) (nul : Bool) (d : DM) :
    let e : Engine := { Engine.gen with viaKeys := viaKeys, viaNode := viaNode }
    (∀ v, build Engine.ideal lvl ty nul none d = .ok v → build e lvl ty nul none d = .ok v) ∧
    build e lvl ty nul none d ≠ .panic := by
  intro e
  have ha : (e.viaNode && e.assignNodeSkipsBegin) = false := Bool.and_false viaNode
  exact ⟨fun v hv => C09.accepted_by_every_engine e rfl rfl rfl ha lvl ty nul d v hv,
         C09.never_panics_without_panic_flags e rfl rfl ha lvl ty nul none d⟩

end Ipld.Props.C13

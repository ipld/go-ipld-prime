/-
  C20 — builders created from shared prototypes and readers of shared finished nodes may run concurrently, over the
  multi-builder layer of the heap model (`Conc`, `cstep`, `crun` in Model/Heap.lean: builders take turns on one shared
  heap, a schedule is any interleaving of their calls).  Data-race freedom at model level: under every schedule no two
  builders write one location, and none writes what a reader of a shared finished node reads.  See DESIGN §13.3 C20.
-/
import IpldModel.Lemmas.HeapExamples
import IpldModel.Props.C19
namespace Ipld.Props.C20
open Ipld Ipld.Asm Ipld.Heap

/-- The lifted invariant holds of builders that have not started, on any heap satisfying the heap
    invariant (for instance the heap left by any well-formed single-builder history). -/
theorem conc_inv_init {h : H} {ths : List Thread} {w : List (Nat × Loc)} (hh : HeapInv h)
    (hf : ∀ th ∈ ths, th.frames = [] ∧ th.root = none) :
    CInv { h := h, threads := ths, written := w } := by
  have hall : allIds ths = [] :=
    List.flatMap_eq_nil_iff.2 fun th hth => by rw [(hf th hth).1]; rfl
  exact {
    heap := hh
    ids_lt := by rw [show allIds _ = _ from hall]; exact fun _ hid => nomatch hid
    ids_unfin := by rw [show allIds _ = _ from hall]; exact fun _ hid => nomatch hid
    ids_nodup := hall ▸ List.nodup_nil
    kinds := by intro th hth p hp; rw [(hf th hth).1] at hp; cases hp
    roots := by intro th hth v hv; rw [(hf th hth).2] at hv; cases hv }

/-- The lifted invariant (heap invariant; the objects under construction by all builders together
    are unfinished and pairwise distinct, hence own their arrays and lookup maps exclusively) is
    preserved by every well-formed schedule. -/
theorem conc_inv {c : Conc} {sched : List (Nat × HOp)} (hc : CInv c) (hw : SchedWf c sched) :
    CInv (crun c sched) := by
  induction sched generalizing c with
  | nil => exact hc
  | cons e rest ih => exact ih (hc.step hw.1) hw.2

/-- Start with builders that have no frames yet.  Under every well-formed schedule, every location
    written by any builder was allocated after the start: an object header, array or lookup map
    that did not exist in the initial heap. -/
theorem private_writes {c : Conc} {sched : List (Nat × HOp)} (hc : CInv c)
    (hnf : ∀ th ∈ c.threads, th.frames = []) (hw : SchedWf c sched) :
    ∃ w, (crun c sched).written = w ++ c.written ∧ ∀ e ∈ w, FreshLoc c.h e.2 := by
  obtain ⟨w, ow, e, ho⟩ := crun_own (own_init c hnf) hc hw
  refine ⟨w, e, ?_⟩
  intro x hx
  exact (ho.writes x (by rw [List.append_nil]; exact hx)).fresh

/-- No conflicts.  Under every well-formed schedule from builders without frames: (1) a location is
    written by at most one builder — if two logged writes hit the same location they are by the
    same thread; (2) no written location is in the read set of a node that was finished in the
    initial heap.  So builders race neither with each other nor with readers of shared nodes.
    (`written` logs the writes into existing cells: array cells, lookup maps, headers of objects under
    construction.  Cells of a freshly allocated array, the header of a fresh object and the shortcut's header
    copy are not logged; they belong to the allocating builder alone and cannot be in the read set of an older
    node.) -/
theorem no_conflict {c : Conc} {sched : List (Nat × HOp)} (hc : CInv c)
    (hnf : ∀ th ∈ c.threads, th.frames = []) (hw : SchedWf c sched) :
    ∃ w, (crun c sched).written = w ++ c.written ∧
      (∀ e₁ ∈ w, ∀ e₂ ∈ w, e₁.2 = e₂.2 → e₁.1 = e₂.1) ∧
      (∀ e ∈ w, ∀ id ∈ c.h.finished, ∀ fuel, e.2 ∉ readSet c.h fuel (.obj id)) := by
  obtain ⟨w, ow, e, ho⟩ := crun_own (own_init c hnf) hc hw
  obtain ⟨w', e', hr⟩ := crun_written_shared hc hw
  have hww : w' = w := List.append_cancel_right (e'.symm.trans e)
  subst hww
  refine ⟨w', e, ?_, hr⟩
  intro e₁ h₁ e₂ h₂ heq
  have o₁ := ho.writes e₁ (by rw [List.append_nil]; exact h₁)
  have o₂ := ho.writes e₂ (by rw [List.append_nil]; exact h₂)
  rw [heq] at o₁
  exact o₁.unique o₂

/-- Part (2) does not need the builders to be fresh: from any state satisfying the lifted invariant
    (builders may be in the middle of their work), no call of any builder writes a location that a
    reader of an already finished node reads. -/
theorem readers_undisturbed {c : Conc} {sched : List (Nat × HOp)} (hc : CInv c) (hw : SchedWf c sched) :
    ∃ w, (crun c sched).written = w ++ c.written ∧
      ∀ e ∈ w, ∀ id ∈ c.h.finished, ∀ fuel, e.2 ∉ readSet c.h fuel (.obj id) :=
  crun_written_shared hc hw

/-- Every node finished in the shared heap reads the same (with any fuel) after any well-formed
    schedule of the builders. -/
theorem shared_nodes_stable {c : Conc} {sched : List (Nat × HOp)} (hc : CInv c) (hw : SchedWf c sched)
    {id : Nat} (hid : id ∈ c.h.finished) (fuel : Nat) :
    absRef (crun c sched).h fuel (.obj id) = absRef c.h fuel (.obj id) :=
  (crun_frozen hc hw).absRef hc.heap hid fuel

/-- Let every node handed in by reference (`assignNode (.obj id)`, the shortcut) be a node that is
    finished in the initial shared heap (`Refs0`: shared prototypes / shared finished nodes; object
    ids allocated during the run differ between an interleaved run and a run alone, so a schedule
    cannot meaningfully name them).  Let thread `tid` start fresh.  Then for every schedule, the
    builder state of thread `tid` after the interleaved run and the state of a builder running
    thread `tid`'s calls alone from the same initial heap stand for the same pure assembler state:
    same stack of partially built containers, same built value.  Stated on abstractions (`toPure`,
    i.e. `absRef` of everything the builder holds), for fuel exceeding the number of finished nodes
    in either final heap. -/
theorem interleave_eq_seq {c : Conc} {sched : List (Nat × HOp)} (hc : CInv c)
    (hops : ∀ e ∈ sched, Refs0 c.h.finished e.2) {tid : Nat} {th : Thread}
    (hth : c.threads[tid]? = some th) (hfr : th.frames = []) (hrt : th.root = none) (fuel : Nat)
    (hF₁ : (crun c sched).h.finished.length < fuel)
    (hF₂ : (hrun { h := c.h } (projection sched tid)).h.finished.length < fuel) :
    ∃ th', (crun c sched).threads[tid]? = some th' ∧
      toPure fuel (thSt (crun c sched).h th') =
        toPure fuel (hrun { h := c.h } (projection sched tid)) := by
  have e0 : thPure fuel c.h th = toPure fuel ({ h := c.h } : HSt) := by
    obtain ⟨fr, rt⟩ := th; cases hfr; cases hrt; rfl
  obtain ⟨th', hth', h1⟩ := conc_arun hc (.init c.h fuel) hops hF₁ hth (e0 ▸ pinv_init fuel)
  have h2 := solo_arun (s := { h := c.h }) (hinv_fresh hc.heap) (pinv_init fuel) (.init c.h fuel)
    (fun op hop => hops _ (mem_of_mem_projection hop)) hF₂
  exact ⟨th', hth', by rw [h2, ← e0]; exact h1⟩

/-- In particular the built values agree: what thread `tid` holds as its root after the interleaved
    run reads as the same data-model value as the root of the run alone.  The fuel bound is given
    here in closed form: more than the finished nodes of the initial heap plus the number of calls. -/
theorem interleave_builds_same {c : Conc} {sched : List (Nat × HOp)} (hc : CInv c)
    (hops : ∀ e ∈ sched, Refs0 c.h.finished e.2) {tid : Nat} {th : Thread}
    (hth : c.threads[tid]? = some th) (hfr : th.frames = []) (hrt : th.root = none) (fuel : Nat)
    (hF : c.h.finished.length + sched.length < fuel) :
    ∃ th', (crun c sched).threads[tid]? = some th' ∧
      th'.root.map (absRef (crun c sched).h fuel) =
        (hrun { h := c.h } (projection sched tid)).root.map
          (absRef (hrun { h := c.h } (projection sched tid)).h fuel) := by
  obtain ⟨l1, e1, h1⟩ := crun_finished c sched
  obtain ⟨l2, e2, h2⟩ := hrun_finished ({ h := c.h } : HSt) (projection sched tid)
  have key : ∀ {l : Nat}, l ≤ sched.length → l + c.h.finished.length < fuel := fun hl =>
    Nat.lt_of_le_of_lt (Nat.add_comm _ _ ▸ Nat.add_le_add_left hl _) hF
  obtain ⟨th', hth', he⟩ := interleave_eq_seq hc hops hth hfr hrt fuel
    (by rw [e1, List.length_append]; exact key h1)
    (by rw [e2, List.length_append]; exact key (Nat.le_trans h2 (projection_length_le sched tid)))
  exact ⟨th', hth', congrArg St.root he⟩

/-- three fresh builders on the heap in which node 0 = {a: 1, b: 2} is finished -/
example : CInv conc0 :=
  conc_inv_init (hrun_inv hinv_init (by decide +kernel : HistWf {} histA)).heap (by decide +kernel)

example : ∀ e ∈ sched0, Refs0 conc0.h.finished e.2 := by decide +kernel

/-- the shared node after the interleaved run -/
example : absRef (crun conc0 sched0).h 5 (.obj 0) = .map (.cons ka (.int 1) (.cons kb (.int 2) .nil)) := by
  decide +kernel

/-- what the three builders built: {c: node 0}, node 0 itself (a header copy), [node 0, 7, node 0] -/
example : (crun conc0 sched0).threads.map (fun th => th.root.map (absRef (crun conc0 sched0).h 5)) =
    [some (.map (.cons kc (.map (.cons ka (.int 1) (.cons kb (.int 2) .nil))) .nil)),
     some (.map (.cons ka (.int 1) (.cons kb (.int 2) .nil))),
     some (.list (.cons (.map (.cons ka (.int 1) (.cons kb (.int 2) .nil)))
       (.cons (.int 7) (.cons (.map (.cons ka (.int 1) (.cons kb (.int 2) .nil))) .nil))))] := by
  decide +kernel

/-- thread 2 alone builds the same value (object ids differ: 2 in the interleaved run, 1 alone) -/
example : (hrun { h := conc0.h } (projection sched0 2)).root.map
      (absRef (hrun { h := conc0.h } (projection sched0 2)).h 5) =
    some (.list (.cons (.map (.cons ka (.int 1) (.cons kb (.int 2) .nil)))
       (.cons (.int 7) (.cons (.map (.cons ka (.int 1) (.cons kb (.int 2) .nil))) .nil)))) := by
  decide +kernel

example : ((crun conc0 sched0).threads.map (·.root), (hrun { h := conc0.h } (projection sched0 2)).root) =
    ([some (.obj 1), some (.obj 3), some (.obj 2)], some (.obj 1)) := by
  decide +kernel

/-- the theorem instead of evaluation: thread 2's value, interleaved and alone, for every large fuel -/
example (fuel : Nat) (hF : 14 < fuel) :
    ∃ th', (crun conc0 sched0).threads[2]? = some th' ∧
      th'.root.map (absRef (crun conc0 sched0).h fuel) =
        (hrun { h := conc0.h } (projection sched0 2)).root.map
          (absRef (hrun { h := conc0.h } (projection sched0 2)).h fuel) :=
  interleave_builds_same (c := conc0) (sched := sched0)
    (conc_inv_init (hrun_inv hinv_init (by decide +kernel : HistWf {} histA)).heap (by decide +kernel))
    (by decide +kernel) (th := {}) rfl rfl rfl fuel
    (Nat.lt_of_le_of_lt (Nat.le_of_eq (by decide +kernel : conc0.h.finished.length + sched0.length = 14)) hF)

/-- every write of the interleaved run went to a location allocated after the start -/
example : ∀ e ∈ (crun conc0 sched0).written, FreshLoc conc0.h e.2 := by
  decide +kernel

/-- (T) Shared mutable state outside the heap model: the package-level variables of the anchored packages that any
    function other than `init` writes, re-extracted from the source on this run, are exactly these — the registry
    of inferred bindnode schemas and its memo table (the recorded known finding: written under a mutex, but read without one) and the default multicodec registry, written only by its
    registration functions (set-up by contract).  Every other package-level variable is written by `init` at most,
    i.e. shared state is confined to the heap cells the theorems above talk about.  A new writer breaks this. -/
theorem globalWrites_src_inventory :
    Ipld.Generated.globalWrites_src =
      [("node/bindnode", "defaultTypeSystem", ["inferSchemaLocked"]),
       ("node/bindnode", "inferredSchemas", ["inferSchemaLocked"]),
       ("multicodec", "DefaultRegistry", ["RegisterDecoder", "RegisterEncoder"])] :=
  C19.globalWrites_src_inventory

end Ipld.Props.C20

/-
  C09 — a typed builder, at type level or at representation level, accepts a data-model tree exactly when it
  conforms to the schema type, and reports everything else by an error: never by a panic, never by silently
  producing a node that violates the type.  `conforms` and `conformsRepr` are defined without the builders.
  `Ty.wf` is needed wherever acceptance is compared with conformance: see `wf_needed_*`.
-/
import IpldModel.Lemmas.SchemaNoPanic
import IpldModel.Lemmas.SchemaConf
import IpldModel.Lemmas.SchemaType
import IpldModel.Lemmas.SchemaRepr
import IpldModel.Lemmas.SchemaMono
import IpldModel.Lemmas.SchemaNorm
namespace Ipld.Props.C09
open Ipld Ipld.Schema

/-! ## never a panic -/

theorem ideal_never_panics (lvl : Level) (ty : Ty) (nul : Bool) (cur : Option TL) (d : DM) :
    build Engine.ideal lvl ty nul cur d ≠ .panic :=
  build_noPanic _ Engine.ideal_noPanicFlags lvl ty nul cur d

theorem ofType_ofRepr_never_panic (ty : Ty) (d : DM) :
    ofType Engine.ideal ty d ≠ .panic ∧ ofRepr Engine.ideal ty d ≠ .panic :=
  ⟨ideal_never_panics .type ty false none d, ideal_never_panics .repr ty false none d⟩

/-- More generally: `build` itself panics only through one of three panic quirks:
    `nullableUnionPanic`, `lpUnknownKeyPanic` (reflection binding) and `assignNodeSkipsBegin` (generated code),
    the last only when the builder is driven by `AssignNode` of prebuilt nodes (`viaNode`).  Whatever the other
    thirteen flags and the driving mode `viaKeys` are, `build` never panics.  (`h3` is needed:
    `assignNodeSkipsBegin_panics`.  This is about `build`, not `buildSealed`: a value accepted under
    `tupleShortAccepted` that cannot be read back is counted as a panic only by `Outcome.seal`,
    `C13.witness_tupleShortAccepted_unreadable`.) -/
theorem never_panics_without_panic_flags (e : Engine) (h1 : e.nullableUnionPanic = false)
    (h2 : e.lpUnknownKeyPanic = false) (h3 : (e.viaNode && e.assignNodeSkipsBegin) = false)
    (lvl : Level) (ty : Ty) (nul : Bool) (cur : Option TL) (d : DM) :
    build e lvl ty nul cur d ≠ .panic :=
  build_noPanic e ⟨h1, h2, h3⟩ lvl ty nul cur d

/-- `h3` of `never_panics_without_panic_flags` / `helpers_never_panic` is needed: with `assignNodeSkipsBegin`
    under `viaNode` (and no other flag) a prebuilt `{k: 1}` handed to `{String: Int}` panics, and so does the
    list helper on a prebuilt `{a: 1}` handed to a nullable `struct {a Int}` element.  Either of the two alone is
    harmless (by the theorem itself). -/
theorem assignNodeSkipsBegin_panics :
    build { viaNode := true, assignNodeSkipsBegin := true } .type (.map .int false) false none
        (.map (.cons [107] (.int 1) .nil)) = .panic ∧
    buildList { viaNode := true, assignNodeSkipsBegin := true } .type
        (.struct (.cons [97] [97] false false .int .nil) .map) true []
        (.cons (.map (.cons [97] (.int 1) .nil)) .nil) = .panic := by decide +kernel

theorem helpers_never_panic (e : Engine) (h1 : e.nullableUnionPanic = false)
    (h2 : e.lpUnknownKeyPanic = false) (h3 : (e.viaNode && e.assignNodeSkipsBegin) = false) :
    (∀ lvl nul d ty, buildScalar e lvl nul d ty ≠ .panic) ∧
    (∀ nul k ty, resolveKinded e nul k ty ≠ .panic) ∧
    (∀ lvl ety enul acc xs, buildList e lvl ety enul acc xs ≠ .panic) ∧
    (∀ lvl vty vnul acc es, buildMap e lvl vty vnul acc es ≠ .panic) ∧
    (∀ lvl fs st es, buildStruct e lvl fs st es ≠ .panic) ∧
    (∀ fs st i xs, buildTuple e fs st i xs ≠ .panic) ∧
    (∀ fs st xs, buildPairs e fs st xs ≠ .panic) ∧
    (∀ lvl ms cur n es, buildUnion e lvl ms cur n es ≠ .panic) :=
  have hf : e.NoPanicFlags := ⟨h1, h2, h3⟩
  ⟨buildScalar_noPanic e hf, resolveKinded_noPanic e hf, buildList_noPanic e hf, buildMap_noPanic e hf,
   buildStruct_noPanic e hf, buildTuple_noPanic e hf, buildPairs_noPanic e hf, buildUnion_noPanic e hf⟩

/-! ## no silently non-conforming node -/

theorem built_conforms (lvl : Level) (ty : Ty) (nul : Bool) (d : DM) (v : TL) (hwf : ty.wf = true)
    (h : build Engine.ideal lvl ty nul none d = .ok v) : conforms ty nul v = true :=
  build_conforms hwf h

theorem ofType_built_conforms (ty : Ty) (d : DM) (v : TL) (hwf : ty.wf = true)
    (h : ofType Engine.ideal ty d = .ok v) : conforms ty false v = true :=
  build_conforms hwf h

theorem ofRepr_built_conforms (ty : Ty) (d : DM) (v : TL) (hwf : ty.wf = true)
    (h : ofRepr Engine.ideal ty d = .ok v) : conforms ty false v = true :=
  build_conforms hwf h

/-! ## the type-level builder accepts exactly the conforming trees -/

/-- The complete behaviour of the ideal type-level builder of a well-formed type: a
    conforming tree is accepted and the node built is the normalised input; everything else is
    rejected (an error — not a panic, not a node). -/
theorem ofType_eq (ty : Ty) (nul : Bool) (d : DM) (hwf : ty.wf = true) :
    build Engine.ideal .type ty nul none d =
      if conforms ty nul (TL.ofDM d) = true then .ok (normalize ty (TL.ofDM d)) else .reject :=
  build_type hwf

theorem ofType_accepts_iff_conforms (ty : Ty) (d : DM) (hwf : ty.wf = true) :
    (ofType Engine.ideal ty d).isOk = true ↔ conforms ty false (TL.ofDM d) = true := by
  unfold ofType
  rw [ofType_eq ty false d hwf]
  cases conforms ty false (TL.ofDM d) <;> exact Iff.rfl

theorem ofType_value (ty : Ty) (d : DM) (v : TL) (hwf : ty.wf = true)
    (h : ofType Engine.ideal ty d = .ok v) : v = normalize ty (TL.ofDM d) := by
  unfold ofType at h
  rw [ofType_eq ty false d hwf] at h
  split at h
  · exact (Outcome.ok.inj h).symm
  · cases h

theorem ofType_rejects (ty : Ty) (d : DM) (hwf : ty.wf = true)
    (h : conforms ty false (TL.ofDM d) = false) : ofType Engine.ideal ty d = .reject := by
  unfold ofType
  rw [ofType_eq ty false d hwf, h]
  rfl

theorem normalize_conforms_ofDM (ty : Ty) (d : DM) (hwf : ty.wf = true)
    (h : conforms ty false (TL.ofDM d) = true) : conforms ty false (normalize ty (TL.ofDM d)) = true :=
  conforms_normalize hwf h

/-! ## the representation-level builder accepts exactly the conforming trees -/

theorem ofRepr_isOk_eq (ty : Ty) (nul : Bool) (d : DM) (hwf : ty.wf = true) :
    (build Engine.ideal .repr ty nul none d).isOk = conformsRepr ty nul d :=
  build_repr_isOk d ty nul hwf

theorem ofRepr_accepts_iff_conformsRepr (ty : Ty) (d : DM) (hwf : ty.wf = true) :
    (ofRepr Engine.ideal ty d).isOk = true ↔ conformsRepr ty false d = true := by
  unfold ofRepr
  rw [build_repr_isOk d ty false hwf]

theorem ofRepr_rejects (ty : Ty) (d : DM) (hwf : ty.wf = true)
    (h : conformsRepr ty false d = false) : ofRepr Engine.ideal ty d = .reject := by
  have h1 := build_repr_isOk d ty false hwf
  have h2 := ideal_never_panics .repr ty false none d
  unfold ofRepr
  rw [h] at h1
  cases hb : build Engine.ideal .repr ty false none d with
  | ok v => rw [hb] at h1; cases h1
  | reject => rfl
  | panic => exact absurd hb h2

theorem ofRepr_accepts (ty : Ty) (d : DM) (hwf : ty.wf = true)
    (h : conformsRepr ty false d = true) :
    ∃ v, ofRepr Engine.ideal ty d = .ok v ∧ conforms ty false v = true := by
  have h1 := (ofRepr_accepts_iff_conformsRepr ty d hwf).2 h
  obtain ⟨v, hv⟩ := Outcome.isOk_iff.1 h1
  exact ⟨v, hv, ofRepr_built_conforms ty d v hwf hv⟩

theorem normalize_conforms (ty : Ty) (nul : Bool) (v : TL) (hwf : ty.wf = true)
    (h : conforms ty nul v = true) : conforms ty nul (normalize ty v) = true :=
  conforms_normalize hwf h

/-! ## quirk accounting: the flags only matter on inputs the ideal engine rejects -/

/-- An input the ideal builder accepts (either level, any type — no
    well-formedness needed) is accepted, with the same node, by the builder of EVERY engine that does
    not have one of the four quirks that refuse or break accepted input: `nullableUnionPanic`
    (reflection binding), `prefixEmptyDelimSplit`, `kindedNullRejected`, and `assignNodeSkipsBegin`
    under the driving mode `viaNode` (generated code) — whatever its other twelve flags (among them
    `tupleShortAccepted` and `keyAsmDupMapKey`) and the driving mode `viaKeys` are.
    Each hypothesis is needed: `nullableUnionPanic_is_the_exception`, `gen_flags_that_break_accepted_input`. -/
theorem accepted_by_every_engine (e : Engine) (hn : e.nullableUnionPanic = false)
    (hp : e.prefixEmptyDelimSplit = false) (hk : e.kindedNullRejected = false)
    (ha : (e.viaNode && e.assignNodeSkipsBegin) = false) (lvl : Level)
    (ty : Ty) (nul : Bool) (d : DM) (v : TL) (h : build Engine.ideal lvl ty nul none d = .ok v) :
    build e lvl ty nul none d = .ok v :=
  build_mono e ⟨hn, hp, hk, ha⟩ lvl d ty nul v h

/-- Equivalently: wherever such an engine's outcome differs from the ideal
    one, the ideal outcome is `reject` — a flag only ever turns an ideal error into something else
    (a node, or — `lpUnknownKeyPanic` — a panic). -/
theorem quirks_only_on_rejects (e : Engine) (hn : e.nullableUnionPanic = false)
    (hp : e.prefixEmptyDelimSplit = false) (hk : e.kindedNullRejected = false)
    (ha : (e.viaNode && e.assignNodeSkipsBegin) = false) (lvl : Level)
    (ty : Ty) (nul : Bool) (d : DM)
    (h : build e lvl ty nul none d ≠ build Engine.ideal lvl ty nul none d) :
    build Engine.ideal lvl ty nul none d = .reject := by
  cases hi : build Engine.ideal lvl ty nul none d with
  | ok v => exact absurd (by rw [build_mono e ⟨hn, hp, hk, ha⟩ lvl d ty nul v hi, hi]) h
  | reject => rfl
  | panic => exact absurd hi (ideal_never_panics lvl ty nul none d)

/-- Any engine with those four quirks switched off (e.g.
    `{ Engine.bindnode with nullableUnionPanic := false, … }`, whatever `Engine.bindnode` is). -/
example (e : Engine) (lvl : Level) (ty : Ty) (d : DM) (v : TL)
    (h : build Engine.ideal lvl ty false none d = .ok v) :
    build { e with nullableUnionPanic := false, prefixEmptyDelimSplit := false, kindedNullRejected := false,
                   assignNodeSkipsBegin := false } lvl ty false none d = .ok v :=
  accepted_by_every_engine _ rfl rfl rfl (Bool.and_false _) lvl ty false d v h

/-- ... in particular generated code as it is (`Engine.gen`), driven through `AssembleEntry` or through the key
    assembler: its one remaining flag `keyAsmDupMapKey` is not among the four. -/
example (viaKeys : Bool) (lvl : Level) (ty : Ty) (d : DM) (v : TL)
    (h : build Engine.ideal lvl ty false none d = .ok v) :
    build { Engine.gen with viaKeys := viaKeys } lvl ty false none d = .ok v :=
  accepted_by_every_engine _ rfl rfl rfl rfl lvl ty false d v h

/-- `struct { u nullable union { | String string } representation kinded }` -/
def exNullableKinded : Ty :=
  .struct (.cons [117] [117] false true (.union (.cons [83] [] .str .str .nil) .kinded) .nil) .map

/-- `nullableUnionPanic` is the one flag of the reflection binding
    that breaks an input the ideal engine accepts: `{"u": "x"}` conforms and is accepted; with the flag alone,
    the representation builder panics. -/
theorem nullableUnionPanic_is_the_exception :
    exNullableKinded.wf = true ∧
    ofRepr Engine.ideal exNullableKinded (.map (.cons [117] (.str [120]) .nil))
      = .ok (.map (.cons [117] (.map (.cons [83] (.str [120]) .nil)) .nil)) ∧
    ofRepr { nullableUnionPanic := true } exNullableKinded (.map (.cons [117] (.str [120]) .nil))
      = .panic := by decide +kernel

/-- `union { | T1 "aa" } representation stringprefix` with the empty delimiter -/
def exPrefixNoDelim : Ty := .union (.cons [84, 49] [97, 97] .str .str .nil) (.stringprefix [])

/-- `[nullable union { | Int int } representation kinded]` -/
def exListNullableKinded : Ty := .list (.union (.cons [84, 50] [84, 50] .int .int .nil) .kinded) true

/-- The three generated-code hypotheses of
    `accepted_by_every_engine` / `quirks_only_on_rejects` are needed, each flag alone:
    `prefixEmptyDelimSplit` refuses "aax" for the discriminant "aa"; `kindedNullRejected` refuses `[null]`
    for a list of nullable kinded unions; `assignNodeSkipsBegin` under `viaNode` panics on a prebuilt
    `{k: 1}` handed to `{String: Int}` — all three well-formed types, and inputs the ideal builder accepts. -/
theorem gen_flags_that_break_accepted_input :
    (exPrefixNoDelim.wf = true ∧
     ofRepr Engine.ideal exPrefixNoDelim (.str [97, 97, 120]) = .ok (.map (.cons [84, 49] (.str [120]) .nil)) ∧
     ofRepr { prefixEmptyDelimSplit := true } exPrefixNoDelim (.str [97, 97, 120]) = .reject) ∧
    (exListNullableKinded.wf = true ∧
     ofRepr Engine.ideal exListNullableKinded (.list (.cons .null .nil)) = .ok (.list (.cons .null .nil)) ∧
     ofRepr { kindedNullRejected := true } exListNullableKinded (.list (.cons .null .nil)) = .reject) ∧
    (ofType Engine.ideal (.map .int false) (.map (.cons [107] (.int 1) .nil))
       = .ok (.map (.cons [107] (.int 1) .nil)) ∧
     ofType { viaNode := true, assignNodeSkipsBegin := true } (.map .int false) (.map (.cons [107] (.int 1) .nil))
       = .panic) := by decide +kernel

/-! ## Examples: the hypotheses are satisfiable, and needed -/

/-- `struct { a Int (rename "x"); b optional nullable [String] } representation map` -/
def exStruct : Ty :=
  .struct (.cons [97] [120] false false .int (.cons [98] [98] true true (.list .str false) .nil)) .map

/-- `union { | exStruct map | String string } representation kinded`, members named "S" and "T". -/
def exUnion : Ty :=
  .union (.cons [83] [] .map exStruct (.cons [84] [] .str .str .nil)) .kinded

example : exUnion.wf = true := by decide +kernel

/-- type level: `{"b": null, "a": 1}` conforms and is accepted, normalised to declaration order -/
example :
    ofType Engine.ideal exStruct (.map (.cons [98] .null (.cons [97] (.int 1) .nil)))
      = .ok (.map (.cons [97] (.int 1) (.cons [98] .null .nil))) := by decide +kernel

/-- type level: an unset optional field shows as `absent` -/
example :
    ofType Engine.ideal exStruct (.map (.cons [97] (.int 1) .nil))
      = .ok (.map (.cons [97] (.int 1) (.cons [98] .absent .nil))) := by decide +kernel

/-- type level: missing required field, unknown field, repeated field, wrong kind, null where not
    nullable: all rejected -/
example : ofType Engine.ideal exStruct (.map (.cons [98] .null .nil)) = .reject := by decide +kernel
example : ofType Engine.ideal exStruct (.map (.cons [97] (.int 1) (.cons [99] .null .nil))) = .reject :=
  by decide +kernel
example : ofType Engine.ideal exStruct (.map (.cons [97] (.int 1) (.cons [97] (.int 1) .nil))) = .reject :=
  by decide +kernel
example : ofType Engine.ideal exStruct (.map (.cons [97] (.str []) .nil)) = .reject := by decide +kernel
example : ofType Engine.ideal exStruct (.map (.cons [97] .null .nil)) = .reject := by decide +kernel

/-- representation level: the renamed key is `x`; through the kinded union -/
example :
    ofRepr Engine.ideal exUnion (.map (.cons [120] (.int 1) .nil))
      = .ok (.map (.cons [83] (.map (.cons [97] (.int 1) (.cons [98] .absent .nil))) .nil)) := by decide +kernel
example : conformsRepr exUnion false (.map (.cons [120] (.int 1) .nil)) = true := by decide +kernel
/-- ... and the original name is not a key of the representation -/
example : ofRepr Engine.ideal exUnion (.map (.cons [97] (.int 1) .nil)) = .reject := by decide +kernel
/-- a kind the union does not list -/
example : ofRepr Engine.ideal exUnion (.int 1) = .reject := by decide +kernel

/-- `struct { a Int; a Int }` (not well-formed: a repeated field name). -/
def exDupStruct : Ty :=
  .struct (.cons [97] [97] false false .int (.cons [97] [98] false false .int .nil)) .map

/-- Without `Ty.wf` acceptance and conformance differ: with a repeated field
    name the tree `{"a": 1}` conforms (`a` is known, not repeated, an int, and every required name was
    seen) but no tree can ever set the second field, so the builder rejects. -/
theorem wf_needed_ofType :
    exDupStruct.wf = false ∧
    conforms exDupStruct false (TL.ofDM (.map (.cons [97] (.int 1) .nil))) = true ∧
    ofType Engine.ideal exDupStruct (.map (.cons [97] (.int 1) .nil)) = .reject := by decide +kernel

/-- `struct { a Int (rename "x"); b Int (rename "x") }` (not well-formed: a repeated representation key). -/
def exDupRename : Ty :=
  .struct (.cons [97] [120] false false .int (.cons [98] [120] false false .int .nil)) .map

/-- The same at representation level with a repeated representation key. -/
theorem wf_needed_ofRepr :
    exDupRename.wf = false ∧
    conformsRepr exDupRename false (.map (.cons [120] (.int 1) .nil)) = true ∧
    ofRepr Engine.ideal exDupRename (.map (.cons [120] (.int 1) .nil)) = .reject := by decide +kernel

/-- ... and what an ill-formed type's builder builds need not conform:
    `struct { a Int; a optional Int }` builds `{a: 1, a: absent}`, which repeats a key. -/
theorem wf_needed_built_conforms :
    let ty : Ty := .struct (.cons [97] [97] false false .int (.cons [97] [98] true false .int .nil)) .map
    ty.wf = false ∧
    ofType Engine.ideal ty (.map (.cons [97] (.int 1) .nil))
      = .ok (.map (.cons [97] (.int 1) (.cons [97] .absent .nil))) ∧
    conforms ty false (.map (.cons [97] (.int 1) (.cons [97] .absent .nil))) = false := by decide +kernel

end Ipld.Props.C09

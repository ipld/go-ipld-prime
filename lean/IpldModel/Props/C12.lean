/-
  C12 — the assembler protocol: rejected calls have no effect, every built node is free of duplicate keys, and a
  history with rejected calls builds what the history without them builds.  `Inv`, `OpOk`, `Runs`, `erase` are in
  Lemmas/AsmInv.lean and Lemmas/AsmErase.lean, the state tables the model induces (`modelMaFacts`, `modelLaFacts`) in
  Lemmas/AsmFacts.lean.  See DESIGN §13.3 C12.
-/
import IpldModel.Lemmas.AsmErase
import IpldModel.Lemmas.AsmExamples
import IpldModel.Lemmas.AsmFacts
namespace Ipld.Props.C12
open Ipld Ipld.Asm

/-- If a call returns an error, the assembler state afterwards is the state before the call, with
    one exception: when the call was made on a key assembler (the map frame is in phase `midKey`)
    the state afterwards may instead be that same frame back in phase `init` — exactly the state
    before the `AssembleKey` call that handed out the key assembler.  In neither case has any entry,
    key or value been recorded. -/
theorem reject_no_effect {s s' : St} {op : Op} {c : ErrClass} (h : step s op = (s', .err c)) :
    s' = s ∨ ∃ t m rest, s.frames = .map t m .midKey :: rest ∧
      s' = { s with frames := .map t m .init :: rest } :=
  (step_err h).imp And.left And.right

/-- The exceptional case of `reject_no_effect` happens only for the repeated-key error: a call
    rejected for any other reason (wrong kind, or the catch-all class) leaves the state exactly
    as it was. -/
theorem wrong_kind_no_effect {s s' : St} {op : Op} {c : ErrClass} (h : step s op = (s', .err c))
    (hc : c = .wrongKind ∨ c = .other) : s' = s :=
  step_err_not_repeated h (by rcases hc with rfl | rfl <;> (intro e; cases e))

/-- Outside a key assembler every rejection, including a repeated key given to `AssembleEntry`,
    leaves the state exactly as it was. -/
theorem reject_no_effect_outside_key {s s' : St} {op : Op} {c : ErrClass}
    (hk : inKey s = false) (h : step s op = (s', .err c)) : s' = s :=
  step_not_inKey_err hk h

/-- A key assembler that rejects a repeated key always puts the map assembler back to where it
    was before `AssembleKey` (so the second disjunct of `reject_no_effect` is what happens, not
    merely what may happen). -/
theorem reject_repeated_in_key {s s' : St} {op : Op} {t m rest}
    (hf : s.frames = .map t m .midKey :: rest) (h : step s op = (s', .err .repeatedKey)) :
    s' = { s with frames := .map t m .init :: rest } :=
  step_inKey_repeated hf h

/-- What `Inv` says about a map frame, spelled out: the keys of the entry table are pairwise
    distinct; every entry except possibly the last has a value; in phases `init`/`midKey` all
    entries have values, in phases `expectValue`/`midValue` the last entry is `(k, none)` with `k`
    not in the lookup map; the lookup map returns for every key exactly the value of the first (and
    only) completed entry with that key; every stored value is free of duplicate keys. -/
theorem inv_map_frame {s : St} (hi : Inv s) {t m ph} (hf : Frame.map t m ph ∈ s.frames) :
    (t.map (·.1)).Nodup ∧
    (∀ e ∈ t.dropLast, e.2.isSome = true) ∧
    ((ph = .init ∨ ph = .midKey) → ∀ e ∈ t, e.2.isSome = true) ∧
    ((ph = .expectValue ∨ ph = .midValue) →
      ∃ t0 k, t = t0 ++ [(k, none)] ∧ (∀ e ∈ t0, e.2.isSome = true) ∧ mapHas m k = false) ∧
    (∀ k, mapLookup m k = ((tableEntries t).find? (fun e => e.1 == k)).map (·.2)) ∧
    (∀ k v, (k, some v) ∈ t → v.NoDup) := by
  have h : MapInv t m ph := hi.frames _ hf
  refine ⟨h.keys, h.dropLast_allDone, ?_, ?_, h.agree, h.vals⟩
  · rintro (rfl | rfl) <;> exact h.shape
  · rintro (rfl | rfl) <;> exact h.shape

/-- What `Inv` says about list frames and the root: every stored value is free of duplicate keys. -/
theorem inv_list_frame_root {s : St} (hi : Inv s) :
    (∀ x ph, Frame.list x ph ∈ s.frames → ∀ v ∈ x, v.NoDup) ∧ (∀ d, s.root = some d → d.NoDup) :=
  ⟨fun _ _ hf => hi.frames _ hf, hi.root⟩

theorem inv_init (p : Proto) : Inv (init p) := init_inv p

/-- Every call preserves the invariant, whatever its outcome (accepted, rejected, or misuse),
    provided a node handed to `AssignNode` is itself free of duplicate keys (it was built by a
    builder, so this holds by induction).  Nothing is assumed about the argument of a scalar
    `Assign…` call. -/
theorem inv_step {s : St} {op : Op} (hi : Inv s) (ho : OpOk op) : Inv (step s op).1 :=
  step_inv hi ho

theorem inv_run {s : St} {h : List Op} (hi : Inv s) (ho : ∀ op ∈ h, OpOk op) : Inv (run s h).1 :=
  run_inv hi ho

/-- In a state satisfying the invariant, whatever `Build` returns is free of duplicate keys at
    every depth. -/
theorem built_nodup {s : St} {d : DM} (hi : Inv s) (hb : build s = some d) : d.NoDup := by
  unfold build at hb
  split at hb
  · exact hi.root d hb
  · cases hb

/-- For every prototype and every history of calls on a fresh builder — including histories with
    rejected calls and with misuse — if `Build` returns a node then no map anywhere in that node
    carries the same key twice (given that the nodes handed to `AssignNode` have that property). -/
theorem built_nodup_history (p : Proto) (h : List Op) (ho : ∀ op ∈ h, OpOk op) {d : DM}
    (hb : build (run (init p) h).1 = some d) : d.NoDup :=
  built_nodup (run_inv (init_inv p) ho) hb

/-- `erase s h` only drops calls from `h`; it never adds or reorders any. -/
theorem erase_sublist (s : St) (h : List Op) : (erase s h).Sublist h := by
  rw [erase, eraseFrom_eq_hist h (.inl rfl)]
  exact Hist.eraseFrom_sublist s [] h

/-- Take any history `h` run from a state `s` whose current object is not a key assembler, and
    suppose no call in it was misuse (no panic).  Erase from `h` every call that returned an error,
    and also every `AssembleKey` whose key assembler ended by rejecting a repeated key (possibly
    after rejecting some wrong-kind assignments first).  Then running the erased history from `s`
    reaches exactly the same final state, and every call in it is accepted.  The erased history has
    to be computed together with running (`erase` takes the start state) because whether a call is
    rejected depends on the state it meets; the start-state condition is needed because a key
    assembler handed out before the history began cannot be un-handed by erasing calls of the
    history. -/
theorem history_result (s : St) (h : List Op) (hk : inKey s = false)
    (hn : Out.panic ∉ (run s h).2) :
    run s (erase s h) = ((run s h).1, List.replicate (erase s h).length .ok) :=
  erase_runs h hk hn

/-- `history_result` for a fresh builder: same final state, hence the same `Build` result, and all
    calls of the erased history are accepted. -/
theorem history_result_init (p : Proto) (h : List Op) (hn : Out.panic ∉ (run (init p) h).2) :
    build (run (init p) (erase (init p) h)).1 = build (run (init p) h).1 ∧
    ∀ o ∈ (run (init p) (erase (init p) h)).2, o = .ok := by
  have := history_result (init p) h rfl hn
  rw [this]
  exact ⟨rfl, fun o ho => (List.mem_replicate.1 ho).2⟩

/-! `exMap` is `{"a": 1, "b": 2}`; `exHistory` builds it with three rejected calls on the way
    (`AssembleEntry "a"` a second time, a key assembler given `"a"` again, and a key assembler given
    an integer before it is given `"b"`).  Both are defined in `Lemmas/AsmExamples.lean`. -/

example : (run (init .any) exHistory).2 =
    [.ok, .ok, .ok, .err .repeatedKey, .ok, .err .repeatedKey, .ok, .err .wrongKind,
     .ok, .ok, .ok, .ok] := by decide +kernel

example : build (run (init .any) exHistory).1 = some exMap := by decide +kernel

example : erase (init .any) exHistory =
    [.beginMap 2, .assembleEntry [97], .assign (.int 1),
     .assembleKey, .assignNode (.str [98]), .assembleValue, .assign (.int 2), .finish] := by decide +kernel

example : build (run (init .any) (erase (init .any) exHistory)).1 = some exMap := by decide +kernel

/-- the start-state condition of `history_result` is needed: if the history starts on a key
    assembler and that key assembler rejects a repeated key, the erased history (empty here) cannot
    undo the `AssembleKey` that happened before the history began -/
example :
    let s0 := (run (init .any) [.beginMap 0, .assembleEntry [97], .assign (.int 1), .assembleKey]).1
    inKey s0 = true ∧ (run s0 [.assign (.str [97])]).2 = [.err .repeatedKey] ∧
    erase s0 [.assign (.str [97])] = [] ∧
    inKey (run s0 [.assign (.str [97])]).1 = false ∧ inKey (run s0 []).1 = true := by decide +kernel

example : exMap.NoDup := by
  refine built_nodup_history .any exHistory ?_ (by decide +kernel)
  unfold exHistory
  repeat (refine List.forall_mem_cons.2 ⟨trivial, ?_⟩)
  exact fun _ h => nomatch h

open Ipld.Generated

/-- (T) The state table regenerated from `node/basicnode/map.go` on this run — per method: the state
    guard, the states assigned, which of the fields `m`/`t` of the map under construction are written,
    whether the back-pointer is dropped — equals `modelMaFacts`.  The rows of `AssembleEntry`, `AssembleKey`,
    `AssembleValue`, `Finish` and of the key and value assemblers are computed there from the model's `step`;
    the rows of `BeginMap`, `Build` and the root `AssignNode`, which the op language does not cover, are written
    out there as what the model assumes of them, so on those the source is compared with a stated constant. -/
theorem maFacts_src_is_model : maFacts_src = modelMaFacts := by rfl

/-- (T) The state table regenerated from `node/basicnode/list.go` equals `modelLaFacts`: the rows of
    `AssembleValue`, `Finish` and the value assembler computed from `step`, those of `BeginList`, `Build` and the
    root `AssignNode` stated constants. -/
theorem laFacts_src_is_model : laFacts_src = modelLaFacts := by rfl

end Ipld.Props.C12

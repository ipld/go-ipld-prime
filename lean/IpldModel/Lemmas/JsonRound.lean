/-
  The DAG-JSON token round trip: the marshaller writes the tokens of the lexically
  canonical form in order (`marshalTok_eq`), `canonLex` only reorders entries, and the meaning decoder
  reads the tokens of any expressible value back (`unTok_ordToks`).
-/
import IpldModel.Lemmas.CanonOrder
import IpldModel.Lemmas.JsonTok
import IpldModel.Lemmas.JsonB64
import IpldModel.Lemmas.BytesEq
namespace Ipld
namespace Json
open Cbor Spec

mutual
/-- tokens of a value in the entry order it has (no checks, no sorting) -/
def ordToks : DM → List JTok
  | .null => [.null]
  | .bool b => [.bool b]
  | .int i => [.int i]
  | .float f => [.float f]
  | .str s => [.str s]
  | .bytes b => [.mapOpen, .str slash, .mapOpen, .str bytesWord, .str (base64Raw b), .mapClose, .mapClose]
  | .link c => [.mapOpen, .str slash, .str (cidText c), .mapClose]
  | .list xs => .arrOpen :: (ordToksList xs ++ [.arrClose])
  | .map es => .mapOpen :: (ordToksKVs es ++ [.mapClose])
def ordToksList : DMs → List JTok
  | .nil => []
  | .cons x xs => ordToks x ++ ordToksList xs
def ordToksKVs : DMKVs → List JTok
  | .nil => []
  | .cons k v es => .str k :: (ordToks v ++ ordToksKVs es)
end

theorem ordToksKVs_eq : (es : DMKVs) →
    ordToksKVs es = flattenTokPairs (es.toList.map (fun e => (e.1, ordToks e.2)))
  | .nil => rfl
  | .cons k v es => by
    have ih := ordToksKVs_eq es
    simp only [ordToksKVs, DMKVs.toList, List.map_cons, flattenTokPairs, List.flatMap_cons] at ih ⊢
    rw [ih]; simp

mutual
theorem marshalTok_eq : (v : DM) → JsonDomain v → v.NoDup →
    marshalTok dagjsonEnc v = some (ordToks (canonLex v))
  | .null | .bool _ | .str _ | .bytes _ => fun _ _ => rfl
  | .int _ | .float _ | .link _ => fun hd _ => if_pos hd
  | .list xs => fun hd hn => by rw [marshalTok, marshalList_eq xs hd hn]; rfl
  | .map es => fun hd ⟨hk, hv⟩ => by
    rw [marshalTok, marshalKVs_eq es hd hv, canonLex, ordToks, ordToksKVs_eq, canonJson.toList es hk,
      sortPairs_map, List.map_map]
    rfl
theorem marshalList_eq : (xs : DMs) → JsonDomainList xs → xs.NoDup →
    marshalList dagjsonEnc xs = some (ordToksList (canonLexList xs))
  | .nil => fun _ _ => rfl
  | .cons x xs => fun hd hn => by
    rw [marshalList, marshalTok_eq x hd.1 hn.1, marshalList_eq xs hd.2 hn.2]; rfl
theorem marshalKVs_eq : (es : DMKVs) → JsonDomainKVs es → es.NoDupVals →
    marshalKVs dagjsonEnc es = some (es.toList.map (fun e => (e.1, ordToks (canonLex e.2))))
  | .nil => fun _ _ => rfl
  | .cons k v es => fun hd hn => by
    rw [marshalKVs, marshalTok_eq v hd.1 hn.1, marshalKVs_eq es hd.2 hn.2]; rfl
end

mutual
theorem marshalTok_none : (v : DM) → ¬ JsonDomain v → marshalTok dagjsonEnc v = none
  | .null | .bool _ | .str _ | .bytes _ => fun h => absurd trivial h
  | .int _ | .float _ | .link _ => fun h => if_neg h
  | .list xs => fun h => by rw [marshalTok, marshalList_none xs h]; rfl
  | .map es => fun h => by rw [marshalTok, marshalKVs_none es h]; rfl
theorem marshalList_none : (xs : DMs) → ¬ JsonDomainList xs → marshalList dagjsonEnc xs = none
  | .nil => fun h => absurd trivial h
  | .cons x xs => fun h => by
    rw [marshalList]
    by_cases hx : JsonDomain x
    · rw [marshalList_none xs (fun h' => h ⟨hx, h'⟩)]
      cases marshalTok dagjsonEnc x <;> rfl
    · rw [marshalTok_none x hx]; rfl
theorem marshalKVs_none : (es : DMKVs) → ¬ JsonDomainKVs es → marshalKVs dagjsonEnc es = none
  | .nil => fun h => absurd trivial h
  | .cons k v es => fun h => by
    rw [marshalKVs]
    by_cases hx : JsonDomain v
    · rw [marshalKVs_none es (fun h' => h ⟨hx, h'⟩)]
      cases marshalTok dagjsonEnc v <;> rfl
    · rw [marshalTok_none v hx]; rfl
end

/-! `canonLex` only reorders entries: what does not look at their order (`OrderBlind`) is kept. -/

theorem canonLex_NoDup : (v : DM) → v.NoDup → (canonLex v).NoDup :=
  fun v h => (noDup_orderBlind.canonBy canonJson v).mpr h
theorem canonLexList_NoDup : (xs : DMs) → xs.NoDup → (canonLexList xs).NoDup :=
  fun xs h => (noDup_orderBlind.canonListBy canonJson xs).mpr h
theorem canonLexKVs_NoDupVals : (es : DMKVs) → es.NoDupVals → (canonLexKVs es).NoDupVals :=
  fun es h => (noDup_orderBlind.canonKVsBy canonJson es).mpr h

theorem jsonDomain_orderBlind : OrderBlind JsonDomain JsonDomainList JsonDomainKVs :=
  .ofFold id And (fun _ _ _ => propext and_left_comm) (fun _ => rfl) (fun _ => rfl) (fun _ _ => rfl) (fun _ _ _ => rfl)

theorem canonLex_JsonDomain : (v : DM) → (JsonDomain (canonLex v) ↔ JsonDomain v) :=
  fun v => Iff.of_eq (jsonDomain_orderBlind.canonBy canonJson v)
theorem canonLexList_JsonDomain : (xs : DMs) → (JsonDomainList (canonLexList xs) ↔ JsonDomainList xs) :=
  fun xs => Iff.of_eq (jsonDomain_orderBlind.canonListBy canonJson xs)
theorem canonLexKVs_JsonDomain : (es : DMKVs) → (JsonDomainKVs (canonLexKVs es) ↔ JsonDomainKVs es) :=
  fun es => Iff.of_eq (jsonDomain_orderBlind.canonKVsBy canonJson es)

theorem cidTextOK_orderBlind : OrderBlind CidTextOK CidTextOKList CidTextOKKVs :=
  .ofFold id And (fun _ _ _ => propext and_left_comm) (fun _ => rfl) (fun _ => rfl) (fun _ _ => rfl) (fun _ _ _ => rfl)

theorem canonLex_CidTextOK : (v : DM) → (CidTextOK (canonLex v) ↔ CidTextOK v) :=
  fun v => Iff.of_eq (cidTextOK_orderBlind.canonBy canonJson v)
theorem canonLexList_CidTextOK : (xs : DMs) → (CidTextOKList (canonLexList xs) ↔ CidTextOKList xs) :=
  fun xs => Iff.of_eq (cidTextOK_orderBlind.canonListBy canonJson xs)
theorem canonLexKVs_CidTextOK : (es : DMKVs) → (CidTextOKKVs (canonLexKVs es) ↔ CidTextOKKVs es) :=
  fun es => Iff.of_eq (cidTextOK_orderBlind.canonKVsBy canonJson es)

theorem jsonDepth_orderBlind : OrderBlind jsonDepth jsonDepthList jsonDepthKVs :=
  .ofFold (· + 1) max Nat.max_left_comm (fun _ => rfl) (fun _ => rfl) (fun _ _ => rfl) (fun _ _ _ => rfl)

theorem canonLex_jsonDepth : (v : DM) → jsonDepth (canonLex v) = jsonDepth v :=
  jsonDepth_orderBlind.canonBy canonJson
theorem canonLexList_jsonDepth : (xs : DMs) → jsonDepthList (canonLexList xs) = jsonDepthList xs :=
  jsonDepth_orderBlind.canonListBy canonJson
theorem canonLexKVs_jsonDepth : (es : DMKVs) → jsonDepthKVs (canonLexKVs es) = jsonDepthKVs es :=
  jsonDepth_orderBlind.canonKVsBy canonJson

theorem canonLex_depth : (v : DM) → (canonLex v).depth = v.depth :=
  depth_orderBlind.canonBy canonJson
theorem canonLexList_depth : (xs : DMs) → (canonLexList xs).depth = xs.depth :=
  depth_orderBlind.canonListBy canonJson
theorem canonLexKVs_depth : (es : DMKVs) → (canonLexKVs es).depth = es.depth :=
  depth_orderBlind.canonKVsBy canonJson

theorem canonLex_eq_str {v : DM} {s : Bytes} (h : canonLex v = .str s) : v = .str s := by
  cases v <;> simp_all [canonLex]

/-- A canonical form with a single entry comes from a single entry: sorting only permutes. -/
theorem canonLexKVs_single {es : DMKVs} {k : Bytes} {c : DM} (h : canonLexKVs es = .cons k c .nil) :
    ∃ v, es = .cons k v .nil ∧ canonLex v = c := by
  have h1 : (es.toList.map fun e => (e.1, canonLex e.2)) = [(k, c)] :=
    List.perm_singleton.mp (h ▸ canonJson.perm es).symm
  obtain ⟨⟨k', v⟩, he, hkv⟩ := List.map_eq_singleton_iff.mp h1
  obtain ⟨rfl, rfl⟩ := Prod.mk.inj hkv
  exact ⟨v, by rw [← DMKVs.ofList_toList es, he]; rfl, rfl⟩

theorem canonLex_eq_map {v : DM} {cs : DMKVs} (h : canonLex v = .map cs) : ∃ es, v = .map es ∧ canonLexKVs es = cs := by
  cases v <;> simp_all [canonLex]

theorem reserved_canonLexKVs {es : DMKVs} (h : Reserved (canonLexKVs es)) : Reserved es := by
  rcases h with ⟨s, h⟩ | ⟨s, h⟩
  · obtain ⟨v, rfl, hv⟩ := canonLexKVs_single h
    left; exact ⟨s, by rw [canonLex_eq_str hv]⟩
  · obtain ⟨v, rfl, hv⟩ := canonLexKVs_single h
    obtain ⟨es2, rfl, h2⟩ := canonLex_eq_map hv
    obtain ⟨v2, rfl, hv2⟩ := canonLexKVs_single h2
    right; exact ⟨s, by rw [canonLex_eq_str hv2]⟩

mutual
theorem canonLex_Expressible : (v : DM) → Expressible v → Expressible (canonLex v)
  | .list xs => canonLexList_Expressible xs
  | .map es => fun h => ⟨fun hr => h.1 (reserved_canonLexKVs hr), canonLexKVs_Expressible es h.2⟩
  | .null | .bool _ | .int _ | .float _ | .str _ | .bytes _ | .link _ => id
theorem canonLexList_Expressible : (xs : DMs) → ExpressibleList xs → ExpressibleList (canonLexList xs)
  | .nil => id
  | .cons x xs => fun h => ⟨canonLex_Expressible x h.1, canonLexList_Expressible xs h.2⟩
theorem canonLexKVs_Expressible : (es : DMKVs) → ExpressibleKVs es → ExpressibleKVs (canonLexKVs es)
  | .nil => id
  | .cons k v es => fun h => by
    -- `Expressible` is not `OrderBlind` (`Reserved` looks at the values), but its entries part is blind to `insertKVLex`
    rw [canonLexKVs, canonJson.ins_blind (fK := ExpressibleKVs) (fun _ v _ _ e => congrArg (Expressible v ∧ ·) e)
      (fun _ _ _ _ _ => propext and_left_comm)]
    exact ⟨canonLex_Expressible v h.1, canonLexKVs_Expressible es h.2⟩
end

/-- The tokens of a map that has neither reserved shape are those of an ordinary map for both look-aheads: by
    evaluating them on each way the map can begin like a reserved form. -/
theorem classify_ordToksKVs (es : DMKVs) (hr : ¬ Reserved es) (rest : List JTok) :
    ∃ n, classify true true (ordToksKVs es ++ .mapClose :: rest) = .plain n := by
  cases es with
  | nil => exact ⟨1, rfl⟩
  | cons k v es' =>
    by_cases hk : k = slash
    rotate_left
    · exact classify_key_ne hk
    subst hk
    cases v with
    | null | bool _ | int _ | float _ | list _ => exact ⟨2, rfl⟩
    | bytes _ | link _ => exact ⟨3, rfl⟩
    | str s =>
      cases es' with
      | nil => exact absurd (Or.inl ⟨s, rfl⟩) hr
      | cons k2 v2 es2 => exact ⟨3, rfl⟩
    | map m =>
      cases m with
      | nil => exact ⟨3, rfl⟩
      | cons k2 v2 m' =>
        by_cases hk2 : k2 = bytesWord
        rotate_left
        · exact ⟨3, (congrArg (Cls.seq _) (scan_bytesWord_ne hk2)).trans rfl⟩
        subst hk2
        cases v2 with
        | null | bool _ | int _ | float _ | bytes _ | link _ | list _ | map _ => exact ⟨4, rfl⟩
        | str s =>
          cases m' with
          | cons k3 v3 m3 => exact ⟨5, rfl⟩
          | nil =>
            cases es' with
            | cons k3 v3 es3 => exact ⟨6, rfl⟩
            | nil => exact absurd (Or.inr ⟨s, rfl⟩) hr

theorem ordToks_head (c : DM) : ∃ t ts, ordToks c = t :: ts ∧ t ≠ .arrClose := by
  cases c <;> exact ⟨_, _, rfl, nofun⟩

mutual
theorem ordToks_depth : (c : DM) → c.depth < (ordToks c).length
  | .list xs => by
    rw [ordToks, List.length_cons, List.length_append]
    exact Nat.succ_lt_succ (Nat.lt_succ_of_le (ordToksList_depth xs))
  | .map es => by
    rw [ordToks, List.length_cons, List.length_append]
    exact Nat.succ_lt_succ (Nat.lt_succ_of_le (ordToksKVs_depth es))
  | .null | .bool _ | .int _ | .float _ | .str _ | .bytes _ | .link _ => Nat.zero_lt_succ _
theorem ordToksList_depth : (xs : DMs) → xs.depth ≤ (ordToksList xs).length
  | .nil => Nat.le_refl _
  | .cons x xs => by
    rw [ordToksList, List.length_append]
    exact Nat.max_le.mpr ⟨Nat.le_trans (Nat.le_of_lt (ordToks_depth x)) (Nat.le_add_right _ _),
      Nat.le_trans (ordToksList_depth xs) (Nat.le_add_left _ _)⟩
theorem ordToksKVs_depth : (es : DMKVs) → es.depth ≤ (ordToksKVs es).length
  | .nil => Nat.le_refl _
  | .cons k v es => by
    rw [ordToksKVs, List.length_cons, List.length_append]
    exact Nat.max_le.mpr ⟨Nat.le_trans (Nat.le_of_lt (ordToks_depth v)) (Nat.le_succ_of_le (Nat.le_add_right _ _)),
      Nat.le_trans (ordToksKVs_depth es) (Nat.le_succ_of_le (Nat.le_add_left _ _))⟩
end

theorem ordToksList_length : (xs : DMs) → xs.length ≤ (ordToksList xs).length
  | .nil => Nat.le_refl _
  | .cons x xs => by
    rw [ordToksList, List.length_append, Nat.add_comm]
    exact Nat.add_le_add (ordToksList_length xs) (Nat.zero_lt_of_lt (ordToks_depth x))

theorem ordToksKVs_length : (es : DMKVs) → es.length ≤ (ordToksKVs es).length
  | .nil => Nat.le_refl _
  | .cons k v es => by
    rw [ordToksKVs, List.length_cons, List.length_append]
    exact Nat.succ_le_succ (Nat.le_trans (ordToksKVs_length es) (Nat.le_add_left _ _))

theorem not_ge_of_succ_add_le {j d m : Nat} (h : j + 1 + d ≤ m) : ¬ d ≥ m := by omega

mutual
theorem unTok_ordToks (cfg : DecCfg) (hl : cfg.parseLinks = true) (hb : cfg.parseBytes = true) : (c : DM) → Expressible c → c.NoDup → CidTextOK c →
    ∀ (depth fuel : Nat) (rest : List JTok), jsonDepth c + depth ≤ cfg.maxDepth → c.depth ≤ fuel →
    unTok cfg (fuel + 1) depth (ordToks c ++ rest) = .ok (c, rest)
  | .null | .bool _ | .int _ | .float _ | .str _ => fun _ _ _ _ _ _ _ _ => rfl
  | .bytes b => fun _ _ _ depth f rest hd _ => by
    rw [ordToks, List.cons_append, unTok_mapOpen, if_neg (not_ge_of_succ_add_le (j := 0) hd), hl, hb]
    show (match decodeB64 (base64Raw b) with | some b => _ | none => _) = _
    rw [decodeB64_base64Raw]
    rfl
  | .link c => fun _ _ hc depth f rest hd _ => by
    rw [ordToks, List.cons_append, unTok_mapOpen, if_neg (not_ge_of_succ_add_le (j := 0) hd), hl, hb]
    show (match cidParse (cidText c) with | some c => _ | none => _) = _
    rw [show cidParse (cidText c) = some c from hc]
    rfl
  | .list xs => fun he hn hc depth f rest hd hf => by
    have := unListLoop_ordToks cfg hl hb xs he hn hc (depth + 1) f
      ((ordToksList xs ++ .arrClose :: rest).length + 1) rest
      (by rw [Nat.add_comm depth 1, ← Nat.add_assoc]; exact hd) hf
      (Nat.lt_succ_of_le (Nat.le_trans (ordToksList_length xs) (List.length_append ▸ Nat.le_add_right _ _)))
    rw [ordToks, List.cons_append, List.append_assoc, List.singleton_append, unTok_arrOpen, if_neg (not_ge_of_succ_add_le hd), this]
    exact congrArg (fun l => Except.ok (DM.list l, rest)) (DMs.ofList_toList xs)
  | .map es => fun he hn hc depth f rest hd hf => by
    obtain ⟨n, hcl⟩ := classify_ordToksKVs es he.1 rest
    have := unMapLoop_ordToks cfg hl hb es he.2 hn.2 hn.1 hc (depth + 1) f
      ((ordToksKVs es ++ .mapClose :: rest).length + 1) [] rest
      (by rw [Nat.add_comm depth 1, ← Nat.add_assoc]; exact hd) hf
      (Nat.lt_succ_of_le (Nat.le_trans (ordToksKVs_length es) (List.length_append ▸ Nat.le_add_right _ _)))
      (fun _ _ => List.not_mem_nil)
    rw [ordToks, List.cons_append, List.append_assoc, List.singleton_append, unTok_mapOpen, if_neg (not_ge_of_succ_add_le hd), hl, hb, hcl]
    rw [readAs, asMap, this]
    exact congrArg (fun m => Except.ok (DM.map m, rest)) (DMKVs.ofList_toList es)
theorem unListLoop_ordToks (cfg : DecCfg) (hl : cfg.parseLinks = true) (hb : cfg.parseBytes = true) : (xs : DMs) → ExpressibleList xs → xs.NoDup → CidTextOKList xs →
    ∀ (depth fuel lf : Nat) (rest : List JTok), jsonDepthList xs + depth ≤ cfg.maxDepth → xs.depth < fuel →
    xs.length < lf →
    unListLoop (unTok cfg fuel depth) lf (ordToksList xs ++ .arrClose :: rest) = .ok (xs.toList, rest)
  | .nil => fun _ _ _ _ _ lf _ _ _ hlf => by
    obtain ⟨lf, rfl⟩ := Nat.exists_eq_add_one.mpr hlf
    rfl
  | .cons x xs => fun he hn hc depth fuel lf rest hd hf hlf => by
    obtain ⟨lf, rfl⟩ := Nat.exists_eq_add_one.mpr (Nat.zero_lt_of_lt hlf)
    obtain ⟨fuel, rfl⟩ := Nat.exists_eq_add_one.mpr (Nat.zero_lt_of_lt hf)
    have h1 := unTok_ordToks cfg hl hb x he.1 hn.1 hc.1 depth fuel (ordToksList xs ++ .arrClose :: rest)
      (Nat.le_trans (Nat.add_le_add_right (Nat.le_max_left _ _) _) hd)
      (Nat.le_of_lt_succ (Nat.lt_of_le_of_lt (Nat.le_max_left _ _) hf))
    have h2 := unListLoop_ordToks cfg hl hb xs he.2 hn.2 hc.2 depth (fuel + 1) lf rest
      (Nat.le_trans (Nat.add_le_add_right (Nat.le_max_right _ _) _) hd) (Nat.lt_of_le_of_lt (Nat.le_max_right _ _) hf)
      (Nat.lt_of_succ_lt_succ hlf)
    obtain ⟨t, ts, hh, hne⟩ := ordToks_head x
    rw [ordToksList, List.append_assoc]
    rw [hh] at h1 ⊢
    rw [List.cons_append, unListLoop_cons_ne hne, ← List.cons_append, h1]
    dsimp only [bind, Except.bind]
    rw [h2]
    rfl
theorem unMapLoop_ordToks (cfg : DecCfg) (hl : cfg.parseLinks = true) (hb : cfg.parseBytes = true) : (es : DMKVs) → ExpressibleKVs es → es.NoDupVals → es.keys.Nodup → CidTextOKKVs es →
    ∀ (depth fuel lf : Nat) (seen : List Bytes) (rest : List JTok), jsonDepthKVs es + depth ≤ cfg.maxDepth →
    es.depth < fuel → es.length < lf → (∀ k ∈ es.keys, k ∉ seen) →
    unMapLoop (unTok cfg fuel depth) lf seen (ordToksKVs es ++ .mapClose :: rest) = .ok (es.toList, rest)
  | .nil => fun _ _ _ _ _ _ lf _ _ _ _ hlf _ => by
    obtain ⟨lf, rfl⟩ := Nat.exists_eq_add_one.mpr hlf
    rfl
  | .cons k v es => fun he hn hk hc depth fuel lf seen rest hd hf hlf hs => by
    obtain ⟨lf, rfl⟩ := Nat.exists_eq_add_one.mpr (Nat.zero_lt_of_lt hlf)
    have hk := List.nodup_cons.mp hk
    obtain ⟨fuel, rfl⟩ := Nat.exists_eq_add_one.mpr (Nat.zero_lt_of_lt hf)
    have h1 := unTok_ordToks cfg hl hb v he.1 hn.1 hc.1 depth fuel (ordToksKVs es ++ .mapClose :: rest)
      (Nat.le_trans (Nat.add_le_add_right (Nat.le_max_left _ _) _) hd)
      (Nat.le_of_lt_succ (Nat.lt_of_le_of_lt (Nat.le_max_left _ _) hf))
    have h2 := unMapLoop_ordToks cfg hl hb es he.2 hn.2 hk.2 hc.2 depth (fuel + 1) lf (k :: seen) rest
      (Nat.le_trans (Nat.add_le_add_right (Nat.le_max_right _ _) _) hd) (Nat.lt_of_le_of_lt (Nat.le_max_right _ _) hf)
      (Nat.lt_of_succ_lt_succ hlf)
      (by
        intro k' hk' hm
        rcases List.mem_cons.mp hm with rfl | hm
        · exact hk.1 hk'
        · exact hs k' (List.mem_cons_of_mem _ hk') hm)
    have hks : seen.contains k = false :=
      Bool.eq_false_iff.mpr (mt List.contains_iff_mem.mp (hs k List.mem_cons_self))
    obtain ⟨t, ts, hh, _⟩ := ordToks_head v
    rw [ordToksKVs, List.cons_append, List.append_assoc]
    rw [hh] at h1 ⊢
    rw [List.cons_append, unMapLoop_cons_str hks, ← List.cons_append, h1]
    dsimp only [bind, Except.bind]
    rw [h2]
    rfl
end

theorem decodeToks_ordToks (cfg : DecCfg) (hl : cfg.parseLinks = true) (hb : cfg.parseBytes = true)
    (c : DM) (he : Expressible c) (hn : c.NoDup) (hc : CidTextOK c) (hd : jsonDepth c ≤ cfg.maxDepth) :
    decodeToks cfg (ordToks c) = .ok c := by
  have h := unTok_ordToks cfg hl hb c he hn hc 0 (ordToks c).length [] hd (Nat.le_of_lt (ordToks_depth c))
  rw [List.append_nil] at h
  exact decodeToks_eq_ok.mpr ⟨[], h, fun _ => rfl⟩

end Json
end Ipld

/-
  The ideal type-level builder accepts exactly the conforming trees, and builds the
  normalised input.
-/
import IpldModel.Lemmas.SchemaIdeal
import IpldModel.Lemmas.SchemaValues
import IpldModel.Lemmas.SchemaInduct
namespace Ipld
namespace Schema

/-- Row by row (the kind of the input), the builder's table against that of `conforms`; `normalize` leaves a
    scalar as it is. -/
theorem buildScalar_type (nul : Bool) (d : DM) (hd : d ≠ .null) (hs : isScalar d = true) (ty : Ty) :
    buildScalar Engine.ideal .type nul d ty =
      if conforms ty nul (TL.ofDM d) = true then .ok (normalize ty (TL.ofDM d)) else .reject := by
  cases d with
  | null => exact absurd rfl hd
  | list _ => cases hs
  | map _ => cases hs
  | bool _ => cases ty <;> eq_refl
  | int _ => cases ty <;> eq_refl
  | float _ => cases ty <;> eq_refl
  | str _ => cases ty <;> eq_refl
  | bytes _ => cases ty <;> eq_refl
  | link _ => cases ty <;> eq_refl

/-- A field's final value in the struct walk: what the state holds, else what the remaining entries give, else
    `absent`. -/
def mergeVal (g : Bytes → Option TL) (rest : List (Bytes × TL)) (n : Bytes) : TL :=
  match g n with
  | some v => v
  | none =>
    match rest.find? (fun e => e.1 == n) with
    | some (_, v) => v
    | none => .absent

theorem mergeVal_nil (g : Bytes → Option TL) (n : Bytes) : mergeVal g [] n = (g n).getD .absent := by
  unfold mergeVal; cases g n <;> rfl

theorem mergeVal_set (g : Bytes → Option TL) (k : Bytes) (tv : TL) (rest : List (Bytes × TL))
    (hk : g k = none) : mergeVal (setFn g k tv) rest = mergeVal g ((k, tv) :: rest) := by
  funext n
  unfold mergeVal setFn
  rw [List.find?_cons]
  dsimp only
  by_cases hn : n = k
  · subst hn; rw [beq_self_eq_true, hk]; rfl
  · rw [beq_eq_false_iff_ne.2 hn, beq_eq_false_iff_ne.2 (Ne.symm hn)]; rfl

theorem map_mergeVal_none (fs : List Field) (rest : List (Bytes × TL)) :
    (fs.map fun f => (f.name, mergeVal (fun _ => none) rest f.name)) = canonFields fs rest :=
  List.map_congr_left fun f _ => by
    unfold mergeVal
    cases rest.find? (fun e => e.1 == f.name) <;> rfl

abbrev BuildsNormal (d : DM) : Prop :=
  ∀ {ty nul}, ty.wf = true → build Engine.ideal .type ty nul none d =
    if conforms ty nul (TL.ofDM d) = true then .ok (normalize ty (TL.ofDM d)) else .reject

theorem buildUnion_type {ms : Members} {ur : UnionRepr} (nul : Bool) (hwf : (Ty.union ms ur).wf = true) (es : DMKVs)
    (ihv : ∀ k x rest, es = .cons k x rest → BuildsNormal x) :
    buildUnion Engine.ideal .type ms.toList none 0 es =
      if conforms (.union ms ur) nul (TL.ofDM (.map es)) = true then
        .ok (normalize (.union ms ur) (TL.ofDM (.map es)))
      else .reject := by
  cases es with
  | nil => rfl
  | cons k x rest =>
    have hm' := fun m (hm : ms.toList.find? (fun m => m.name == k) = some m) =>
      (wf_union hwf).1 m (List.mem_of_find?_eq_some hm)
    rw [buildUnion_cons, if_neg (by decide), memberByKey_ideal]
    dsimp only [memberFor]
    cases rest with
    | nil =>
      change _ = if (match ms.toList.find? (fun m => m.name == k) with
          | some m => conforms m.ty false (TL.ofDM x)
          | none => false) = true then
        Outcome.ok (match ms.toList.find? (fun m => m.name == k) with
          | some m => TL.map (.cons k (normalize m.ty (TL.ofDM x)) .nil)
          | none => _) else Outcome.reject
      cases hm : ms.toList.find? (fun m => m.name == k) with
      | none => rfl
      | some m =>
        dsimp only
        rw [ihv k x .nil rfl (hm' m hm), (find?_mem_key hm).2,
          Outcome.ite_ok_bind]
        rfl
    | cons _ _ _ =>
      cases hm : ms.toList.find? (fun m => m.name == k) with
      | none => rfl
      | some m =>
        dsimp only
        rw [ihv k x _ rfl (hm' m hm), Outcome.ite_ok_bind]
        split <;> rfl

/-- Of a map's entries the fact is also kept for the first value (a union builds from it). -/
theorem builders_type :
    (∀ d, BuildsNormal d) ∧
    (∀ xs ety enul, ety.wf = true → ∀ acc, buildList Engine.ideal .type ety enul acc xs =
      if conformsList ety enul (TLs.ofDMs xs) = true then
        .ok (acc ++ (normalizeList ety (TLs.ofDMs xs)).toList)
      else .reject) ∧
    ∀ es,
      (∀ vty vnul, vty.wf = true → ∀ acc seen, (∀ k, seen.contains k = acc.any (fun p => p.1 == k)) →
        buildMap Engine.ideal .type vty vnul acc es =
          if conformsMap vty vnul seen (TLKVs.ofDMKVs es) = true then
            .ok (acc ++ (normalizeMap vty (TLKVs.ofDMKVs es)).toList)
          else .reject) ∧
      (∀ fs, (∀ f ∈ fs, f.ty.wf = true) → (fs.map (·.name)).Nodup → ∀ g seen,
        (∀ k, seen.contains k = (g k).isSome) →
        buildStruct Engine.ideal .type fs (SSt.ofFn fs g) es =
          if conformsStruct fs seen (TLKVs.ofDMKVs es) = true then
            .ok (.map (TLKVs.ofList (fs.map fun f =>
              (f.name, mergeVal g (normalizeStruct fs (TLKVs.ofDMKVs es)).toList f.name))))
          else .reject) ∧
      ∀ k x rest, es = .cons k x rest → BuildsNormal x := by
  refine DM.builder_induct ?_ ?_ ?_ ?_ ?_ ?_ ?_ ?_
  · intro ty nul _
    rw [build_null_ideal]
    rfl
  · intro d hs hn ty nul _
    rw [build_of_isScalar hs hn]
    exact buildScalar_type nul d hn hs ty
  · intro xs ih ty nul hwf
    rw [build_type_list]
    cases ty with
    | list ety enul =>
      refine (congrArg (Outcome.map _) (ih ety enul hwf [])).trans ?_
      rw [Outcome.map_ite_ok, List.nil_append, TLs.ofList_toList]
      rfl
    | any => unfold listBody; rw [← anyOK_ofDM_eq]; rfl
    | _ => rfl
  · rintro es ⟨ihm, ihs, ihv⟩ ty nul hwf
    rw [build_type_map ideal_nodeOff]
    cases ty with
    | map vty vnul =>
      refine (congrArg (Outcome.map _) (ihm vty vnul hwf [] [] fun _ => rfl)).trans ?_
      rw [Outcome.map_ite_ok, List.nil_append, TLKVs.ofList_toList]
      rfl
    | any => unfold mapBody; rw [← anyOK_ofDM_eq]; rfl
    | struct fs sr =>
      have hw := wf_struct hwf
      -- the fresh state `SSt.init _ none` unfolds to `SSt.ofFn _ fun _ => none`
      refine (ihs fs.toList hw.1 hw.2.1 (fun _ => none) [] fun _ => rfl).trans ?_
      rw [map_mergeVal_none]
      rfl
    | union ms ur => exact buildUnion_type nul hwf es ihv
    | _ => rfl
  · exact fun ety enul _ acc => congrArg Outcome.ok (List.append_nil acc).symm
  · intro x xs hx _ ih ety enul hwf acc
    rw [buildList_ideal_cons, hx hwf, Outcome.ite_ok_bind, ih ety enul hwf,
      Outcome.ite_ite_ok, List.append_assoc]
    rfl
  · refine ⟨fun vty vnul _ acc seen _ => congrArg Outcome.ok (List.append_nil acc).symm,
      fun fs _ _ g seen hseen => ?_, fun _ _ _ h => nomatch h⟩
    unfold buildStruct
    rw [SSt.ofFn_finish]
    simp only [TLKVs.ofDMKVs, conformsStruct, normalizeStruct, TLKVs.toList, mergeVal_nil, hseen]
  · rintro k x es hx ⟨ihm, ihs, _⟩
    refine ⟨fun vty vnul hwf acc seen hseen => ?_, fun fs hwf hnd g seen hseen => ?_,
      fun _ _ _ h => by cases h; exact hx⟩
    · rw [buildMap_ideal_cons, hx hwf, Outcome.ite_ok_bind]
      change _ = if (!seen.contains k && _ && _) = true then _ else _
      rw [hseen k]
      cases acc.any (fun p => p.1 == k) with
      | true => rfl
      | false =>
        rw [ihm vty vnul hwf _ (k :: seen), Outcome.ite_ite_ok, List.append_assoc]
        · rfl
        · exact seen_append hseen k _
    · rw [buildStruct_ideal_cons hnd, TLKVs.ofDMKVs, conformsStruct_cons, normalizeStruct, TLKVs.toList]
      dsimp only [fieldFor]
      cases hf : fs.find? (fun f => f.name == k) with
      | none => rfl
      | some f =>
        obtain ⟨hmem, hname⟩ := find?_mem_key hf
        simp only [fieldValOK_ofDM]
        rw [hname, ← hseen k, hx (hwf f hmem), Outcome.ite_ok_bind]
        cases hs : seen.contains k with
        | true => rfl
        | false =>
          have hgk : g k = none := by
            cases hg : g k with
            | none => rfl
            | some _ => rw [hseen k, hg] at hs; cases hs
          rw [ihs fs hwf hnd _ (k :: seen), Outcome.ite_ite_ok, mergeVal_set g k _ _ hgk]
          · rfl
          · exact seen_setFn hseen k _

theorem build_type {d : DM} : BuildsNormal d := builders_type.1 d
theorem buildList_type : (xs : DMs) → (ety : Ty) → (enul : Bool) → ety.wf = true → (acc : List TL) →
    buildList Engine.ideal .type ety enul acc xs =
      if conformsList ety enul (TLs.ofDMs xs) = true then
        .ok (acc ++ (normalizeList ety (TLs.ofDMs xs)).toList)
      else .reject :=
  builders_type.2.1
theorem buildMap_type : (es : DMKVs) → (vty : Ty) → (vnul : Bool) → vty.wf = true →
    (acc : List (Bytes × TL)) → (seen : List Bytes) →
    (∀ k, seen.contains k = acc.any (fun p => p.1 == k)) →
    buildMap Engine.ideal .type vty vnul acc es =
      if conformsMap vty vnul seen (TLKVs.ofDMKVs es) = true then
        .ok (acc ++ (normalizeMap vty (TLKVs.ofDMKVs es)).toList)
      else .reject :=
  fun es => (builders_type.2.2 es).1
theorem buildStruct_type : (es : DMKVs) → (fs : List Field) → (∀ f ∈ fs, f.ty.wf = true) →
    (fs.map (·.name)).Nodup → (g : Bytes → Option TL) → (seen : List Bytes) →
    (∀ k, seen.contains k = (g k).isSome) →
    buildStruct Engine.ideal .type fs (SSt.ofFn fs g) es =
      if conformsStruct fs seen (TLKVs.ofDMKVs es) = true then
        .ok (.map (TLKVs.ofList (fs.map fun f =>
          (f.name, mergeVal g (normalizeStruct fs (TLKVs.ofDMKVs es)).toList f.name))))
      else .reject :=
  fun es => (builders_type.2.2 es).2.1

end Schema
end Ipld

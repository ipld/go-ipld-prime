/-
  What one builder call does to the heap, said once: `Footprint` for every call, `Local` for a well-formed call from a
  state satisfying `HInvO` (the invariant again, foreign objects untouched, own objects in their array or a fresh one),
  `Frozen` for the finished part of the heap along a history.
-/
import IpldModel.Lemmas.HeapRead
namespace Ipld
namespace Heap
open Asm

def ObjEvolves (h h' : H) (j : Nat) : Prop :=
  ((objAt h' j).slice.arr = (objAt h j).slice.arr ∨ h.arrs.length ≤ (objAt h' j).slice.arr) ∧
    (objAt h' j).gm = (objAt h j).gm

def ObjFresh (h h' : H) (j : Nat) : Prop :=
  h.objs.length ≤ j ∧ h.arrs.length ≤ (objAt h' j).slice.arr ∧
    ∀ m, (objAt h' j).gm = some m → h.gomaps.length ≤ m

theorem ObjEvolves.of_obj {h h' : H} {j : Nat} (e : objAt h' j = objAt h j) : ObjEvolves h h' j :=
  ⟨Or.inl (by rw [e]), by rw [e]⟩

structure Grows (h h' : H) : Prop where
  objs : h.objs.length ≤ h'.objs.length
  arrs : h.arrs.length ≤ h'.arrs.length
  gms : h.gomaps.length ≤ h'.gomaps.length

theorem Ext.fresh_new {h h' : H} {o : Obj} (he : Ext h h' o) (ha : h.arrs.length ≤ o.slice.arr)
    (hg : ∀ m, o.gm = some m → h.gomaps.length ≤ m) : ObjFresh h h' h.objs.length :=
  ⟨Nat.le_refl _, by rw [he.objAt_new]; exact ha, by rw [he.objAt_new]; exact hg⟩

/-- From `st` to `s'` the heap only grows, and every object under construction afterwards either
    was under construction before (it keeps its array or gets a fresh one, and keeps its lookup map)
    or is freshly allocated together with its array and lookup map. -/
def Evolves (st s' : HSt) : Prop :=
  Grows st.h s'.h ∧ ∀ id ∈ frameIds s'.frames,
    (id ∈ frameIds st.frames ∧ ObjEvolves st.h s'.h id) ∨ ObjFresh st.h s'.h id

theorem Evolves.of_ext {others : List Nat} {st s' : HSt} {o : Obj} (hi : HInvO others st)
    (he : Ext st.h s'.h o)
    (hfr : ∀ id ∈ frameIds s'.frames, id ∈ frameIds st.frames ∨ ObjFresh st.h s'.h id) : Evolves st s' :=
  ⟨⟨he.objs_le, he.arrs_len, he.gms_len⟩, fun id hid => (hfr id hid).imp_left fun hin =>
    ⟨hin, ObjEvolves.of_obj (he.objAt_old (hi.ids_lt id (List.mem_append_left _ hin)))⟩⟩

/-- What every call does, whatever the state: at most one node becomes finished, no object goes away, and the
    logged writes go to locations of objects the builder has under construction. -/
structure Footprint (st st' : HSt) : Prop where
  fin : ∃ l, st'.h.finished = l ++ st.h.finished ∧ l.length ≤ 1
  objs : st.h.objs.length ≤ st'.h.objs.length
  log : ∃ w, st'.written = w ++ st.written ∧ ∀ l ∈ w, ∃ id ∈ frameIds st.frames, LocOf st.h id l

theorem Footprint.quiet {st st' : HSt} (hf : st'.h.finished = st.h.finished)
    (ho : st.h.objs.length ≤ st'.h.objs.length) (hw : st'.written = st.written) : Footprint st st' :=
  ⟨⟨[], hf, Nat.zero_le _⟩, ho, [], hw, fun _ hl => nomatch hl⟩

theorem appendTop_footprint (st : HSt) (id : Nat) (c : Cell) (f' : HFrame) (rest : List HFrame) :
    (appendTop st id c f' rest).h.finished = st.h.finished ∧
    st.h.objs.length = (appendTop st id c f' rest).h.objs.length ∧
    ∃ w, (appendTop st id c f' rest).written = w ++ st.written ∧ ∀ l ∈ w, LocOf st.h id l :=
  ⟨appendSlice_finished _ _ _, by rw [appendTop, hAppend, setObj_objs_length, appendSlice_objs],
    _, rfl, appendTop_written st id c⟩

theorem hdeliver_footprint (st : HSt) (v : NRef) :
    (hdeliver st v).h.finished = st.h.finished ∧ st.h.objs.length = (hdeliver st v).h.objs.length ∧
    ∃ w, (hdeliver st v).written = w ++ st.written ∧
      ∀ l ∈ w, ∃ f rest, st.frames = f :: rest ∧ LocOf st.h f.id l := by
  have hr := hdeliver_rel st v
  generalize hdeliver st v = s' at hr ⊢
  cases hr with
  | noop => exact ⟨rfl, rfl, [], rfl, fun _ hl => nomatch hl⟩
  | root hf => exact ⟨rfl, rfl, [], rfl, fun _ hl => nomatch hl⟩
  | map id rest t m k hf ho =>
    refine ⟨rfl, rfl, _, rfl, fun l hl => ⟨_, _, hf, ?_⟩⟩
    simp only [List.mem_cons, List.not_mem_nil, or_false] at hl
    rcases hl with rfl | rfl
    · simp [LocOf, HFrame.id, ho, Obj.slice]
    · simp [LocOf, HFrame.id, ho, Obj.gm]
  | list id rest hf =>
    obtain ⟨h1, h2, w, h3, h4⟩ := appendTop_footprint st id (.item v) (.list id .init) rest
    exact ⟨h1, h2, w, h3, fun l hl => ⟨_, _, hf, h4 l hl⟩⟩

theorem hdeliver_finished_eq (st : HSt) (v : NRef) : (hdeliver st v).h.finished = st.h.finished :=
  (hdeliver_footprint st v).1

theorem hstep_footprint (st : HSt) (op : HOp) : Footprint st (hstep st op) := by
  have hr := hstep_rel st op
  generalize hstep st op = s' at hr ⊢
  cases hr with
  | phase hk => exact .quiet rfl (Nat.le_refl _) rfl
  | reset => exact .quiet rfl (Nat.le_refl _) rfl
  | beginMap hint => exact .quiet rfl (hNewMap_ext _ _).objs_le rfl
  | beginList hint => exact .quiet rfl (hNewList_ext _ _).objs_le rfl
  | shortcut src hs =>
    exact ⟨⟨[st.h.objs.length], rfl, Nat.le_refl _⟩, (hCopy_ext _ _).objs_le, [], rfl, fun _ hl => nomatch hl⟩
  | deliver v hv =>
    obtain ⟨h1, h2, w, h3, h4⟩ := hdeliver_footprint st v
    refine ⟨⟨[], h1, Nat.zero_le _⟩, Nat.le_of_eq h2, w, h3, fun l hl => ?_⟩
    obtain ⟨f, rest, hf, hloc⟩ := h4 l hl
    exact ⟨f.id, by rw [hf]; exact List.mem_cons_self .., hloc⟩
  | addEntry id rest k ph0 ph hf =>
    obtain ⟨h1, h2, w, h3, h4⟩ := appendTop_footprint st id (.entry k none) (.map id ph) rest
    exact ⟨⟨[], h1, Nat.zero_le _⟩, Nat.le_of_eq h2, w, h3,
      fun l hl => ⟨id, by rw [hf]; exact List.mem_cons_self .., h4 l hl⟩⟩
  | finish f rest hf =>
    obtain ⟨h1, h2, w, h3, h4⟩ := hdeliver_footprint (markFin st f.id rest) (.obj f.id)
    refine ⟨⟨[f.id], h1, Nat.le_refl _⟩, Nat.le_of_eq h2, w, h3, fun l hl => ?_⟩
    obtain ⟨g, rest', hg, hloc⟩ := h4 l hl
    refine ⟨g.id, ?_, (locOf_hFinish st.h f.id g.id l).1 hloc⟩
    rw [hf, show rest = g :: rest' from hg]
    exact List.mem_cons_of_mem _ (List.mem_cons_self ..)

theorem finished_monotone (st : HSt) (op : HOp) {id : Nat} (h : id ∈ st.h.finished) :
    id ∈ (hstep st op).h.finished := by
  obtain ⟨l, e, _⟩ := (hstep_footprint st op).fin
  rw [e]; exact List.mem_append_right _ h

theorem objs_length_monotone (st : HSt) (op : HOp) : st.h.objs.length ≤ (hstep st op).h.objs.length :=
  (hstep_footprint st op).objs

theorem hrun_finished_mono {st : HSt} {ops : List HOp} {id : Nat} (h : id ∈ st.h.finished) :
    id ∈ (hrun st ops).h.finished := by
  induction ops generalizing st with
  | nil => exact h
  | cons op ops ih => exact ih (finished_monotone st op h)

theorem hrun_finished (st : HSt) (ops : List HOp) :
    ∃ l, (hrun st ops).h.finished = l ++ st.h.finished ∧ l.length ≤ ops.length := by
  induction ops generalizing st with
  | nil => exact ⟨[], rfl, Nat.le_refl _⟩
  | cons op ops ih =>
    obtain ⟨l1, e1, h1⟩ := (hstep_footprint st op).fin
    obtain ⟨l2, e2, h2⟩ := ih (hstep st op)
    exact ⟨l2 ++ l1, by rw [hrun, e2, e1, List.append_assoc],
      by rw [List.length_append, List.length_cons]; omega⟩

/-- What a well-formed call does from a state satisfying the invariant: the invariant holds again, an object the
    builder does not have under construction is as it was, and the objects it has under construction afterwards
    are its old ones (in their old array or a fresh one) or freshly allocated. -/
structure Local (others : List Nat) (st st' : HSt) : Prop where
  inv : HInvO others st'
  same : ∀ j, j < st.h.objs.length → j ∉ frameIds st.frames → SameObj st.h st'.h j
  evolves : Evolves st st'

theorem Local.of_frames {others : List Nat} {st : HSt} {fr' : List HFrame} {rt' : Option NRef}
    (hi : HInvO others st) (hfr : (fr'.map HFrame.key).Sublist (st.frames.map HFrame.key))
    (hrt : ∀ v, rt' = some v → RefOk st.h.finished v) : Local others st { st with frames := fr', root := rt' } :=
  ⟨hi.transfer hi.heap (Nat.le_refl _) (fun _ _ => rfl) hfr (fun _ hx => Or.inl hx) hrt,
    fun _ _ _ => .refl _ _,
    ⟨Nat.le_refl _, Nat.le_refl _, Nat.le_refl _⟩, fun id hid => by
      have := (hfr.map Prod.fst).subset
      simp only [List.map_map] at this
      exact .inl ⟨this hid, .of_obj rfl⟩⟩

theorem Local.of_mod {others : List Nat} {st : HSt} {h' : H} {f f' : HFrame} {rest : List HFrame} {w' : List Loc}
    (hi : HInvO others st) (hf : st.frames = f :: rest) (hm : Mod st.h h' f.id) (hk : f'.key = f.key) :
    Local others st { st with h := h', frames := f' :: rest, written := w' } :=
  have hid := (hi.top hf).1
  have hfr : frameIds (f' :: rest) = frameIds st.frames := by
    rw [hf, frameIds, List.map_cons, show f'.id = f.id from congrArg Prod.fst hk]; rfl
  ⟨hi.of_mod hm hid (by rw [hf, List.map_cons, hk]; rfl), fun j hj hn => hm.other j hj fun e => hn (e ▸ hid),
    ⟨Nat.le_of_eq hm.objs_len.symm, hm.arrs_len, Nat.le_of_eq hm.gms_len.symm⟩, fun j hj => .inl ⟨hfr ▸ hj, by
      by_cases e : j = f.id
      · subst e; exact ⟨hm.arr, hm.gm⟩
      · exact .of_obj (hm.other j (hi.ids_lt j (List.mem_append_left _ (hfr ▸ hj))) e).obj⟩⟩

theorem hdeliver_local {others : List Nat} {st : HSt} {v : NRef} (hi : HInvO others st)
    (hv : RefOk st.h.finished v) : Local others st (hdeliver st v) := by
  have hr := hdeliver_rel st v
  generalize hdeliver st v = s' at hr ⊢
  cases hr with
  | noop => exact .of_frames hi (.refl _) hi.root
  | root hf => exact .of_frames hi (.refl _) (fun w hw => by cases hw; exact hv)
  | map id rest t m k hf ho => exact .of_mod hi hf (hi.mod_setLast k hf ho hv) rfl
  | list id rest hf => exact .of_mod hi hf (hi.mod_append (f := .list id .midValue) hf (.item hv)) rfl

theorem Local.push {others : List Nat} {st : HSt} {h' : H} {o : Obj} (f : HFrame) (hi : HInvO others st)
    (he : Ext st.h h' o) (hh : HeapInv h') (hfin : h'.finished = st.h.finished)
    (hfid : f.id = st.h.objs.length) (hfk : o.isMap = f.isMap) (hfresh : ObjFresh st.h h' st.h.objs.length) :
    Local others st { st with h := h', frames := f :: st.frames } :=
  ⟨push_inv hi he hh hfin hfid hfk, fun _ hj _ => he.same hi.heap hj, .of_ext hi he fun id hid => by
    rcases List.mem_cons.1 hid with rfl | hid
    · exact .inr (hfid ▸ hfresh)
    · exact .inl hid⟩

/-- `Finish`: marking the innermost object finished changes no object; the delivery that follows is local to the
    frame below. -/
theorem Local.finish {others : List Nat} {st : HSt} {f : HFrame} {rest : List HFrame} (hi : HInvO others st)
    (hf : st.frames = f :: rest) : Local others st (hdeliver (markFin st f.id rest) (.obj f.id)) := by
  obtain ⟨i2, s2, g, e2⟩ := hdeliver_local (markFin_inv hi hf) (v := .obj f.id) (List.mem_cons_self ..)
  have hsub : ∀ j ∈ frameIds rest, j ∈ frameIds st.frames := fun j hj => by rw [hf]; exact List.mem_cons_of_mem _ hj
  exact ⟨i2, fun j hj hn => (hFinish_same st.h f.id j).trans (s2 j hj fun hm => hn (hsub j hm)),
    ⟨g.objs, g.arrs, g.gms⟩, fun j hj => (e2 j hj).imp_left fun ⟨h1, h2⟩ => ⟨hsub j h1, h2⟩⟩

theorem hstep_local {others : List Nat} {st : HSt} {op : HOp} (hi : HInvO others st) (hw : OpWf st op) :
    Local others st (hstep st op) := by
  have hr := hstep_rel st op
  generalize hstep st op = s' at hr ⊢
  cases hr with
  | phase hk => exact .of_frames hi (hk ▸ .refl _) hi.root
  | reset => exact .of_frames hi (List.nil_sublist _) (fun _ hv => nomatch hv)
  | beginMap hint =>
    have he := hNewMap_ext st.h (hintCap hint)
    exact .push (.map st.h.objs.length .init) hi he (hNewMap_inv _ hi.heap) rfl rfl rfl
      (he.fresh_new (Nat.le_refl _) fun m hm => by cases hm; exact Nat.le_refl _)
  | beginList hint =>
    have he := hNewList_ext st.h (hintCap hint)
    exact .push (.list st.h.objs.length .init) hi he (hNewList_inv _ hi.heap) rfl rfl rfl
      (he.fresh_new (Nat.le_refl _) fun m hm => nomatch hm)
  | deliver v hv => exact hdeliver_local hi (hv hw)
  | shortcut src hs =>
    exact ⟨shortcut_inv hi (hs hw), fun _ hj _ => (hCopy_ext _ _).same hi.heap hj,
      .of_ext hi (hCopy_ext st.h src) fun _ hid => .inl hid⟩
  | addEntry id rest k ph0 ph hf =>
    exact .of_mod hi hf (hi.mod_append (f := .map id ph0) hf (.entry_none k)) rfl
  | finish f rest hf => exact .finish hi hf

theorem hstep_inv {others : List Nat} {st : HSt} {op : HOp} (hi : HInvO others st) (hw : OpWf st op) :
    HInvO others (hstep st op) :=
  (hstep_local hi hw).inv

theorem hrun_inv {others : List Nat} {st : HSt} {ops : List HOp} (hi : HInvO others st)
    (hw : HistWf st ops) : HInvO others (hrun st ops) := by
  induction ops generalizing st with
  | nil => exact hi
  | cons op ops ih => exact ih (hstep_inv hi hw.1) hw.2

structure Frozen (h h' : H) : Prop where
  fin : ∀ j ∈ h.finished, j ∈ h'.finished
  same : ∀ j ∈ h.finished, SameObj h h' j

theorem Frozen.refl (h : H) : Frozen h h := ⟨fun _ hj => hj, fun _ _ => .refl _ _⟩

theorem Frozen.trans {h h' h'' : H} (a : Frozen h h') (b : Frozen h' h'') : Frozen h h'' :=
  ⟨fun j hj => b.fin j (a.fin j hj), fun j hj => (a.same j hj).trans (b.same j (a.fin j hj))⟩

theorem Frozen.absRef {h h' : H} (hf : Frozen h h') (hi : HeapInv h) {id : Nat} (hid : id ∈ h.finished) (F : Nat) :
    absRef h' F (.obj id) = absRef h F (.obj id) :=
  absRef_congr (· ∈ h.finished) hf.same hi.closed F id hid

theorem Frozen.readSet {h h' : H} (hf : Frozen h h') (hi : HeapInv h) {id : Nat} (hid : id ∈ h.finished) (F : Nat) :
    readSet h' F (.obj id) = readSet h F (.obj id) :=
  readSet_congr (· ∈ h.finished) hf.same hi.closed F id hid

theorem hstep_frozen {others : List Nat} {st : HSt} {op : HOp} (hi : HInvO others st) (hw : OpWf st op) :
    Frozen st.h (hstep st op).h :=
  ⟨fun _ => finished_monotone st op, fun j hj => (hstep_local hi hw).same j (hi.heap.fin_lt j hj)
    fun hm => hi.ids_unfin j (List.mem_append_left _ hm) hj⟩

theorem hrun_frozen {others : List Nat} {st : HSt} {ops : List HOp} (hi : HInvO others st) (hw : HistWf st ops) :
    Frozen st.h (hrun st ops).h := by
  induction ops generalizing st with
  | nil => exact .refl _
  | cons op ops ih => exact (hstep_frozen hi hw.1).trans (ih (hstep_inv hi hw.1) hw.2)

/-- no step of a well-formed continuation writes a location that a reader of a finished node touches -/
theorem hrun_written {others : List Nat} {st : HSt} {ops : List HOp} (hi : HInvO others st)
    (hw : HistWf st ops) :
    ∃ w, (hrun st ops).written = w ++ st.written ∧
      ∀ l ∈ w, ∀ id ∈ st.h.finished, ∀ F, l ∉ readSet st.h F (.obj id) := by
  induction ops generalizing st with
  | nil => exact ⟨[], rfl, fun _ hl => nomatch hl⟩
  | cons op ops ih =>
    obtain ⟨w1, e1, f1⟩ := (hstep_footprint st op).log
    obtain ⟨w2, e2, f2⟩ := ih (hstep_inv hi hw.1) hw.2
    refine ⟨w2 ++ w1, by simp only [hrun, e2, e1, List.append_assoc], fun l hl id hid F hmem => ?_⟩
    rcases List.mem_append.1 hl with hl | hl
    · -- a later write: the node reads the same locations in the heap of that moment
      have hf := hstep_frozen hi hw.1
      exact f2 l hl id (hf.fin id hid) F (hf.readSet hi.heap hid F ▸ hmem)
    · -- this call's writes go to an object under construction, which no finished node reaches
      obtain ⟨fid, hfid, hloc⟩ := f1 l hl
      exact hi.unread hfid hloc hid hmem

end Heap
end Ipld

/-
  base64 (RawStdEncoding) round trip for the DAG-JSON bytes form: `unbase64Raw ∘ base64Raw = some`,
  and hence `decodeB64` (raw first, padded fallback) recovers what `base64Raw` wrote.  DESIGN §13.3 C04.
-/
import IpldModel.Model.JsonTok
import IpldModel.Lemmas.Digits
namespace Ipld
namespace Json

theorem b64Val_b64Char {n : Nat} (h : n < 64) : b64Val (b64Char n) = some n :=
  (by decide +kernel : ∀ n : Fin 64, b64Val (b64Char n.val) = some n.val) ⟨n, h⟩

theorem b64_arith3 (x y z : Nat) (hx : x < 256) (hy : y < 256) (hz : z < 256) :
    let n := x * 65536 + y * 256 + z
    n / 262144 < 64 ∧ n / 4096 % 64 < 64 ∧ n / 64 % 64 < 64 ∧ n % 64 < 64 ∧
    (n / 262144) * 262144 + (n / 4096 % 64) * 4096 + (n / 64 % 64) * 64 + n % 64 = n ∧
    n / 65536 = x ∧ n / 256 % 256 = y ∧ n % 256 = z := by
  intro n
  have hn : n < 262144 * 64 := by omega
  obtain ⟨d0, d1, d2⟩ := digits3 x rfl hy hz
  exact ⟨Nat.div_lt_of_lt_mul hn, Nat.mod_lt _ (by decide), Nat.mod_lt _ (by decide), Nat.mod_lt _ (by decide),
    sum_digits4 n rfl rfl, d0, d1, d2⟩

/-- two bytes: the group with `z = 0`, whose last base-64 digit is zero -/
theorem b64_arith2 (x y : Nat) (hx : x < 256) (hy : y < 256) :
    let n := x * 65536 + y * 256
    n / 262144 < 64 ∧ n / 4096 % 64 < 64 ∧ n / 64 % 64 < 64 ∧
    (n / 262144) * 262144 + (n / 4096 % 64) * 4096 + (n / 64 % 64) * 64 = n ∧
    n / 65536 = x ∧ n / 256 % 256 = y := by
  intro n
  obtain ⟨ha, hb, hc, _, hsum, hx', hy', _⟩ := b64_arith3 x y 0 hx hy (by decide)
  have h0 : (x * 65536 + y * 256) % 64 = 0 := by
    rw [show x * 65536 + y * 256 = (x * 1024 + y * 4) * 64 by rw [Nat.add_mul, Nat.mul_assoc, Nat.mul_assoc]]
    exact Nat.mul_mod_left _ _
  rw [Nat.add_zero] at ha hb hc hsum hx' hy'
  rw [h0, Nat.add_zero] at hsum
  exact ⟨ha, hb, hc, hsum, hx', hy'⟩

/-- one byte: the group with `y = z = 0`, whose last two base-64 digits are zero -/
theorem b64_arith1 (x : Nat) (hx : x < 256) :
    let n := x * 65536
    n / 262144 < 64 ∧ n / 4096 % 64 < 64 ∧
    (n / 262144) * 262144 + (n / 4096 % 64) * 4096 = n ∧
    n / 65536 = x := by
  intro n
  obtain ⟨ha, hb, _, hsum, hx', _⟩ := b64_arith2 x 0 hx (by decide)
  have h0 : x * 65536 / 64 % 64 = 0 := by
    rw [show x * 65536 = x * 16 * 64 * 64 by rw [Nat.mul_assoc, Nat.mul_assoc], Nat.mul_div_cancel _ (by decide)]
    exact Nat.mul_mod_left _ _
  rw [Nat.zero_mul, Nat.add_zero] at ha hb hsum hx'
  rw [h0, Nat.zero_mul, Nat.add_zero] at hsum
  exact ⟨ha, hb, hsum, hx'⟩

theorem unbase64Raw_base64Raw : (b : Bytes) → unbase64Raw (base64Raw b) = some b
  | a :: b :: c :: rest => by
    obtain ⟨s0, s1, s2, s3, hsum, ha, hb, hc⟩ :=
      b64_arith3 a.toNat b.toNat c.toNat a.toNat_lt b.toNat_lt c.toNat_lt
    simp only [base64Raw, unbase64Raw, b64Val_b64Char s0, b64Val_b64Char s1, b64Val_b64Char s2,
      b64Val_b64Char s3, unbase64Raw_base64Raw rest, Option.bind_eq_bind, Option.bind_some, Option.pure_def]
    rw [hsum, ha, hb, hc, UInt8.ofNat_toNat, UInt8.ofNat_toNat, UInt8.ofNat_toNat]
  | [a, b] => by
    obtain ⟨s0, s1, s2, hsum, ha, hb⟩ := b64_arith2 a.toNat b.toNat a.toNat_lt b.toNat_lt
    simp only [base64Raw, unbase64Raw, b64Val_b64Char s0, b64Val_b64Char s1, b64Val_b64Char s2,
      Option.bind_eq_bind, Option.bind_some, Option.pure_def]
    rw [hsum, ha, hb, UInt8.ofNat_toNat, UInt8.ofNat_toNat]
  | [a] => by
    obtain ⟨s0, s1, hsum, ha⟩ := b64_arith1 a.toNat a.toNat_lt
    simp only [base64Raw, unbase64Raw, b64Val_b64Char s0, b64Val_b64Char s1,
      Option.bind_eq_bind, Option.bind_some, Option.pure_def]
    rw [hsum, ha, UInt8.ofNat_toNat]
  | [] => rfl

theorem b64Char_notNL {n : Nat} (h : n < 64) : (b64Char n != 0x0a && b64Char n != 0x0d) = true :=
  (by decide +kernel : ∀ n : Fin 64, (b64Char n.val != 0x0a && b64Char n.val != 0x0d) = true) ⟨n, h⟩

theorem base64Raw_notNL : (b : Bytes) → ∀ c ∈ base64Raw b, (c != 0x0a && c != 0x0d) = true
  | x :: y :: z :: rest => by
    obtain ⟨s0, s1, s2, s3, _⟩ := b64_arith3 x.toNat y.toNat z.toNat x.toNat_lt y.toNat_lt z.toNat_lt
    simp only [base64Raw, List.forall_mem_cons]
    exact ⟨b64Char_notNL s0, b64Char_notNL s1, b64Char_notNL s2, b64Char_notNL s3, base64Raw_notNL rest⟩
  | [x, y] => by
    obtain ⟨s0, s1, s2, _⟩ := b64_arith2 x.toNat y.toNat x.toNat_lt y.toNat_lt
    simp only [base64Raw, List.forall_mem_cons]
    exact ⟨b64Char_notNL s0, b64Char_notNL s1, b64Char_notNL s2, nofun⟩
  | [x] => by
    obtain ⟨s0, s1, _⟩ := b64_arith1 x.toNat x.toNat_lt
    simp only [base64Raw, List.forall_mem_cons]
    exact ⟨b64Char_notNL s0, b64Char_notNL s1, nofun⟩
  | [] => nofun

theorem decodeB64_base64Raw (b : Bytes) : decodeB64 (base64Raw b) = some b := by
  have : stripNL (base64Raw b) = base64Raw b := List.filter_eq_self.mpr (base64Raw_notNL b)
  simp only [decodeB64, this, unbase64Raw_base64Raw]

end Json
end Ipld

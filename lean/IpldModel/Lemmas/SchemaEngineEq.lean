/-
  What the builders can see of an engine: fourteen flags read on their own, and `keyAsmDupMapKey`,
  `assignNodeSkipsBegin` only together with their driving modes `viaKeys`, `viaNode` (`Engine.Same`).
  So an engine with all sixteen flags off is the ideal engine, however it is driven.
-/
import IpldModel.Lemmas.SchemaEqns
import IpldModel.Lemmas.SchemaInduct
namespace Ipld
namespace Schema

/-- No builder can tell `e` and `e'` apart. -/
structure Engine.Same (e e' : Engine) : Prop where
  dupStructField : e.dupStructField = e'.dupStructField
  reuseSlot : e.reuseSlot = e'.reuseSlot
  dupMapKey : e.dupMapKey = e'.dupMapKey
  unionMulti : e.unionMulti = e'.unionMulti
  renameFallback : e.renameFallback = e'.renameFallback
  discFallback : e.discFallback = e'.discFallback
  enumTypeAnyString : e.enumTypeAnyString = e'.enumTypeAnyString
  enumNameAtRepr : e.enumNameAtRepr = e'.enumNameAtRepr
  nullableUnionPanic : e.nullableUnionPanic = e'.nullableUnionPanic
  lpShortPair : e.lpShortPair = e'.lpShortPair
  lpUnknownKeyPanic : e.lpUnknownKeyPanic = e'.lpUnknownKeyPanic
  tupleShortAccepted : e.tupleShortAccepted = e'.tupleShortAccepted
  prefixEmptyDelimSplit : e.prefixEmptyDelimSplit = e'.prefixEmptyDelimSplit
  kindedNullRejected : e.kindedNullRejected = e'.kindedNullRejected
  keys : (e.keyAsmDupMapKey && e.viaKeys) = (e'.keyAsmDupMapKey && e'.viaKeys)
  node : (e.viaNode && e.assignNodeSkipsBegin) = (e'.viaNode && e'.assignNodeSkipsBegin)

theorem Engine.Same.refl (e : Engine) : e.Same e :=
  ⟨rfl, rfl, rfl, rfl, rfl, rfl, rfl, rfl, rfl, rfl, rfl, rfl, rfl, rfl, rfl, rfl⟩

/-- `Engine.flags` lists the sixteen deviation flags, not the driving modes `viaKeys`, `viaNode`. -/
theorem Engine.flags_off_iff (e : Engine) :
    e.flags.all (fun f => !f.2.1) = true ↔
      (e.dupStructField = false ∧ e.reuseSlot = false ∧ e.dupMapKey = false ∧ e.unionMulti = false ∧
       e.renameFallback = false ∧ e.discFallback = false ∧ e.enumTypeAnyString = false ∧
       e.enumNameAtRepr = false ∧ e.nullableUnionPanic = false ∧ e.lpShortPair = false ∧
       e.lpUnknownKeyPanic = false ∧ e.tupleShortAccepted = false ∧ e.prefixEmptyDelimSplit = false ∧
       e.kindedNullRejected = false ∧ e.keyAsmDupMapKey = false ∧ e.assignNodeSkipsBegin = false) := by
  simp only [Engine.flags, List.all_cons, List.all_nil, Bool.and_true, Bool.and_eq_true, Bool.not_eq_true']

theorem Engine.same_ideal_of_flags_off (e : Engine) (h : e.flags.all (fun f => !f.2.1) = true) :
    e.Same Engine.ideal := by
  obtain ⟨h1, h2, h3, h4, h5, h6, h7, h8, h9, h10, h11, h12, h13, h14, h15, h16⟩ := (Engine.flags_off_iff e).1 h
  exact ⟨h1, h2, h3, h4, h5, h6, h7, h8, h9, h10, h11, h12, h13, h14, by rw [h15]; rfl,
    by rw [h16, Bool.and_false]; rfl⟩

theorem fieldByKey_congr {e e' : Engine} (h : e.Same e') (lvl : Level) (fs : List Field) (k : Bytes) :
    fieldByKey e lvl fs k = fieldByKey e' lvl fs k := by
  unfold fieldByKey
  simp only [h.renameFallback]

theorem memberByKey_congr {e e' : Engine} (h : e.Same e') (lvl : Level) (ms : List Member) (k : Bytes) :
    memberByKey e lvl ms k = memberByKey e' lvl ms k := by
  unfold memberByKey
  simp only [h.discFallback]

theorem curOf_congr {e e' : Engine} (h : e.Same e') (st : SSt) (i : Nat) (f : Field) :
    st.curOf e i f = st.curOf e' i f := by
  unfold SSt.curOf
  simp only [h.reuseSlot]

theorem nilSlotAssign_congr {e e' : Engine} (h : e.Same e') (lvl : Level) (m : Bool) (ty : Ty) (d : DM) :
    nilSlotAssign e lvl m ty d = nilSlotAssign e' lvl m ty d := by
  unfold nilSlotAssign
  simp only [h.node, fieldByKey_congr h, memberByKey_congr h]

theorem scalars_congr (e e' : Engine) (h : e.Same e') :
    (∀ ty lvl nul d, buildScalar e lvl nul d ty = buildScalar e' lvl nul d ty) ∧
    (∀ fs ps, buildJoin e fs ps = buildJoin e' fs ps) ∧
    ∀ ms, (∀ nul d, buildKinded e nul d ms = buildKinded e' nul d ms) ∧
      (∀ nul p r, buildPrefix e nul p r ms = buildPrefix e' nul p r ms) ∧
      ∀ nul s, buildPrefixNoDelim e nul s ms = buildPrefixNoDelim e' nul s ms := by
  apply Ty.builder_induct
  iterate 9 (intros; rfl)
  · intro fs r ih lvl nul d
    unfold buildScalar
    simp only [ih]
  · intro ms r ⟨i1, i2, i3⟩ lvl nul d
    unfold buildScalar
    simp only [h.prefixEmptyDelimSplit, i1, i2, i3]
  · intro ms r lvl nul d
    unfold buildScalar
    simp only [h.enumTypeAnyString, h.enumNameAtRepr]
  · intro ps; cases ps <;> rfl
  · intro n rn o nu t rest i1 i2 ps
    rcases ps with _ | ⟨p, ps⟩
    · rfl
    unfold buildJoin
    simp only [i1, i2]
  · exact ⟨fun _ _ => rfl, fun _ _ _ => rfl, fun _ _ => rfl⟩
  · intro n dc k t rest i1 ⟨i2, i3, i4⟩
    refine ⟨fun nul d => ?_, fun nul p r => ?_, fun nul s => ?_⟩
    · rw [buildKinded_cons, buildKinded_cons]
      simp only [h.nullableUnionPanic, i1, i2]
    · rw [buildPrefix_cons, buildPrefix_cons]
      simp only [h.nullableUnionPanic, i1, i3]
    · rw [buildPrefixNoDelim_cons, buildPrefixNoDelim_cons]
      simp only [h.nullableUnionPanic, i1, i4]

theorem buildJoin_congr (e e' : Engine) (h : e.Same e') : (fs : Fields) → ∀ ps,
    buildJoin e fs ps = buildJoin e' fs ps :=
  (scalars_congr e e' h).2.1
theorem buildKinded_congr (e e' : Engine) (h : e.Same e') : (ms : Members) → ∀ nul d,
    buildKinded e nul d ms = buildKinded e' nul d ms :=
  fun ms => ((scalars_congr e e' h).2.2 ms).1
theorem buildPrefix_congr (e e' : Engine) (h : e.Same e') : (ms : Members) → ∀ nul p r,
    buildPrefix e nul p r ms = buildPrefix e' nul p r ms :=
  fun ms => ((scalars_congr e e' h).2.2 ms).2.1
theorem buildPrefixNoDelim_congr (e e' : Engine) (h : e.Same e') : (ms : Members) → ∀ nul s,
    buildPrefixNoDelim e nul s ms = buildPrefixNoDelim e' nul s ms :=
  fun ms => ((scalars_congr e e' h).2.2 ms).2.2

theorem resolves_flag {e e' : Engine} (h : e.nullableUnionPanic = e'.nullableUnionPanic) :
    (∀ ty nul k, resolveKinded e nul k ty = resolveKinded e' nul k ty) ∧
    ∀ ms nul k, resolveMembers e nul k ms = resolveMembers e' nul k ms := by
  apply Ty.kinded_induct
  · intro t ht nul k
    rw [resolveKinded_of_not_kinded e nul k ht, resolveKinded_of_not_kinded e' nul k ht]
  · intro ms ih nul k
    unfold resolveKinded
    exact ih nul k
  · intros; rfl
  · intro n _ k' t rest ht hr nul k
    rw [resolveMembers_cons, resolveMembers_cons, h, ht, hr]

theorem resolveKinded_flag {e e' : Engine} (h : e.nullableUnionPanic = e'.nullableUnionPanic) : (ty : Ty) →
    ∀ nul k, resolveKinded e nul k ty = resolveKinded e' nul k ty :=
  (resolves_flag h).1
theorem resolveMembers_flag {e e' : Engine} (h : e.nullableUnionPanic = e'.nullableUnionPanic) : (ms : Members) →
    ∀ nul k, resolveMembers e nul k ms = resolveMembers e' nul k ms :=
  (resolves_flag h).2

theorem resolveMembers_eq (e : Engine) (hn : e.nullableUnionPanic = false) (nul : Bool) (k : Kind) :
    (ms : Members) → resolveMembers e nul k ms = resolveMembers Engine.ideal nul k ms :=
  fun ms => resolveMembers_flag hn ms nul k

theorem dispatch_flag {e e' : Engine} (h : e.nullableUnionPanic = e'.nullableUnionPanic) (lvl : Level)
    (nul : Bool) (k : Kind) (ty : Ty) : dispatch e lvl nul k ty = dispatch e' lvl nul k ty := by
  cases lvl
  · rfl
  · exact resolveKinded_flag h ty nul k

theorem resolveMembers_congr (e e' : Engine) (h : e.Same e') : (ms : Members) → ∀ nul k,
    resolveMembers e nul k ms = resolveMembers e' nul k ms :=
  resolveMembers_flag h.nullableUnionPanic

theorem builders_congr (e e' : Engine) (h : e.Same e') :
    (∀ d lvl ty nul cur, build e lvl ty nul cur d = build e' lvl ty nul cur d) ∧
    (∀ xs, (∀ lvl ety enul acc, buildList e lvl ety enul acc xs = buildList e' lvl ety enul acc xs) ∧
      (∀ fs st i, buildTuple e fs st i xs = buildTuple e' fs st i xs) ∧
      ∀ fs st, buildPairs e fs st xs = buildPairs e' fs st xs) ∧
    ∀ es, (∀ lvl vty vnul acc, buildMap e lvl vty vnul acc es = buildMap e' lvl vty vnul acc es) ∧
      (∀ lvl fs st, buildStruct e lvl fs st es = buildStruct e' lvl fs st es) ∧
      ∀ lvl ms cur n, buildUnion e lvl ms cur n es = buildUnion e' lvl ms cur n es := by
  apply DM.builder_induct
  · intro lvl ty nul cur
    unfold build
    simp only [h.kindedNullRejected]
  · intro d hs hn lvl ty nul cur
    rw [build_of_isScalar hs hn, build_of_isScalar hs hn]
    exact (scalars_congr e e' h).1 ty lvl nul d
  · intro xs ⟨i1, i2, i3⟩ lvl ty nul cur
    unfold build
    simp only [resolveKinded_flag h.nullableUnionPanic, i1, i2, i3]
  · intro es ⟨i1, i2, i3⟩ lvl ty nul cur
    unfold build
    simp only [resolveKinded_flag h.nullableUnionPanic, h.node, i1, i2, i3]
  · refine ⟨fun _ _ _ _ => rfl, fun fs st i => ?_, fun _ _ => rfl⟩
    unfold buildTuple
    simp only [h.tupleShortAccepted]
  · intro x xs i1 isub ⟨i2, i3, i4⟩
    refine ⟨fun lvl ety enul acc => ?_, fun fs st i => ?_, fun fs st => ?_⟩
    · unfold buildList
      simp only [nilSlotAssign_congr h, i1, i2]
    · unfold buildTuple
      simp only [nilSlotAssign_congr h, curOf_congr h, i1, i3]
    · rcases DM.pair_cases x with rfl | ⟨k, rfl⟩ | ⟨k, v, rest, rfl⟩ | hbad
      · unfold buildPairs
        simp only [h.lpShortPair, i4]
      · unfold buildPairs
        simp only [h.lpShortPair, i4]
      · unfold buildPairs
        simp only [h.lpUnknownKeyPanic, h.dupStructField, curOf_congr h, i4,
          isub _ rfl v (by simp [DMs.toList])]
      · rw [hbad, hbad]
  · exact ⟨fun _ _ _ _ => rfl, fun _ _ _ => rfl, fun _ _ _ _ => rfl⟩
  · intro k v es i1 ⟨i2, i3, i4⟩
    refine ⟨fun lvl vty vnul acc => ?_, fun lvl fs st => ?_, fun lvl ms cur n => ?_⟩
    · unfold buildMap
      simp only [nilSlotAssign_congr h, h.dupMapKey, h.keys, i1, i2]
    · unfold buildStruct
      simp only [nilSlotAssign_congr h, fieldByKey_congr h, curOf_congr h, h.dupStructField, i1, i3]
    · unfold buildUnion
      simp only [h.unionMulti, memberByKey_congr h, i1, i4]

theorem build_congr (e e' : Engine) (h : e.Same e') : (d : DM) → ∀ lvl ty nul cur,
    build e lvl ty nul cur d = build e' lvl ty nul cur d :=
  (builders_congr e e' h).1
theorem buildList_congr (e e' : Engine) (h : e.Same e') : (xs : DMs) → ∀ lvl ety enul acc,
    buildList e lvl ety enul acc xs = buildList e' lvl ety enul acc xs :=
  fun xs => ((builders_congr e e' h).2.1 xs).1
theorem buildMap_congr (e e' : Engine) (h : e.Same e') : (es : DMKVs) → ∀ lvl vty vnul acc,
    buildMap e lvl vty vnul acc es = buildMap e' lvl vty vnul acc es :=
  fun es => ((builders_congr e e' h).2.2 es).1
theorem buildStruct_congr (e e' : Engine) (h : e.Same e') : (es : DMKVs) → ∀ lvl fs st,
    buildStruct e lvl fs st es = buildStruct e' lvl fs st es :=
  fun es => ((builders_congr e e' h).2.2 es).2.1
theorem buildTuple_congr (e e' : Engine) (h : e.Same e') : (xs : DMs) → ∀ fs st i,
    buildTuple e fs st i xs = buildTuple e' fs st i xs :=
  fun xs => ((builders_congr e e' h).2.1 xs).2.1
theorem buildPairs_congr (e e' : Engine) (h : e.Same e') : (xs : DMs) → ∀ fs st,
    buildPairs e fs st xs = buildPairs e' fs st xs :=
  fun xs => ((builders_congr e e' h).2.1 xs).2.2
theorem buildUnion_congr (e e' : Engine) (h : e.Same e') : (es : DMKVs) → ∀ lvl ms cur n,
    buildUnion e lvl ms cur n es = buildUnion e' lvl ms cur n es :=
  fun es => ((builders_congr e e' h).2.2 es).2.2

theorem build_of_flags_off (e : Engine) (h : e.flags.all (fun f => !f.2.1) = true) (lvl : Level) (ty : Ty)
    (nul : Bool) (cur : Option TL) (d : DM) :
    build e lvl ty nul cur d = build Engine.ideal lvl ty nul cur d :=
  build_congr e Engine.ideal (e.same_ideal_of_flags_off h) d lvl ty nul cur

end Schema
end Ipld

/-
  This file DEFINES what the C16 theorems across links are stated with — `linkOccurs`, `StoreFreeOf`, `FreshLink`,
  `resolve` — and proves `focused` at the level of the expanded graph (`expandFuel store fuel d`: every link of `d`
  resolved through `store`): expansion commutes with `updateAt` inside a class of trees, closed under children, that
  the old and the new store expand alike (`expand_updateAt`); `focused` along a path that crosses any number of links.
-/
import IpldModel.Lemmas.Transform
namespace Ipld
namespace Transform
open Sel Walk

theorem expandFuel_zero (s : List (Bytes × DM)) (d : DM) : expandFuel s 0 d = d := rfl

theorem expandFuel_zero_fun (s : List (Bytes × DM)) : expandFuel s 0 = id := by
  funext d; exact expandFuel_zero s d

theorem expandFuel_map (s : List (Bytes × DM)) (j : Nat) (es : DMKVs) :
    expandFuel s (j + 1) (.map es) = .map (DMKVs.ofList (es.toList.map fun e => (e.1, expandFuel s j e.2))) :=
  rfl

theorem expandFuel_list (s : List (Bytes × DM)) (j : Nat) (xs : DMs) :
    expandFuel s (j + 1) (.list xs) = .list (DMs.ofList (xs.toList.map (expandFuel s j))) := rfl

theorem expandFuel_link_some {s : List (Bytes × DM)} {j : Nat} {c : Bytes} {b : DM} (h : storeGet s c = some b) :
    expandFuel s (j + 1) (.link c) = expandFuel s j b := by
  simp only [expandFuel, h]

theorem expandFuel_link_none {s : List (Bytes × DM)} {j : Nat} {c : Bytes} (h : storeGet s c = none) :
    expandFuel s (j + 1) (.link c) = .link c := by
  simp only [expandFuel, h]

theorem lookup_expand (s : List (Bytes × DM)) (j : Nat) {n : DM} {seg : Seg} {ch : DM}
    (h : lookupBySegment n seg = some ch) :
    lookupBySegment (expandFuel s (j + 1) n) seg = some (expandFuel s j ch) := by
  rcases lookup_cases h with ⟨es, e, rfl, hf, rfl⟩ | ⟨xs, i, rfl, hi, hneg, _, hx⟩
  · simp only [expandFuel_map, lookupBySegment, DMKVs.toList_ofList, List.find?_map]
    have : ((fun e : Bytes × DM => e.1 == seg.toString) ∘ fun e : Bytes × DM => (e.1, expandFuel s j e.2)) =
        (fun e => e.1 == seg.toString) := rfl
    rw [this, hf]; rfl
  · simp only [expandFuel_list, lookupBySegment, hi, hneg, if_false, DMs.toList_ofList, List.getElem?_map, hx,
      Option.map_some]

theorem lookup_expand_pred (s : List (Bytes × DM)) (j : Nat) {n : DM} {seg : Seg} {ch : DM}
    (h : lookupBySegment n seg = some ch) :
    lookupBySegment (expandFuel s j n) seg = some (expandFuel s (j - 1) ch) := by
  cases j with
  | zero => simp only [Nat.zero_sub, expandFuel_zero, h]
  | succ j => exact lookup_expand s j h

theorem getPlain_expand (s : List (Bytes × DM)) : ∀ {p : Path} {n t : DM}, getPlain n p = some t →
    ∀ j, getPlain (expandFuel s j n) p = some (expandFuel s (j - p.length) t) := by
  apply getPlain_induct
  · intro n j
    simp only [getPlain, List.length_nil, Nat.sub_zero]
  · intro n seg ch p t hl _ ih j
    simp only [getPlain, lookup_expand_pred s j hl]
    rw [ih (j - 1), List.length_cons, Nat.sub_sub, Nat.add_comm 1]

def Agree (s' s : List (Bytes × DM)) (d : DM) : Prop := ∀ j, expandFuel s' j d = expandFuel s j d

theorem expandFuel_congr {s' s : List (Bytes × DM)} {Q : DM → Prop} (hQ : Hereditary Q)
    (hget : ∀ c, Q (.link c) → storeGet s' c = storeGet s c) (hblk : ∀ c b, storeGet s c = some b → Q b) :
    ∀ (d : DM), Q d → Agree s' s d := by
  intro d hd j
  induction j generalizing d with
  | zero => rfl
  | succ j ih =>
    cases d with
    | link c =>
      have hk := hget c hd
      cases hs : storeGet s c with
      | none => rw [expandFuel_link_none hs, expandFuel_link_none (hk.trans hs)]
      | some b =>
        rw [expandFuel_link_some hs, expandFuel_link_some (hk.trans hs)]
        exact ih b (hblk c b hs)
    | list xs =>
      simp only [expandFuel_list]
      rw [List.map_congr_left (fun x hx => ih x (hQ hd x hx))]
    | map es =>
      simp only [expandFuel_map]
      rw [List.map_congr_left (fun e he => by rw [ih e.2 (hQ hd e he)])]
    | _ => rfl

theorem true_hereditary : Hereditary (fun _ => True) := fun {n} _ => by cases n <;> simp only [Kids, implies_true]

theorem expand_setChild (s' s : List (Bytes × DM)) (j : Nat) {n : DM} {seg : Seg} {ch : DM} (o : Option DM)
    (hl : lookupBySegment n seg = some ch) (hk : Kids (Agree s' s) n) :
    expandFuel s' (j + 1) (setChild n seg o) = setChild (expandFuel s (j + 1) n) seg (o.map (expandFuel s' j)) := by
  rcases lookup_cases hl with ⟨es, e, rfl, _, _⟩ | ⟨xs, i, rfl, hi, _, _, _⟩
  · have : es.toList.map (fun e => (e.1, expandFuel s j e.2)) =
        es.toList.map (fun e => (e.1, expandFuel s' j e.2)) :=
      List.map_congr_left fun e he => by rw [hk e he j]
    simp only [setChild, expandFuel_map, DMKVs.toList_ofList, this, setEntry_map]
  · have : xs.toList.map (expandFuel s j) = xs.toList.map (expandFuel s' j) :=
      List.map_congr_left fun x hx => (hk x hx j).symm
    have ho : (o.toList).map (expandFuel s' j) = (o.map (expandFuel s' j)).toList := by cases o <;> rfl
    simp only [setChild, hi, expandFuel_list, DMs.toList_ofList, this, List.map_append, List.map_take,
      List.map_drop, ho]

theorem expand_updateAt {s' s : List (Bytes × DM)} {Q : DM → Prop} (hQ : Hereditary Q)
    (hag : ∀ d, Q d → Agree s' s d) (r : Option DM) : ∀ {p : Path} {n t : DM}, getPlain n p = some t →
    Q n → ∀ j, (updateAt n p r).map (expandFuel s' j) =
      updateAt (expandFuel s j n) p (r.map (expandFuel s' (j - p.length))) := by
  apply getPlain_induct
  · intro n _ j
    simp only [updateAt, List.length_nil, Nat.sub_zero]
  · intro n seg ch p t hl _ ih hn j
    cases j with
    | zero =>
      simp only [expandFuel_zero_fun, Option.map_id_fun, id_eq, Nat.zero_sub, expandFuel_zero]
    | succ j =>
      rw [updateAt_cons hl, updateAt_cons (lookup_expand s j hl), Option.map_some,
        expand_setChild s' s j _ hl ((hQ hn).mono hag), ih ((hQ hn).lookup hl) j]
      simp only [List.length_cons, Nat.add_sub_add_right]

mutual
/-- the link `c` occurs somewhere in the value (syntactically: blocks are not loaded) -/
def linkOccurs (c : Bytes) : DM → Bool
  | .link k => k == c
  | .list xs => linkOccursList c xs
  | .map es => linkOccursKVs c es
  | _ => false
def linkOccursList (c : Bytes) : DMs → Bool
  | .nil => false
  | .cons x xs => linkOccurs c x || linkOccursList c xs
def linkOccursKVs (c : Bytes) : DMKVs → Bool
  | .nil => false
  | .cons _ v es => linkOccurs c v || linkOccursKVs c es
end

theorem linkOccurs_hereditary (c : Bytes) : Hereditary (fun d => linkOccurs c d = false) := by
  intro n h
  cases n <;> simp only [Kids]
  · exact DMs.forall_mem (fun xs => linkOccursList c xs = false) (fun _ _ h => Bool.or_eq_false_iff.1 h) _ h
  · exact DMKVs.forall_mem (fun es => linkOccursKVs c es = false) (fun _ _ _ h => Bool.or_eq_false_iff.1 h) _ h

def StoreFreeOf (c : Bytes) (s : List (Bytes × DM)) : Prop := ∀ e ∈ s, linkOccurs c e.2 = false

instance (c : Bytes) (s : List (Bytes × DM)) : Decidable (StoreFreeOf c s) := by
  unfold StoreFreeOf; exact inferInstance

theorem expandFuel_cons_fresh {c : Bytes} {b : DM} {s : List (Bytes × DM)} (hs : StoreFreeOf c s) (d : DM)
    (hd : linkOccurs c d = false) : Agree ((c, b) :: s) s d :=
  expandFuel_congr (linkOccurs_hereditary c) (fun _ hk => storeGet_cons_ne (beq_eq_false_iff_ne.mp hk))
    (fun _ _ hg => hs _ (storeGet_mem hg)) d hd

theorem expandFuel_cons_same {c : Bytes} {b : DM} {s : List (Bytes × DM)} (h : storeGet s c = some b) (d : DM) :
    Agree ((c, b) :: s) s d := by
  refine expandFuel_congr true_hereditary (fun k _ => ?_) (fun _ _ _ => trivial) d trivial
  by_cases hk : k = c
  · subst hk; rw [storeGet_cons_self, h]
  · exact storeGet_cons_ne hk

theorem expandFuel_linkfree (s : List (Bytes × DM)) : ∀ (j : Nat) (d : DM), Spec.hasLink d = false →
    expandFuel s j d = d := by
  intro j
  induction j with
  | zero => exact fun _ _ => rfl
  | succ j ih =>
    intro d hd
    have hk := linkFree_hereditary hd
    cases d with
    | link k => cases hd
    | list xs =>
      rw [expandFuel_list, List.map_congr_left (g := id) (fun x hx => ih x (hk x hx)), List.map_id,
        DMs.ofList_toList]
    | map es =>
      rw [expandFuel_map, List.map_congr_left (g := id) (fun e he => by rw [ih e.2 (hk e he)]; rfl),
        List.map_id, DMKVs.ofList_toList]
    | _ => rfl

/-- What is asked of the link `c'` under which the changed block `b'` is stored, relative to the store `s`
    before the transform and the old root.  Either
    * `c'` already loads exactly `b'` (content addressing: writing the block again changes nothing — e.g. the
      identity transform, or a value written back unchanged), or
    * `c'` occurs as a link nowhere: not in the root, not in any block of the store.  (Then whether `c'` is a
      key of the store or not is immaterial: no expansion ever asks for it.)
    Decidable.  Both alternatives fail only if `linkOf` collides with a link already present in the
    graph that does *not* load `b'`: a link to a different block (hash collision), or a dangling link
    (see `fresh_needed_collision`, `fresh_needed_dangling` in `Props/C16.lean`). -/
def FreshLink (c' : Bytes) (b' : DM) (s : List (Bytes × DM)) (root : DM) : Prop :=
  storeGet s c' = some b' ∨ (linkOccurs c' root = false ∧ StoreFreeOf c' s)

instance (c' : Bytes) (b' : DM) (s : List (Bytes × DM)) (root : DM) : Decidable (FreshLink c' b' s root) := by
  unfold FreshLink StoreFreeOf; exact inferInstance

theorem fresh_agree {c' : Bytes} {b' : DM} {s : List (Bytes × DM)} {root : DM} (h : FreshLink c' b' s root)
    (d : DM) (hd : linkOccurs c' d = false) : Agree ((c', b') :: s) s d := by
  rcases h with h | ⟨_, h⟩
  · exact expandFuel_cons_same h d
  · exact expandFuel_cons_fresh h d hd

theorem fresh_class {c' : Bytes} {b' : DM} {s : List (Bytes × DM)} {root : DM} (h : FreshLink c' b' s root) :
    ∃ Q : DM → Prop, Hereditary Q ∧ (∀ d, Q d → Agree ((c', b') :: s) s d) ∧ Q root ∧
      ∀ k n, storeGet s k = some n → Q n := by
  rcases h with h | ⟨h1, h2⟩
  · exact ⟨fun _ => True, true_hereditary, fun d _ => expandFuel_cons_same h d, trivial,
      fun _ _ _ => trivial⟩
  · exact ⟨fun d => linkOccurs c' d = false, linkOccurs_hereditary c', expandFuel_cons_fresh h2, h1,
      fun k n hk => h2 _ (storeGet_mem hk)⟩

/-- One link on the path, expanded graph.  `s' = (c', b') :: s` is the store after the transform, `y` the new root (the old one with
    `.link c'` where `.link c` was), `blk0` the functionally updated block.  If the new link is fresh, then
    for every fuel that reaches the link (`pre.length < F`):
    (1) the expanded new graph is the expanded old graph with the expansion of the *stored* block `b'` at `pre`;
    (2) the expansion of the updated block is the update of the expanded block;
    (3) if the block is stored as it is (`b' = blk0`), the expanded new graph is the functional update
        of the expanded old graph at `pre ++ rest`.
    The replacement is expanded with the fuel left at its depth (`0` = not at all). -/
theorem expand_relink_core {s : List (Bytes × DM)} {c c' : Bytes} {pre rest : Path} {root blk t blk0 b' y : DM}
    {r : Option DM} {F : Nat}
    (hg : getPlain root pre = some (.link c)) (hs : storeGet s c = some blk) (hg2 : getPlain blk rest = some t)
    (hb0 : updateAt blk rest r = some blk0) (hy : updateAt root pre (some (.link c')) = some y)
    (hfresh : FreshLink c' b' s root) (hF : pre.length < F) :
    some (expandFuel ((c', b') :: s) F y) =
        updateAt (expandFuel s F root) pre (some (expandFuel ((c', b') :: s) (F - pre.length - 1) b')) ∧
    some (expandFuel ((c', b') :: s) (F - pre.length - 1) blk0) =
        updateAt (expandFuel s (F - pre.length - 1) blk) rest
          (r.map (expandFuel ((c', b') :: s) (F - pre.length - 1 - rest.length))) ∧
    (b' = blk0 → some (expandFuel ((c', b') :: s) F y) =
        updateAt (expandFuel s F root) (pre ++ rest)
          (r.map (expandFuel ((c', b') :: s) (F - pre.length - 1 - rest.length)))) := by
  obtain ⟨m, hm⟩ := exists_add_one_of_lt (Nat.sub_pos_of_lt hF)
  have hm' : F - pre.length - 1 = m := by rw [hm]; rfl
  obtain ⟨Q, hQ, hag, hroot, hblk⟩ := fresh_class hfresh
  have h1 := expand_updateAt hQ hag (some (.link c')) hg hroot F
  rw [hy, Option.map_some, Option.map_some, hm, expandFuel_link_some storeGet_cons_self] at h1
  have h2 := expand_updateAt hQ hag r hg2 (hblk c blk hs) m
  rw [hb0, Option.map_some] at h2
  rw [hm']
  refine ⟨h1, h2, fun hbb => ?_⟩
  have hgp : getPlain (expandFuel s F root) pre = some (expandFuel s m blk) := by
    rw [getPlain_expand s hg F, hm, expandFuel_link_some hs]
  rw [updateAt_append rest _ hgp, ← h2, h1, hbb]

/-- Resolve `path` from `n` the way `focusedTransform` walks: a link met with more path to go is loaded
    and the walk continues in the block with the same path (one unit of fuel, like a segment).  Answers
    the target (not loaded if it is itself a link) and the number of links crossed. -/
def resolve (s : List (Bytes × DM)) : Nat → DM → Path → Option (DM × Nat)
  | _, n, [] => some (n, 0)
  | 0, _, _ :: _ => none
  | f + 1, n, seg :: p =>
    match lookupBySegment n seg with
    | some ch => resolve s f ch p
    | none =>
      match n with
      | .link c =>
        match storeGet s c with
        | none => none
        | some b => (resolve s f b (seg :: p)).map fun q => (q.1, q.2 + 1)
      | _ => none

theorem resolve_nil (s : List (Bytes × DM)) (f : Nat) (n : DM) : resolve s f n [] = some (n, 0) := by
  cases f <;> rfl

theorem resolve_induct {s : List (Bytes × DM)} {motive : Nat → DM → Path → DM → Nat → Prop}
    (nil : ∀ f n, motive f n [] n 0)
    (step : ∀ f n seg p ch t k, lookupBySegment n seg = some ch → resolve s f ch p = some (t, k) →
      motive f ch p t k → motive (f + 1) n (seg :: p) t k)
    (link : ∀ f c b seg p t k, storeGet s c = some b → resolve s f b (seg :: p) = some (t, k) →
      motive f b (seg :: p) t k → motive (f + 1) (.link c) (seg :: p) t (k + 1)) :
    ∀ {f n p t k}, resolve s f n p = some (t, k) → motive f n p t k := by
  intro f
  induction f with
  | zero =>
    intro n p t k h
    cases p with
    | nil => cases h; exact nil 0 n
    | cons _ _ => cases h
  | succ f ih =>
    intro n p t k h
    cases p with
    | nil => cases h; exact nil (f + 1) n
    | cons seg p =>
      simp only [resolve] at h
      cases hl : lookupBySegment n seg with
      | some ch =>
        rw [hl] at h
        exact step f n seg p ch t k hl h (ih h)
      | none =>
        simp only [hl] at h
        cases n with
        | link c =>
          simp only [] at h
          cases hs : storeGet s c with
          | none => rw [hs] at h; cases h
          | some b =>
            simp only [hs, Option.map_eq_some_iff] at h
            obtain ⟨⟨t0, k0⟩, hr0, he⟩ := h
            cases he
            exact link f c b seg p t0 k0 hs hr0 (ih hr0)
        | _ => cases h

theorem resolve_of_getPlain (s : List (Bytes × DM)) : ∀ {p : Path} {n t : DM}, getPlain n p = some t →
    ∀ f, p.length ≤ f → resolve s f n p = some (t, 0) := by
  refine @getPlain_induct _ (fun n f _ => resolve_nil s f n) ?_
  intro n seg ch p t hl _ ih f hf
  obtain ⟨f', rfl⟩ := exists_add_one_of_lt (Nat.lt_of_succ_le hf)
  simp only [resolve, hl]
  exact ih f' (Nat.le_of_succ_le_succ hf)

theorem resolve_prefix (s : List (Bytes × DM)) (rest : Path) (f : Nat) : ∀ {pre : Path} {n mid : DM},
    getPlain n pre = some mid → resolve s (pre.length + f) n (pre ++ rest) = resolve s f mid rest := by
  apply getPlain_induct
  · intro n
    simp only [List.length_nil, Nat.zero_add, List.nil_append]
  · intro n seg ch pre mid hl _ ih
    rw [cons_length_add, List.cons_append]
    simp only [resolve, hl]
    exact ih

theorem written_loads_back {linkOf : DM → Bytes} (hinj : ∀ a b, linkOf a = linkOf b → a = b)
    (s : List (Bytes × DM)) : ∀ {W : List (Bytes × DM)}, (∀ e ∈ W, e.1 = linkOf e.2) →
    ∀ e ∈ W, storeGet (W ++ s) e.1 = some e.2 := by
  intro W
  induction W with
  | nil => exact fun _ _ he => nomatch he
  | cons a W ih =>
    intro hW e he
    by_cases hk : e.1 = a.1
    · have h2 : a.2 = e.2 := hinj _ _ (by rw [← hW a (List.mem_cons_self ..), ← hW e he, hk])
      rw [hk, ← h2]
      exact storeGet_cons_self
    · have he' : e ∈ W := (List.mem_cons.mp he).resolve_left fun h => hk (h ▸ rfl)
      rw [← ih (fun e he => hW e (List.mem_cons_of_mem _ he)) e he']
      exact storeGet_cons_ne hk

def NoKeyOf (W : List (Bytes × DM)) (d : DM) : Prop := ∀ e ∈ W, linkOccurs e.1 d = false

theorem noKeyOf_hereditary (W : List (Bytes × DM)) : Hereditary (NoKeyOf W) := by
  intro n hn
  cases n <;> simp only [Kids]
  · exact fun x hx e he => linkOccurs_hereditary e.1 (hn e he) x hx
  · exact fun e' he' e he => linkOccurs_hereditary e.1 (hn e he) e' he'

theorem getPlain_expand_resolve (s : List (Bytes × DM)) : ∀ {f : Nat} {n : DM} {p : Path} {t : DM} {k : Nat},
    resolve s f n p = some (t, k) → ∀ j,
    getPlain (expandFuel s (p.length + k + j) n) p = some (expandFuel s j t) := by
  apply resolve_induct
  · intro f n j
    simp only [getPlain, List.length_nil, Nat.zero_add]
  · intro f n seg p ch t k hl _ ih j
    rw [cons_length_add, Nat.add_right_comm _ 1 j]
    simp only [getPlain, lookup_expand s _ hl, ih j]
  · intro f c b seg p t k hs _ ih j
    rw [← Nat.add_assoc, Nat.add_right_comm _ 1 j,
      expandFuel_link_some hs, ih j]

section through
variable (fn : Fn) (linkOf : DM → Bytes) (canon : DM → DM) (cp : Bool)

/-- What `focused` does along a path that resolves from `n` to `t` crossing `k` links: the new root `Y` and the
    written blocks `W`. -/
structure Through (st : TSt) (f : Nat) (n : DM) (p : Path) (t : DM) (k : Nat) (at_ : Path) (Y : Option DM)
    (W : List (Bytes × DM)) : Prop where
  run : focused fn linkOf canon cp (f + 1) at_ (some n) p st =
    .ok (Y, { store := W ++ st.store, written := W ++ st.written })
  count : W.length = k
  keys : ∀ e ∈ W, e.1 = linkOf e.2
  isSome : p ≠ [] → ∃ y, Y = some y
  nonlink : p ≠ [] → (∀ c, n ≠ .link c) → ∀ y, Y = some y → ∀ c, y ≠ .link c
  /-- If the codec writes blocks as they are, then through *any* store `T` that loads the written entries back an
      answer `some v` (not a link) is read at `p` from the result: with fuel for `k` loads, first the links at the
      start are followed (`traversal.Get` does not do that for its root), then `Walk.get` arrives at `v`. -/
  reads : (∀ b, canon b = b) → ∀ T, (∀ e ∈ W, storeGet T e.1 = some e.2) →
    ∀ v, fn (at_ ++ p) (some t) = some v → (∀ c, v ≠ .link c) → ∃ y, Y = some y ∧
      ∀ F, k < F → ∃ m, followLinks T F y = .ok m ∧ Walk.get T F m p = .ok v
  /-- If moreover `T` expands like the old store everything inheriting `P` (a property of `n` and of all old blocks,
      inherited by children), the result expanded through `T` is the functional update of `n` expanded through the
      old store. -/
  expands : (∀ b, canon b = b) → ∀ T, (∀ e ∈ W, storeGet T e.1 = some e.2) →
    ∀ (P : DM → Prop), Hereditary P → (∀ c b, storeGet st.store c = some b → P b) →
      (∀ c, P (.link c) → storeGet T c = storeGet st.store c) → P n → ∀ j,
      Y.map (expandFuel T (p.length + k + j)) = updateAt (expandFuel st.store (p.length + k + j) n) p
        ((fn (at_ ++ p) (some t)).map (expandFuel T j))

theorem focused_through {st : TSt} (hst : ∀ e ∈ st.store, e.2.NoDup) :
    ∀ {f : Nat} {n : DM} {p : Path} {t : DM} {k : Nat}, resolve st.store f n p = some (t, k) →
    ∀ (at_ : Path), n.NoDup → ∃ Y W, Through fn linkOf canon cp st f n p t k at_ Y W := by
  apply resolve_induct
  · intro f n at_ _
    refine ⟨fn at_ (some n), [], by simp only [focused_nil, List.nil_append], rfl, (fun _ he => by cases he),
      fun h => absurd rfl h, fun h => absurd rfl h, fun _ T _ v hv hnl => ?_, fun _ T _ P _ _ _ _ j => ?_⟩
    · rw [List.append_nil] at hv
      refine ⟨v, hv, fun F hF => ?_⟩
      obtain ⟨g, rfl⟩ := exists_add_one_of_lt hF
      exact ⟨v, followLinks_nonlink hnl, rfl⟩
    · simp only [updateAt, List.append_nil, List.length_nil, Nat.zero_add]
  · intro f n seg p2 ch t k hl _ ih at_ hn
    obtain ⟨Y0, W, ih⟩ := ih (at_ ++ [seg]) (lookup_noDup hn hl)
    have ha : at_ ++ [seg] ++ p2 = at_ ++ seg :: p2 := by rw [List.append_assoc, List.singleton_append]
    refine ⟨some (setChild n seg Y0), W,
      focused_child hn hl ih.run ih.isSome,
      ih.count, ih.keys, fun _ => ⟨_, rfl⟩, ?_, fun hcanon T hW v hv hnl => ?_,
      fun hcanon T hW P hP hPs hPl hPn j => ?_⟩
    · intro _ _ y hy c
      cases hy
      exact setChild_nonlink hl c
    · obtain ⟨y1, rfl, hr1⟩ := ih.reads hcanon T hW v (ha ▸ hv) hnl
      refine ⟨_, rfl, fun F hF => ?_⟩
      obtain ⟨g, rfl⟩ := exists_add_one_of_lt hF
      obtain ⟨m, hm1, hm2⟩ := hr1 (g + 1) hF
      refine ⟨_, followLinks_nonlink (setChild_nonlink hl), ?_⟩
      simp only [Walk.get, lookup_getStep (lookup_setChild_same y1 hl), hm1, bind, Except.bind]
      exact hm2
    · have hag : ∀ d, P d → Agree T st.store d := expandFuel_congr hP hPl hPs
      have hexp := ih.expands hcanon T hW P hP hPs hPl ((hP hPn).lookup hl) j
      rw [ha] at hexp
      rw [cons_length_add, Nat.add_right_comm _ 1 j,
        Option.map_some, expand_setChild T st.store _ Y0 hl ((hP hPn).mono hag),
        hexp, updateAt_cons (lookup_expand st.store _ hl)]
  · intro f c b seg p2 t k hs _ ih at_ _
    obtain ⟨Y0, W, ih⟩ := ih at_ (hst (c, b) (storeGet_mem hs))
    obtain ⟨y0, rfl⟩ := ih.isSome (List.cons_ne_nil _ _)
    refine ⟨some (.link (linkOf (canon y0))), (linkOf (canon y0), canon y0) :: W, ?_,
      by rw [List.length_cons, ih.count], ?_, fun _ => ⟨_, rfl⟩, fun _ h => absurd rfl (h c),
      fun hcanon T hW v hv hnl => ?_, fun hcanon T hW P hP hPs hPl _ j => ?_⟩
    · rw [focused_link hs, ih.run]
      rfl
    · intro e he
      simp only [List.mem_cons] at he
      rcases he with rfl | he
      · rfl
      · exact ih.keys e he
    · -- the new link loads the block written under it; below it the fuel for the links further down is left
      have hhead := hW (linkOf (canon y0), canon y0) (List.mem_cons_self ..)
      obtain ⟨y1, hy1, hr1⟩ := ih.reads hcanon T (fun e he => hW e (List.mem_cons_of_mem _ he)) v hv hnl
      cases hy1
      simp only [hcanon y0] at hhead ⊢
      refine ⟨_, rfl, fun F hF => ?_⟩
      obtain ⟨g, rfl⟩ := exists_add_one_of_lt hF
      obtain ⟨m, hm1, _⟩ := hr1 g (Nat.lt_of_succ_lt_succ hF)
      obtain ⟨m', hm1', hm2'⟩ := hr1 (g + 1) (Nat.lt_of_succ_lt hF)
      have := followLinks_mono T g y0 m hm1
      rw [hm1'] at this; cases this
      exact ⟨_, by simp only [followLinks, hhead]; exact hm1, hm2'⟩
    · have hhead := hW (linkOf (canon y0), canon y0) (List.mem_cons_self ..)
      have hexp := ih.expands hcanon T (fun e he => hW e (List.mem_cons_of_mem _ he)) P hP hPs hPl (hPs c b hs) j
      simp only [hcanon y0] at hhead ⊢
      rw [Option.map_some] at hexp ⊢
      rw [← Nat.add_assoc, Nat.add_right_comm _ 1 j,
        expandFuel_link_some hhead, expandFuel_link_some hs, hexp]

end through

end Transform
end Ipld

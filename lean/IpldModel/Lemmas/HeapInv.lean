/-
  The heap invariant of the builder model (`HeapInv`) and its preservation by the heap-level building blocks of `hstep`,
  which are restated here under names (`hAppend`, `hSetLast`, `hFinish`, `hNewMap`, `hNewList`, `hCopy`) and tied to the
  model's text by the equations of Lemmas/HeapStep.lean.
-/
import IpldModel.Lemmas.HeapPrim
namespace Ipld
namespace Heap

def Obj.isMap : Obj → Bool
  | .map _ _ => true
  | .list _ => false

@[simp] theorem Obj.withSlice_isMap (o : Obj) (s : Slice) : (o.withSlice s).isMap = o.isMap := by
  cases o <;> rfl

theorem Obj.eq_map_of_isMap {o : Obj} (h : o.isMap = true) : ∃ t m, o = .map t m := by
  cases o with
  | map t m => exact ⟨t, m, rfl⟩
  | list x => cases h

theorem Obj.eq_list_of_not_isMap {o : Obj} (h : o.isMap = false) : ∃ x, o = .list x := by
  cases o with
  | map t m => cases h
  | list x => exact ⟨x, rfl⟩

/-- a reference that may be stored in a container: a scalar, or a finished node -/
def RefOk (fin : List Nat) : NRef → Prop
  | .scalar _ => True
  | .obj id => id ∈ fin

/-- map tables hold entries, list slices hold items -/
def CellKind : Bool → Cell → Prop
  | true, .entry _ _ => True
  | false, .item _ => True
  | _, _ => False

def CellGood (fin : List Nat) (mp : Bool) (c : Cell) : Prop :=
  CellKind mp c ∧ ∀ v, c.ref = some v → RefOk fin v

theorem RefOk.mono {fin fin' : List Nat} (hs : ∀ x ∈ fin, x ∈ fin') {v : NRef} (h : RefOk fin v) :
    RefOk fin' v := by
  cases v with
  | scalar d => trivial
  | obj id => exact hs id h

theorem CellGood.mono {fin fin' : List Nat} (hs : ∀ x ∈ fin, x ∈ fin') {mp : Bool} {c : Cell}
    (h : CellGood fin mp c) : CellGood fin' mp c :=
  ⟨h.1, fun v hv => (h.2 v hv).mono hs⟩

theorem CellGood.item {fin : List Nat} {v : NRef} (hv : RefOk fin v) : CellGood fin false (.item v) :=
  ⟨trivial, fun w hw => by cases hw; exact hv⟩

theorem CellGood.entry_none {fin : List Nat} (k : Bytes) : CellGood fin true (.entry k none) :=
  ⟨trivial, fun w hw => by cases hw⟩

theorem CellGood.entry_some {fin : List Nat} (k : Bytes) {v : NRef} (hv : RefOk fin v) :
    CellGood fin true (.entry k (some v)) :=
  ⟨trivial, fun w hw => by cases hw; exact hv⟩

/-- the cells a reader of object `id` sees -/
def cellsOf (h : H) (id : Nat) : List Cell := sliceCells h (objAt h id).slice

def gmOf (h : H) (id : Nat) : List (Bytes × NRef) :=
  match (objAt h id).gm with
  | some m => gmAt h m
  | none => []

/-- the nesting depth below object `id` is less than `n` -/
def Bounded (h : H) : Nat → Nat → Prop
  | 0, _ => False
  | n + 1, id => ∀ c ∈ cellsOf h id, ∀ id', c.ref = some (.obj id') → Bounded h n id'

theorem Bounded.mono {h : H} : ∀ {n m : Nat} {id : Nat}, n ≤ m → Bounded h n id → Bounded h m id
  | 0, _, _, _, hb => absurd hb (by simp [Bounded])
  | n + 1, 0, _, hle, _ => by omega
  | n + 1, m + 1, id, hle, hb => by
    intro c hc id' hr
    exact Bounded.mono (by omega) (hb c hc id' hr)

def Closed (h : H) (P : Nat → Prop) : Prop :=
  ∀ j, P j → ∀ c ∈ cellsOf h j, ∀ id', c.ref = some (.obj id') → P id'

/-- `Bounded` only looks at objects in a set closed under references (`hcl` is `Closed h P`) -/
theorem Bounded.transfer {h h' : H} (P : Nat → Prop)
    (hP : ∀ id, P id → cellsOf h' id = cellsOf h id)
    (hcl : ∀ id, P id → ∀ c ∈ cellsOf h id, ∀ id', c.ref = some (.obj id') → P id') :
    ∀ (n id : Nat), P id → Bounded h n id → Bounded h' n id
  | 0, _, _, hb => absurd hb (by simp [Bounded])
  | n + 1, id, hp, hb => by
    intro c hc id' hr
    rw [hP id hp] at hc
    exact Bounded.transfer P hP hcl n id' (hcl id hp c hc id' hr) (hb c hc id' hr)

structure HeapInv (h : H) : Prop where
  fin_lt : ∀ id ∈ h.finished, id < h.objs.length
  wf : ∀ id, id < h.objs.length → SliceWf h (objAt h id).slice
  gm_lt : ∀ id m, id < h.objs.length → (objAt h id).gm = some m → m < h.gomaps.length
  /-- an unfinished object owns its backing array exclusively -/
  excl_arr : ∀ i j, i < h.objs.length → j < h.objs.length → i ≠ j → i ∉ h.finished →
      (objAt h i).slice.arr ≠ (objAt h j).slice.arr
  /-- an unfinished map object owns its lookup map exclusively -/
  excl_gm : ∀ i j m, i < h.objs.length → j < h.objs.length → i ≠ j → i ∉ h.finished →
      (objAt h i).gm = some m → (objAt h j).gm ≠ some m
  cells : ∀ id, id < h.objs.length → ∀ c ∈ cellsOf h id, CellGood h.finished (objAt h id).isMap c
  gm_ok : ∀ id, id < h.objs.length → ∀ e ∈ gmOf h id, RefOk h.finished e.2
  /-- finished nodes are acyclic, of depth at most the number of finished nodes -/
  bounded : ∀ id ∈ h.finished, Bounded h h.finished.length id

/-- the finished nodes are `Closed` -/
theorem HeapInv.closed {h : H} (hi : HeapInv h) :
    ∀ id, id ∈ h.finished → ∀ c ∈ cellsOf h id, ∀ id', c.ref = some (.obj id') → id' ∈ h.finished := by
  intro id hid c hc id' hr
  exact (hi.cells id (hi.fin_lt id hid) c hc).2 _ hr

theorem heapInv_empty : HeapInv {} where
  fin_lt := by intro id h; cases h
  wf := by intro id h; simp at h
  gm_lt := by intro id m h; simp at h
  excl_arr := by intro i j h; simp at h
  excl_gm := by intro i j m h; simp at h
  cells := by intro id h; simp at h
  gm_ok := by intro id h; simp at h
  bounded := by intro id h; cases h

structure SameObj (h h' : H) (j : Nat) : Prop where
  obj : objAt h' j = objAt h j
  cells : cellsOf h' j = cellsOf h j
  gm : gmOf h' j = gmOf h j

theorem SameObj.refl (h : H) (j : Nat) : SameObj h h j := ⟨rfl, rfl, rfl⟩

theorem SameObj.trans {h h' h'' : H} {j : Nat} (a : SameObj h h' j) (b : SameObj h' h'' j) :
    SameObj h h'' j :=
  ⟨b.obj.trans a.obj, b.cells.trans a.cells, b.gm.trans a.gm⟩

/-- `h'` arises from `h` by a change confined to the (unfinished) object `id`, its array and map. -/
structure Mod (h h' : H) (id : Nat) : Prop where
  objs_len : h'.objs.length = h.objs.length
  fin : h'.finished = h.finished
  gms_len : h'.gomaps.length = h.gomaps.length
  arrs_len : h.arrs.length ≤ h'.arrs.length
  arr_len : ∀ a, a < h.arrs.length → (arrAt h' a).length = (arrAt h a).length
  other : ∀ j, j < h.objs.length → j ≠ id → SameObj h h' j
  isMap : (objAt h' id).isMap = (objAt h id).isMap
  gm : (objAt h' id).gm = (objAt h id).gm
  wf : SliceWf h' (objAt h' id).slice
  arr : (objAt h' id).slice.arr = (objAt h id).slice.arr ∨ h.arrs.length ≤ (objAt h' id).slice.arr
  cells : ∀ c ∈ cellsOf h' id, CellGood h.finished (objAt h id).isMap c
  gm_ok : ∀ e ∈ gmOf h' id, RefOk h.finished e.2

theorem Mod.heapInv {h h' : H} {id : Nat} (hi : HeapInv h) (hlt : id < h.objs.length)
    (hnf : id ∉ h.finished) (hm : Mod h h' id) : HeapInv h' where
  fin_lt := by
    intro j hj; rw [hm.fin] at hj; rw [hm.objs_len]; exact hi.fin_lt j hj
  wf := by
    intro j hj; rw [hm.objs_len] at hj
    by_cases e : j = id
    · subst e; exact hm.wf
    · rw [(hm.other j hj e).obj]
      obtain ⟨h1, h2, h3⟩ := hi.wf j hj
      exact ⟨Nat.lt_of_lt_of_le h1 hm.arrs_len, h2, by rw [hm.arr_len _ h1]; exact h3⟩
  gm_lt := by
    intro j m hj hg; rw [hm.objs_len] at hj; rw [hm.gms_len]
    by_cases e : j = id
    · subst e; rw [hm.gm] at hg; exact hi.gm_lt j m hj hg
    · rw [(hm.other j hj e).obj] at hg; exact hi.gm_lt j m hj hg
  excl_arr := by
    intro i j hil hjl hne hif
    rw [hm.objs_len] at hil hjl; rw [hm.fin] at hif
    by_cases ei : i = id
    · subst ei
      have ej : j ≠ i := fun e => hne e.symm
      rw [(hm.other j hjl ej).obj]
      rcases hm.arr with ha | ha
      · rw [ha]; exact hi.excl_arr i j hil hjl hne hif
      · have := (hi.wf j hjl).1; omega
    · rw [(hm.other i hil ei).obj]
      by_cases ej : j = id
      · subst ej
        rcases hm.arr with ha | ha
        · rw [ha]; exact hi.excl_arr i j hil hjl hne hif
        · have := (hi.wf i hil).1; omega
      · rw [(hm.other j hjl ej).obj]; exact hi.excl_arr i j hil hjl hne hif
  excl_gm := by
    intro i j m hil hjl hne hif
    rw [hm.objs_len] at hil hjl; rw [hm.fin] at hif
    have ei : objAt h' i = objAt h i ∨ (i = id) := by
      by_cases e : i = id
      · exact Or.inr e
      · exact Or.inl (hm.other i hil e).obj
    have hgi : (objAt h' i).gm = (objAt h i).gm := by
      rcases ei with e | e
      · rw [e]
      · subst e; exact hm.gm
    have hgj : (objAt h' j).gm = (objAt h j).gm := by
      by_cases e : j = id
      · subst e; exact hm.gm
      · rw [(hm.other j hjl e).obj]
    rw [hgi, hgj]; exact hi.excl_gm i j m hil hjl hne hif
  cells := by
    intro j hj c hc; rw [hm.objs_len] at hj; rw [hm.fin]
    by_cases e : j = id
    · subst e; rw [hm.isMap]; exact hm.cells c hc
    · rw [(hm.other j hj e).cells] at hc; rw [(hm.other j hj e).obj]; exact hi.cells j hj c hc
  gm_ok := by
    intro j hj e he; rw [hm.objs_len] at hj; rw [hm.fin]
    by_cases ej : j = id
    · subst ej; exact hm.gm_ok e he
    · rw [(hm.other j hj ej).gm] at he; exact hi.gm_ok j hj e he
  bounded := by
    intro j hj; rw [hm.fin] at hj ⊢
    refine Bounded.transfer (· ∈ h.finished) ?_ hi.closed _ j hj (hi.bounded j hj)
    intro k hk
    have : k ≠ id := fun e => hnf (e ▸ hk)
    exact (hm.other k (hi.fin_lt k hk) this).cells

/-- `append` on the slice of object `id`, storing the new header -/
def hAppend (h : H) (id : Nat) (c : Cell) : H :=
  setObj (appendSlice h (objAt h id).slice c).1 id
    ((objAt h id).withSlice (appendSlice h (objAt h id).slice c).2.1)

theorem objAt_hAppend_self {h : H} {id : Nat} (c : Cell) (hlt : id < h.objs.length) :
    objAt (hAppend h id c) id = (objAt h id).withSlice (appendSlice h (objAt h id).slice c).2.1 := by
  unfold hAppend
  exact objAt_setObj_self _ _ (by rw [appendSlice_objs]; exact hlt)

theorem cellsOf_hAppend_self {h : H} {id : Nat} (c : Cell) (hi : HeapInv h) (hlt : id < h.objs.length) :
    cellsOf (hAppend h id c) id = cellsOf h id ++ [c] := by
  unfold cellsOf
  rw [objAt_hAppend_self c hlt, Obj.withSlice_slice]
  exact appendSlice_cells h _ c (hi.wf id hlt)

theorem gmOf_hAppend_self {h : H} {id : Nat} (c : Cell) (hlt : id < h.objs.length) :
    gmOf (hAppend h id c) id = gmOf h id := by
  unfold gmOf; rw [objAt_hAppend_self c hlt, Obj.withSlice_gm]
  simp only [gmAt, hAppend, setObj_gomaps, appendSlice_gomaps]

theorem hAppend_mod {h : H} {id : Nat} {c : Cell} (hi : HeapInv h) (hlt : id < h.objs.length)
    (hnf : id ∉ h.finished) (hc : CellGood h.finished (objAt h id).isMap c) :
    Mod h (hAppend h id c) id where
  objs_len := by simp [hAppend, appendSlice_objs]
  fin := by simp [hAppend, appendSlice_finished]
  gms_len := by simp [hAppend, appendSlice_gomaps]
  arrs_len := by simp only [hAppend, setObj_arrs]; exact appendSlice_arrs_length _ _ _
  arr_len := by
    intro a ha; simp only [hAppend, arrAt_setObj]; exact arrAt_appendSlice_length _ _ _ ha
  other := by
    intro j hj hne
    have ho : objAt (hAppend h id c) j = objAt h j := by
      unfold hAppend; rw [objAt_setObj_ne _ _ hne]; simp only [objAt, appendSlice_objs]
    refine ⟨ho, ?_, ?_⟩
    · unfold cellsOf; rw [ho]
      simp only [sliceCells_eq, hAppend, arrAt_setObj]
      rw [arrAt_appendSlice_ne _ _ _ (hi.wf j hj).1]
      exact fun e => hi.excl_arr id j hlt hj (fun e => hne e.symm) hnf e.symm
    · unfold gmOf; rw [ho]; simp only [gmAt, hAppend, setObj_gomaps, appendSlice_gomaps]
  isMap := by rw [objAt_hAppend_self c hlt]; simp
  gm := by rw [objAt_hAppend_self c hlt]; simp
  wf := by
    rw [objAt_hAppend_self c hlt, Obj.withSlice_slice]
    have := appendSlice_wf h _ c (hi.wf id hlt)
    exact this
  arr := by
    rw [objAt_hAppend_self c hlt, Obj.withSlice_slice]
    rcases appendSlice_arr h (objAt h id).slice c with e | e
    · exact Or.inl e
    · exact Or.inr (by omega)
  cells := by
    intro c' hc'
    rw [cellsOf_hAppend_self c hi hlt, List.mem_append] at hc'
    rcases hc' with hc' | hc'
    · exact hi.cells id hlt c' hc'
    · simp at hc'; subst hc'; exact hc
  gm_ok := by
    intro e he
    rw [gmOf_hAppend_self c hlt] at he; exact hi.gm_ok id hlt e he

/-- store the value of the last entry of a map object and record it in the lookup map -/
def hSetLast (h : H) (t : Slice) (m : Nat) (k : Bytes) (v : NRef) : H :=
  gomapInsert (writeCell h t.arr (t.len - 1) (.entry k (some v))) m k v

theorem hSetLast_mod {h : H} {id : Nat} {t : Slice} {m : Nat} {k : Bytes} {v : NRef} (hi : HeapInv h)
    (hlt : id < h.objs.length) (hnf : id ∉ h.finished) (ho : objAt h id = .map t m)
    (hv : RefOk h.finished v) : Mod h (hSetLast h t m k v) id where
  objs_len := rfl
  fin := rfl
  gms_len := by simp [hSetLast]
  arrs_len := by simp [hSetLast]
  arr_len := by intro a ha; simp only [hSetLast, arrAt_gomapInsert]; exact arrAt_writeCell_length
  other := by
    intro j hj hne
    have hoj : objAt (hSetLast h t m k v) j = objAt h j := rfl
    refine ⟨hoj, ?_, ?_⟩
    · unfold cellsOf; rw [hoj]
      simp only [sliceCells_eq, hSetLast, arrAt_gomapInsert]
      rw [arrAt_writeCell_ne]
      have := hi.excl_arr id j hlt hj (fun e => hne e.symm) hnf
      rw [ho] at this
      exact fun e => this e.symm
    · unfold gmOf; rw [hoj]
      cases hg : (objAt h j).gm with
      | none => rfl
      | some m' =>
        simp only [hSetLast]
        rw [gmAt_gomapInsert_ne]; · rfl
        have := hi.excl_gm id j m hlt hj (fun e => hne e.symm) hnf (by rw [ho]; rfl)
        intro e; subst e; exact this hg
  isMap := rfl
  gm := rfl
  wf := by
    have hoj : objAt (hSetLast h t m k v) id = objAt h id := rfl
    rw [hoj]
    obtain ⟨h1, h2, h3⟩ := hi.wf id hlt
    refine ⟨by simpa [hSetLast] using h1, h2, ?_⟩
    simp only [hSetLast, arrAt_gomapInsert, arrAt_writeCell_length]; exact h3
  arr := Or.inl rfl
  cells := by
    intro c hc
    have hoj : objAt (hSetLast h t m k v) id = objAt h id := rfl
    unfold cellsOf at hc; rw [hoj, ho] at hc
    simp only [Obj.slice, sliceCells_eq, hSetLast, arrAt_gomapInsert] at hc
    rw [arrAt_writeCell] at hc
    split at hc
    · rw [setAt_eq_set, List.take_set] at hc
      rcases (List.mem_or_eq_of_mem_set hc).symm with e | hc
      · subst e; rw [ho]; exact .entry_some k hv
      · apply hi.cells id hlt c
        unfold cellsOf; rw [ho]; exact hc
    · apply hi.cells id hlt c
      unfold cellsOf; rw [ho]; exact hc
  gm_ok := by
    intro e he
    have hoj : objAt (hSetLast h t m k v) id = objAt h id := rfl
    have hold : ∀ e ∈ gmAt h m, RefOk h.finished e.2 := by
      intro e he
      apply hi.gm_ok id hlt e
      unfold gmOf; rw [ho]; exact he
    unfold gmOf at he; rw [hoj, ho] at he
    simp only [Obj.gm, hSetLast] at he
    rw [gmAt_gomapInsert] at he
    split at he
    · rcases List.mem_append.1 he with he | he
      · exact hold e (List.mem_filter.1 he).1
      · simp at he; subst he; exact hv
    · exact hold e he

def hFinish (h : H) (id : Nat) : H := { h with finished := id :: h.finished }

theorem hFinish_inv {h : H} {id : Nat} (hi : HeapInv h) (hlt : id < h.objs.length) :
    HeapInv (hFinish h id) where
  fin_lt := by
    intro j hj
    rcases List.mem_cons.1 hj with e | hj
    · subst e; exact hlt
    · exact hi.fin_lt j hj
  wf := hi.wf
  gm_lt := hi.gm_lt
  excl_arr := by
    intro i j hil hjl hne hif
    exact hi.excl_arr i j hil hjl hne (fun hh => hif (List.mem_cons_of_mem _ hh))
  excl_gm := by
    intro i j m hil hjl hne hif
    exact hi.excl_gm i j m hil hjl hne (fun hh => hif (List.mem_cons_of_mem _ hh))
  cells := by
    intro j hj c hc
    exact (hi.cells j hj c hc).mono (fun x hx => List.mem_cons_of_mem _ hx)
  gm_ok := by
    intro j hj e he
    exact (hi.gm_ok j hj e he).mono (fun x hx => List.mem_cons_of_mem _ hx)
  bounded := by
    intro j hj
    have : Bounded h (h.finished.length + 1) j := by
      rcases List.mem_cons.1 hj with e | hj
      · subst e
        intro c hc id' hr
        exact hi.bounded id' ((hi.cells j hlt c hc).2 _ hr)
      · exact (hi.bounded j hj).mono (Nat.le_succ _)
    have hcells : ∀ k, cellsOf (hFinish h id) k = cellsOf h k := fun _ => rfl
    exact Bounded.transfer (fun _ => True) (fun k _ => hcells k) (fun _ _ _ _ _ _ => trivial) _ j trivial this

def hNewMap (h : H) (cap : Nat) : H :=
  { objs := h.objs ++ [.map { arr := h.arrs.length, len := 0, cap := cap } h.gomaps.length],
    arrs := h.arrs ++ [List.replicate cap .empty],
    gomaps := h.gomaps ++ [[]],
    finished := h.finished }

def hNewList (h : H) (cap : Nat) : H :=
  { objs := h.objs ++ [.list { arr := h.arrs.length, len := 0, cap := cap }],
    arrs := h.arrs ++ [List.replicate cap .empty],
    gomaps := h.gomaps,
    finished := h.finished }

/-- `h'` extends `h` by one object; nothing that existed changes. -/
structure Ext (h h' : H) (o : Obj) : Prop where
  objs : h'.objs = h.objs ++ [o]
  arrs : ∃ x, h'.arrs = h.arrs ++ x
  gms : ∃ x, h'.gomaps = h.gomaps ++ x

theorem Ext.arrAt_old {h h' : H} {o : Obj} (e : Ext h h' o) {a : Nat} (ha : a < h.arrs.length) :
    arrAt h' a = arrAt h a := by
  obtain ⟨x, hx⟩ := e.arrs
  simp only [Heap.arrAt, hx]; exact getD_append_lt ha

theorem Ext.gmAt_old {h h' : H} {o : Obj} (e : Ext h h' o) {m : Nat} (hm : m < h.gomaps.length) :
    gmAt h' m = gmAt h m := by
  obtain ⟨x, hx⟩ := e.gms
  simp only [Heap.gmAt, hx]; exact getD_append_lt hm

theorem Ext.objAt_old {h h' : H} {o : Obj} (e : Ext h h' o) {j : Nat} (hj : j < h.objs.length) :
    objAt h' j = objAt h j := by
  simp only [Heap.objAt, e.objs]; exact getD_append_lt hj

theorem Ext.objAt_new {h h' : H} {o : Obj} (e : Ext h h' o) : objAt h' h.objs.length = o := by
  simp only [Heap.objAt, e.objs]; exact getD_append_len

theorem Ext.objs_len {h h' : H} {o : Obj} (e : Ext h h' o) : h'.objs.length = h.objs.length + 1 := by
  rw [e.objs]; simp

theorem Ext.objs_le {h h' : H} {o : Obj} (e : Ext h h' o) : h.objs.length ≤ h'.objs.length :=
  e.objs_len ▸ Nat.le_succ _

theorem Ext.arrs_len {h h' : H} {o : Obj} (e : Ext h h' o) : h.arrs.length ≤ h'.arrs.length := by
  obtain ⟨x, hx⟩ := e.arrs; rw [hx]; simp

theorem Ext.gms_len {h h' : H} {o : Obj} (e : Ext h h' o) : h.gomaps.length ≤ h'.gomaps.length := by
  obtain ⟨x, hx⟩ := e.gms; rw [hx]; simp

theorem Ext.same {h h' : H} {o : Obj} (e : Ext h h' o) (hi : HeapInv h) {j : Nat}
    (hj : j < h.objs.length) : SameObj h h' j := by
  have ho := e.objAt_old hj
  refine ⟨ho, ?_, ?_⟩
  · unfold cellsOf; rw [ho]; simp only [sliceCells_eq]; rw [e.arrAt_old (hi.wf j hj).1]
  · unfold gmOf; rw [ho]
    cases hg : (objAt h j).gm with
    | none => rfl
    | some m => exact e.gmAt_old (hi.gm_lt j m hj hg)

theorem Ext.lt_cases {h h' : H} {o : Obj} (e : Ext h h' o) {j : Nat} (hj : j < h'.objs.length) :
    j < h.objs.length ∨ j = h.objs.length := by
  rw [e.objs_len] at hj; omega

theorem Ext.cellsOf_new_nil {h h' : H} {o : Obj} (e : Ext h h' o) (hlen : o.slice.len = 0) :
    cellsOf h' h.objs.length = [] := by
  unfold cellsOf; rw [e.objAt_new, sliceCells_eq, hlen]; rfl

/-- Extending the heap by an object that is left unfinished or marked finished keeps the invariant,
    provided the new object shares neither array nor lookup map with any other object unless both are
    finished, and what it shows is well shaped and refers to finished nodes only. -/
theorem Ext.heapInv {h h' : H} {o : Obj} (e : Ext h h' o) (hi : HeapInv h)
    (hf : h'.finished = h.finished ∨ h'.finished = h.objs.length :: h.finished)
    (hwf : SliceWf h' o.slice) (hgm : ∀ m, o.gm = some m → m < h'.gomaps.length)
    (hex : ∀ j, j < h.objs.length → j ∉ h.finished ∨ h.objs.length ∉ h'.finished →
      (objAt h j).slice.arr ≠ o.slice.arr ∧ ∀ m, (objAt h j).gm = some m → o.gm ≠ some m)
    (hcells : ∀ c ∈ cellsOf h' h.objs.length, CellGood h.finished o.isMap c)
    (hgn : ∀ x ∈ gmOf h' h.objs.length, RefOk h.finished x.2) : HeapInv h' := by
  have hsub : ∀ x ∈ h.finished, x ∈ h'.finished := by
    rcases hf with hf | hf <;> rw [hf]
    · exact fun _ hx => hx
    · exact fun _ hx => List.mem_cons_of_mem _ hx
  have tr : ∀ k ∈ h.finished, Bounded h' h.finished.length k := fun k hk =>
    Bounded.transfer (· ∈ h.finished) (fun k' hk' => (e.same hi (hi.fin_lt k' hk')).cells) hi.closed _ k hk
      (hi.bounded k hk)
  exact {
    fin_lt := by
      intro j hj; rw [e.objs_len]
      rcases hf with hf | hf <;> rw [hf] at hj
      · exact Nat.lt_succ_of_lt (hi.fin_lt j hj)
      · rcases List.mem_cons.1 hj with rfl | hj
        · exact Nat.lt_succ_self _
        · exact Nat.lt_succ_of_lt (hi.fin_lt j hj)
    wf := by
      intro j hj
      rcases e.lt_cases hj with hj | rfl
      · rw [e.objAt_old hj]
        obtain ⟨h1, h2, h3⟩ := hi.wf j hj
        exact ⟨Nat.lt_of_lt_of_le h1 e.arrs_len, h2, by rw [e.arrAt_old h1]; exact h3⟩
      · rw [e.objAt_new]; exact hwf
    gm_lt := by
      intro j m hj hg
      rcases e.lt_cases hj with hj | rfl
      · rw [e.objAt_old hj] at hg; exact Nat.lt_of_lt_of_le (hi.gm_lt j m hj hg) e.gms_len
      · rw [e.objAt_new] at hg; exact hgm m hg
    excl_arr := by
      intro i j hil hjl hne hif
      have hif' : i ∉ h.finished := fun hh => hif (hsub i hh)
      rcases e.lt_cases hil with hil | rfl <;> rcases e.lt_cases hjl with hjl | rfl
      · rw [e.objAt_old hil, e.objAt_old hjl]; exact hi.excl_arr i j hil hjl hne hif'
      · rw [e.objAt_old hil, e.objAt_new]; exact (hex i hil (Or.inl hif')).1
      · rw [e.objAt_new, e.objAt_old hjl]; exact fun x => (hex j hjl (Or.inr hif)).1 x.symm
      · exact absurd rfl hne
    excl_gm := by
      intro i j m hil hjl hne hif hg
      have hif' : i ∉ h.finished := fun hh => hif (hsub i hh)
      rcases e.lt_cases hil with hil | rfl <;> rcases e.lt_cases hjl with hjl | rfl
      · rw [e.objAt_old hil] at hg; rw [e.objAt_old hjl]; exact hi.excl_gm i j m hil hjl hne hif' hg
      · rw [e.objAt_old hil] at hg; rw [e.objAt_new]; exact (hex i hil (Or.inl hif')).2 m hg
      · rw [e.objAt_new] at hg; rw [e.objAt_old hjl]
        exact fun hg' => (hex j hjl (Or.inr hif)).2 m hg' hg
      · exact absurd rfl hne
    cells := by
      intro j hj c hc
      rcases e.lt_cases hj with hj | rfl
      · rw [(e.same hi hj).cells] at hc; rw [e.objAt_old hj]; exact (hi.cells j hj c hc).mono hsub
      · rw [e.objAt_new]; exact (hcells c hc).mono hsub
    gm_ok := by
      intro j hj x hx
      rcases e.lt_cases hj with hj | rfl
      · rw [(e.same hi hj).gm] at hx; exact (hi.gm_ok j hj x hx).mono hsub
      · exact (hgn x hx).mono hsub
    bounded := by
      intro j hj
      rcases hf with hf | hf <;> rw [hf] at hj ⊢
      · exact tr j hj
      · show Bounded h' (h.finished.length + 1) j
        rcases List.mem_cons.1 hj with rfl | hj
        · intro c hc id' hr; exact tr id' ((hcells c hc).2 _ hr)
        · exact (tr j hj).mono (Nat.le_succ _) }

theorem Ext.heapInv_fresh {h h' : H} {o : Obj} (e : Ext h h' o) (hi : HeapInv h)
    (hf : h'.finished = h.finished)
    (hwf : SliceWf h' o.slice) (harr : h.arrs.length ≤ o.slice.arr) (hlen : o.slice.len = 0)
    (hgm : ∀ m, o.gm = some m → h.gomaps.length ≤ m ∧ m < h'.gomaps.length)
    (hgn : gmOf h' h.objs.length = []) : HeapInv h' := by
  refine e.heapInv hi (Or.inl hf) hwf (fun m hm => (hgm m hm).2) ?_ ?_ ?_
  · intro j hj _
    refine ⟨?_, fun m hm hm' => ?_⟩
    · have := (hi.wf j hj).1; omega
    · have := hi.gm_lt j m hj hm; have := (hgm m hm').1; omega
  · intro c hc; rw [e.cellsOf_new_nil hlen] at hc; cases hc
  · intro x hx; rw [hgn] at hx; cases hx

theorem hNewMap_ext (h : H) (cap : Nat) :
    Ext h (hNewMap h cap) (.map { arr := h.arrs.length, len := 0, cap := cap } h.gomaps.length) :=
  ⟨rfl, ⟨_, rfl⟩, ⟨_, rfl⟩⟩

theorem hNewList_ext (h : H) (cap : Nat) :
    Ext h (hNewList h cap) (.list { arr := h.arrs.length, len := 0, cap := cap }) :=
  ⟨rfl, ⟨_, rfl⟩, ⟨[], by simp [hNewList]⟩⟩

theorem gmOf_hNewMap (h : H) (cap : Nat) : gmOf (hNewMap h cap) h.objs.length = [] := by
  unfold gmOf; rw [(hNewMap_ext h cap).objAt_new]
  simp only [Obj.gm, gmAt, hNewMap]; rw [getD_append_len]

theorem gmOf_hNewList (h : H) (cap : Nat) : gmOf (hNewList h cap) h.objs.length = [] := by
  unfold gmOf; rw [(hNewList_ext h cap).objAt_new]; rfl

theorem hNewMap_inv {h : H} (cap : Nat) (hi : HeapInv h) : HeapInv (hNewMap h cap) := by
  refine (hNewMap_ext h cap).heapInv_fresh hi rfl ?_ (Nat.le_refl _) rfl ?_ (gmOf_hNewMap h cap)
  · refine ⟨by simp [hNewMap, Obj.slice], Nat.zero_le _, ?_⟩
    simp only [Obj.slice, arrAt, hNewMap]
    rw [getD_append_len]; simp
  · intro m hm; simp only [Obj.gm, Option.some.injEq] at hm; subst hm
    simp [hNewMap]

theorem hNewList_inv {h : H} (cap : Nat) (hi : HeapInv h) : HeapInv (hNewList h cap) := by
  refine (hNewList_ext h cap).heapInv_fresh hi rfl ?_ (Nat.le_refl _) rfl ?_ (gmOf_hNewList h cap)
  · refine ⟨by simp [hNewList, Obj.slice], Nat.zero_le _, ?_⟩
    simp only [Obj.slice, arrAt, hNewList]
    rw [getD_append_len]; simp
  · intro m hm; simp [Obj.gm] at hm

def hCopy (h : H) (src : Nat) : H :=
  { h with objs := h.objs ++ [objAt h src], finished := h.objs.length :: h.finished }

theorem hCopy_ext (h : H) (src : Nat) : Ext h (hCopy h src) (objAt h src) :=
  ⟨rfl, ⟨[], by simp [hCopy]⟩, ⟨[], by simp [hCopy]⟩⟩

theorem cellsOf_hCopy_new {h : H} {src : Nat} (hi : HeapInv h) (hsl : src < h.objs.length) :
    cellsOf (hCopy h src) h.objs.length = cellsOf h src := by
  have e := hCopy_ext h src
  unfold cellsOf; rw [e.objAt_new]; simp only [sliceCells_eq]; rw [e.arrAt_old (hi.wf src hsl).1]

theorem hCopy_inv {h : H} {src : Nat} (hi : HeapInv h) (hs : src ∈ h.finished) :
    HeapInv (hCopy h src) := by
  have e := hCopy_ext h src
  have hsl := hi.fin_lt src hs
  refine e.heapInv hi (Or.inr rfl) ?_ (hi.gm_lt src · hsl) ?_ ?_ ?_
  · obtain ⟨h1, h2, h3⟩ := hi.wf src hsl
    exact ⟨Nat.lt_of_lt_of_le h1 e.arrs_len, h2, by rw [e.arrAt_old h1]; exact h3⟩
  · -- the copy is finished, so only objects under construction matter: they share nothing with `src`
    intro j hj hnf
    have hjf : j ∉ h.finished := hnf.resolve_right (fun x => x (List.mem_cons_self ..))
    have hne : j ≠ src := fun x => hjf (x ▸ hs)
    exact ⟨hi.excl_arr j src hj hsl hne hjf, fun m hm => hi.excl_gm j src m hj hsl hne hjf hm⟩
  · intro c hc; rw [cellsOf_hCopy_new hi hsl] at hc; exact hi.cells src hsl c hc
  · intro x hx
    have : gmOf (hCopy h src) h.objs.length = gmOf h src := by unfold gmOf; rw [e.objAt_new]; rfl
    rw [this] at hx; exact hi.gm_ok src hsl x hx

end Heap
end Ipld

/-
  Completeness of the decoder: every byte string that denotes a value (and fits the limits) decodes
  to that value, at any depth and budget and whatever follows it in the input.
-/
import IpldModel.Lemmas.CborTok
import IpldModel.Lemmas.BytesEq
namespace Ipld
namespace Cbor
open Spec

mutual
theorem cost_nonneg : (v : DM) → 0 ≤ cost v
  | .null => Int.le_refl 0
  | .bool _ | .int _ | .float _ => Int.zero_le_ofNat 1
  | .str _ | .bytes _ => Int.natCast_nonneg _
  | .link _ => Int.add_nonneg (Int.natCast_nonneg _) (Int.zero_le_ofNat 1)
  | .list xs => Int.add_nonneg (Int.natCast_nonneg _) (costList_nonneg xs)
  | .map es => Int.add_nonneg (Int.natCast_nonneg _) (costKVs_nonneg es)
theorem costList_nonneg : (xs : DMs) → 0 ≤ costList xs
  | .nil => Int.le_refl 0
  | .cons x xs => Int.add_nonneg (Int.add_nonneg (Int.zero_le_ofNat 4) (cost_nonneg x)) (costList_nonneg xs)
theorem costKVs_nonneg : (es : DMKVs) → 0 ≤ costKVs es
  | .nil => Int.le_refl 0
  | .cons _ v es =>
    Int.add_nonneg (Int.add_nonneg (Int.add_nonneg (Int.natCast_nonneg _) (Int.zero_le_ofNat 8)) (cost_nonneg v))
      (costKVs_nonneg es)
end
mutual
/-- Recursion fuel `decItem` needs for a value: one level per nesting, one more for a link's tag. -/
def fuelNeed : DM → Nat
  | .link _ => 2
  | .list xs => fuelNeedList xs + 1
  | .map es => fuelNeedKVs es + 1
  | _ => 1
def fuelNeedList : DMs → Nat
  | .nil => 0
  | .cons x xs => max (fuelNeed x) (fuelNeedList xs)
def fuelNeedKVs : DMKVs → Nat
  | .nil => 0
  | .cons _ v es => max (fuelNeed v) (fuelNeedKVs es)
end

theorem add_max_le_iff {d a b M : Nat} : d + max a b ≤ M ↔ d + a ≤ M ∧ d + b ≤ M := by
  rw [← Nat.add_max_add_left, Nat.max_le]

theorem depth_step {d a M : Nat} (h : d + (a + 1) ≤ M) : d < M ∧ d + 1 + a ≤ M :=
  ⟨Nat.lt_of_lt_of_le (Nat.lt_add_of_pos_right (Nat.succ_pos a)) h, by rw [Nat.add_right_comm]; exact h⟩

/-- A collection of `n` entries costing `c` in all, opened with budget `B` after the entry charge `extra`: the
    head's argument is a legal length (`nextTok_list` wants it below 2^63), both charges of `decColl` go through, and
    what is left covers the entries.  `2 ^ 63` bounds the budget because Go keeps it in an `int64`. -/
theorem coll_budget {extra B c : Int} {n : Nat} (h : extra + (n + c) ≤ B) (hB : B < 2 ^ 63) (h0 : 0 ≤ extra)
    (hc : 0 ≤ c) :
    n < 2 ^ 63 ∧ extra ≤ B ∧ (n : Int) ≤ B - extra ∧ c ≤ B - extra - n ∧ B - extra - n < 2 ^ 63 ∧
      B - extra - n - c = B - extra - (n + c) := by omega

/-- An entry charge `e`, an entry costing `a` and the entries after it costing `b`, within a budget `B` below `M`:
    the charge goes through, and the budgets handed on to the entry and to the rest cover them and stay below `M`. -/
theorem entry_budget {e a b B M : Int} (h : e + a + b ≤ B) (hB : B < M) (he : 0 ≤ e) (ha : 0 ≤ a) (hb : 0 ≤ b) :
    e ≤ B ∧ e + a ≤ B ∧ a ≤ B - e ∧ B - e < M ∧ b ≤ B - e - a ∧ B - e - a < M ∧
      B - e - a - b = B - (e + a + b) := by omega

theorem fuel_succ {v : DM} {fuel : Nat} (hf : fuelNeed v ≤ fuel) : ∃ f, fuel = f + 1 :=
  Nat.exists_eq_add_one_of_ne_zero fun h => by subst h; cases v <;> exact Nat.not_succ_le_zero _ hf

mutual
theorem decItem_complete (cfg : DecCfg) : (v : DM) → ∀ (b1 r : Bytes) (fuel depth : Nat) (extra B : Int),
    Denotes v b1 → fuelNeed v ≤ fuel → depth + v.depth ≤ cfg.maxDepth → 0 ≤ extra →
    extra + cost v ≤ B → B < 2 ^ 63 → maxStr v ≤ 33554432 → (hasLink v = true → cfg.allowLinks = true) →
    decItem cfg fuel depth extra none ⟨b1 ++ r, B⟩ = .ok (v, ⟨r, B - extra - cost v⟩)
  | .null | .bool _ | .int _ | .float _ | .str _ => fun b1 r fuel depth extra B hd hf _ _ hB _ hs _ => by
    obtain ⟨f, rfl⟩ := fuel_succ hf
    rw [decItem_tok (nextTok_scalar cfg _ (by trivial) hd hs r)]
    exact finish_ok (cost_nonneg _) hB
  | .bytes s => fun b1 r fuel depth extra B hd hf _ h0 hB _ hs _ => by
    obtain ⟨f, rfl⟩ := fuel_succ hf
    obtain rfl : b1 = shortestHead 2 s.length ++ s := hd
    exact decItem_bytes hs hB
  | .link c => fun b1 r fuel depth extra B hd hf _ h0 hB _ hs hl => by
    obtain ⟨f, rfl⟩ := fuel_succ hf
    obtain ⟨f, rfl⟩ := Nat.exists_eq_add_one_of_ne_zero fun h : f = 0 => by
      subst h; exact Nat.not_succ_le_zero 0 (Nat.le_of_succ_le_succ hf)
    obtain ⟨hv, rfl⟩ := hd
    have hs : (0 :: c).length ≤ 33554432 := hs
    have hB : extra + ((0 :: c).length : Int) ≤ B := by rw [List.length_cons, Int.natCast_succ]; exact hB
    rw [List.append_assoc, decItem_tok (nextTok_tag cfg 42 (by decide) _), afterTok]
    refine (decItem_bytes (p := 0 :: c) hs hB).trans ?_
    simp [linkGate, hl rfl, hv]
    rfl
  | .list xs => fun b1 r fuel depth extra B hd hf hdep h0 hB hB63 hs hl => by
    obtain ⟨f, rfl⟩ := fuel_succ hf
    obtain ⟨body, rfl, hbody⟩ := hd
    obtain ⟨d1, d2⟩ := depth_step hdep
    obtain ⟨hn63, hextra, hn, hrest, hrest63, hsub⟩ := coll_budget hB hB63 h0 (costList_nonneg xs)
    show _ = Except.ok (DM.list xs, (⟨r, B - extra - (xs.length + costList xs)⟩ : DS))
    rw [List.append_assoc, decItem_tok (nextTok_list cfg hn63 _)]
    simp only [afterTok]
    rw [decColl_eq d1 hextra hn,
      decList_complete cfg xs body r f (depth + 1) (B - extra - xs.length) hbody (Nat.le_of_succ_le_succ hf) d2
      hrest hrest63 hs hl]
    simp only [bind, Except.bind, pure, Except.pure, DMs.ofList_toList, hsub]
  | .map es => fun b1 r fuel depth extra B hd hf hdep h0 hB hB63 hs hl => by
    obtain ⟨f, rfl⟩ := fuel_succ hf
    obtain ⟨hnd, body, rfl, hbody⟩ := hd
    obtain ⟨d1, d2⟩ := depth_step hdep
    obtain ⟨hn63, hextra, hn, hrest, hrest63, hsub⟩ := coll_budget hB hB63 h0 (costKVs_nonneg es)
    show _ = Except.ok (DM.map es, (⟨r, B - extra - (es.length + costKVs es)⟩ : DS))
    rw [List.append_assoc, decItem_tok (nextTok_map cfg hn63 _)]
    simp only [afterTok]
    rw [decColl_eq d1 hextra hn,
      decMap_complete cfg es body r f (depth + 1) (B - extra - es.length) [] hbody hnd (fun _ _ => List.not_mem_nil)
      (Nat.le_of_succ_le_succ hf) d2 hrest hrest63 hs hl]
    simp only [bind, Except.bind, pure, Except.pure, DMKVs.ofList_toList, hsub]
theorem decList_complete (cfg : DecCfg) : (xs : DMs) → ∀ (body r : Bytes) (f depth : Nat) (B : Int),
    DenotesList xs body → fuelNeedList xs ≤ f → depth + xs.depth ≤ cfg.maxDepth →
    costList xs ≤ B → B < 2 ^ 63 → maxStrList xs ≤ 33554432 → (hasLinkList xs = true → cfg.allowLinks = true) →
    decList (decItem cfg f depth 4 none) xs.length ⟨body ++ r, B⟩ = .ok (xs.toList, ⟨r, B - costList xs⟩)
  | .nil => fun body r f depth B hd _ _ _ _ _ _ => by
    obtain rfl : body = [] := hd
    exact congrArg (fun b => Except.ok (([] : List DM), (⟨r, b⟩ : DS))) (Int.sub_zero B).symm
  | .cons x xs => fun body r f depth B hd hf hdep hB hB63 hs hl => by
    obtain ⟨b1, b2, rfl, hdx, hdxs⟩ := hd
    obtain ⟨f1, f2⟩ := Nat.max_le.mp hf
    obtain ⟨d1, d2⟩ := add_max_le_iff.mp hdep
    obtain ⟨s1, s2⟩ := Nat.max_le.mp hs
    obtain ⟨_, hcx, _, _, hrest, hrest63, hsub⟩ := entry_budget hB hB63 (by decide) (cost_nonneg x) (costList_nonneg xs)
    show decList _ (xs.length + 1) _ = Except.ok (x :: xs.toList, (⟨r, B - (4 + cost x + costList xs)⟩ : DS))
    rw [decList, List.append_assoc,
      decItem_complete cfg x b1 (b2 ++ r) f depth 4 B hdx f1 d1 (by decide) hcx hB63 s1
        (fun h => hl (Bool.or_eq_true_iff.2 (Or.inl h)))]
    simp only [bind, Except.bind]
    rw [decList_complete cfg xs b2 r f depth (B - 4 - cost x) hdxs f2 d2 hrest hrest63 s2
      (fun h => hl (Bool.or_eq_true_iff.2 (Or.inr h)))]
    simp only [pure, Except.pure, hsub]
theorem decMap_complete (cfg : DecCfg) : (es : DMKVs) → ∀ (body r : Bytes) (f depth : Nat) (B : Int) (seen : List Bytes),
    DenotesKVs es body → es.keys.Nodup → (∀ k ∈ es.keys, k ∉ seen) → fuelNeedKVs es ≤ f → depth + es.depth ≤ cfg.maxDepth →
    costKVs es ≤ B → B < 2 ^ 63 → maxStrKVs es ≤ 33554432 → (hasLinkKVs es = true → cfg.allowLinks = true) →
    decMap cfg (decItem cfg f depth 0 none) es.length seen ⟨body ++ r, B⟩ = .ok (es.toList, ⟨r, B - costKVs es⟩)
  | .nil => fun body r f depth B seen hd _ _ _ _ _ _ _ _ => by
    obtain rfl : body = [] := hd
    exact congrArg (fun b => Except.ok (([] : List (Bytes × DM)), (⟨r, b⟩ : DS))) (Int.sub_zero B).symm
  | .cons k v es => fun body r f depth B seen hd hnd hseen hf hdep hB hB63 hs hl => by
    obtain ⟨b1, b2, rfl, hv, hes⟩ := hd
    rw [DMKVs.keys_cons] at hnd hseen
    rw [List.nodup_cons] at hnd
    rw [List.forall_mem_cons] at hseen
    obtain ⟨f1, f2⟩ := Nat.max_le.mp hf
    obtain ⟨d1, d2⟩ := add_max_le_iff.mp hdep
    obtain ⟨sk, hs⟩ := Nat.max_le.mp hs
    obtain ⟨s1, s2⟩ := Nat.max_le.mp hs
    obtain ⟨hcharge, _, hcv, hcv63, hrest, hrest63, hsub⟩ :=
      entry_budget hB hB63 (Int.add_nonneg (Int.natCast_nonneg _) (Int.zero_le_ofNat 8)) (cost_nonneg v) (costKVs_nonneg es)
    show decMap _ _ (es.length + 1) _ _ =
      Except.ok ((k, v) :: es.toList, (⟨r, B - (k.length + 8 + cost v + costKVs es)⟩ : DS))
    rw [decMap, List.append_assoc, decKey_complete cfg k sk]
    simp only [bind, Except.bind]
    rw [charge_ok hcharge]
    have hnc : seen.contains k = false := by rw [List.contains_eq_mem, decide_eq_false hseen.1]
    simp only [hnc, Bool.false_eq_true, if_false, List.append_assoc]
    rw [decItem_complete cfg v b1 (b2 ++ r) f depth 0 (B - (k.length + 8)) hv f1 d1 (Int.le_refl 0)
      (by rw [Int.zero_add]; exact hcv) hcv63 s1
      (fun h => hl (Bool.or_eq_true_iff.2 (Or.inl h)))]
    simp only [Int.sub_zero]
    rw [decMap_complete cfg es b2 r f depth (B - (k.length + 8) - cost v) (k :: seen) hes hnd.2
      (fun k' hk' hmem => (List.mem_cons.mp hmem).elim (fun e => hnd.1 (e ▸ hk')) (hseen.2 k' hk'))
      f2 d2 hrest hrest63 s2 (fun h => hl (Bool.or_eq_true_iff.2 (Or.inr h)))]
    simp only [pure, Except.pure, hsub]
end

theorem fuel_under_head {a h b : Nat} (hh : 1 ≤ h) (hb : a ≤ b + 1) : a + 1 ≤ h + b + 1 :=
  Nat.succ_le_succ (Nat.le_trans hb (Nat.add_comm h b ▸ Nat.add_le_add_left hh b))

theorem fuel_max {a b l₁ l₂ : Nat} (ha : a ≤ l₁ + 1) (hb : b ≤ l₂ + 1) : max a b ≤ l₁ + l₂ + 1 :=
  Nat.max_le.2 ⟨Nat.le_trans ha (Nat.succ_le_succ (Nat.le_add_right _ _)),
    Nat.le_trans hb (Nat.succ_le_succ (Nat.le_add_left _ _))⟩

mutual
theorem denotes_fuel : (v : DM) → ∀ bs, Denotes v bs → fuelNeed v ≤ bs.length + 1
  | .null | .bool _ | .int _ | .float _ | .str _ | .bytes _ => fun bs _ => Nat.le_add_left 1 bs.length
  | .link c => fun bs h => by
    simp only [Denotes] at h; obtain ⟨_, rfl⟩ := h
    exact Nat.succ_le_succ (head_append_pos ..)
  | .list xs => fun bs h => by
    simp only [Denotes] at h; obtain ⟨body, rfl, hb⟩ := h
    rw [List.length_append]
    exact fuel_under_head (shortestHead_length_pos 4 _) (denotesList_fuel xs body hb)
  | .map es => fun bs h => by
    simp only [Denotes] at h; obtain ⟨_, body, rfl, hb⟩ := h
    rw [List.length_append]
    exact fuel_under_head (shortestHead_length_pos 5 _) (denotesKVs_fuel es body hb)
theorem denotesList_fuel : (xs : DMs) → ∀ bs, DenotesList xs bs → fuelNeedList xs ≤ bs.length + 1
  | .nil => fun bs _ => Nat.zero_le _
  | .cons x xs => fun bs h => by
    simp only [DenotesList] at h; obtain ⟨b1, b2, rfl, h1, h2⟩ := h
    rw [List.length_append]
    exact fuel_max (denotes_fuel x b1 h1) (denotesList_fuel xs b2 h2)
theorem denotesKVs_fuel : (es : DMKVs) → ∀ bs, DenotesKVs es bs → fuelNeedKVs es ≤ bs.length + 1
  | .nil => fun bs _ => Nat.zero_le _
  | .cons k v es => fun bs h => by
    simp only [DenotesKVs] at h; obtain ⟨b1, b2, rfl, h1, h2⟩ := h
    rw [List.length_append, List.length_append (as := b1)]
    exact Nat.le_trans (fuel_max (denotes_fuel v b1 h1) (denotesKVs_fuel es b2 h2))
      (Nat.succ_le_succ (Nat.le_add_left _ _))
end

theorem decItem_denoted (cfg : DecCfg) (v : DM) (bs rest : Bytes) (hd : Denotes v bs) (hl : WithinLimits cfg v)
    (hB : cfg.budget < 2 ^ 63) :
    decItem cfg ((bs ++ rest).length + 1) 0 0 none ⟨bs ++ rest, cfg.budget⟩ =
      .ok (v, ⟨rest, cfg.budget - 0 - cost v⟩) := by
  obtain ⟨h1, h2, h3, h4⟩ := hl
  have hlen := denotes_fuel v bs hd
  exact decItem_complete cfg v bs rest _ 0 0 cfg.budget hd (by simp only [List.length_append]; omega)
    (by omega) (Int.le_refl 0) (by omega) hB h3 h4

theorem decode_of_denotes (cfg : DecCfg) (v : DM) (bs : Bytes) (hd : Denotes v bs)
    (hl : WithinLimits cfg v) (hB : cfg.budget < 2 ^ 63) : decode cfg bs = .ok v := by
  have := decItem_denoted cfg v bs [] hd hl hB
  rw [List.append_nil] at this
  exact decode_eq_ok.mpr ⟨_, this, fun _ => rfl⟩

end Cbor
end Ipld

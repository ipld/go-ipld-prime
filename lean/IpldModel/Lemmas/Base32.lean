/-
  Base32 (C17): a byte string is determined by its bits, a five-bit group by its value, the value by
  its character; the groups put back together are the bits and some padding.
-/
import IpldModel.Model.Store
namespace Ipld.Store

theorem bits8_length (b : UInt8) : (bits8 b).length = 8 := by simp [bits8]

theorem bitsOf_nil : bitsOf [] = [] := rfl

theorem bitsOf_cons (b : UInt8) (bs : Bytes) : bitsOf (b :: bs) = bits8 b ++ bitsOf bs := by
  simp [bitsOf]

theorem bitsOf_length (bs : Bytes) : (bitsOf bs).length = 8 * bs.length := by
  induction bs with
  | nil => rfl
  | cons b r ih => rw [bitsOf_cons, List.length_append, bits8_length, ih, List.length_cons]; omega

/-- `bits8` lists the binary digits of the byte, most significant first -/
theorem bits8_getElem? (b : UInt8) (i : Nat) (hi : i < 8) : (bits8 b)[7 - i]? = some (b.toNat.testBit i) := by
  have e : 7 - (7 - i) = i := Nat.sub_sub_self (Nat.le_of_lt_succ hi)
  rw [bits8, List.getElem?_map, List.getElem?_range (Nat.lt_succ_of_le (Nat.sub_le 7 i)), Option.map_some, e,
    Nat.testBit_eq_decide_div_mod_eq]

theorem bits8_inj {x y : UInt8} (h : bits8 x = bits8 y) : x = y := by
  apply UInt8.toNat_inj.mp
  apply Nat.eq_of_testBit_eq
  intro i
  by_cases hi : i < 8
  · have := bits8_getElem? x i hi
    rw [h, bits8_getElem? y i hi] at this
    exact (Option.some.inj this).symm
  · have hp : 2 ^ 8 ≤ 2 ^ i := Nat.pow_le_pow_right (by decide) (by omega)
    rw [Nat.testBit_lt_two_pow (Nat.lt_of_lt_of_le x.toNat_lt hp),
      Nat.testBit_lt_two_pow (Nat.lt_of_lt_of_le y.toNat_lt hp)]

theorem bitsOf_inj : ∀ {a b : Bytes}, bitsOf a = bitsOf b → a = b
  | [], [], _ => rfl
  | [], y :: ys, h => by
    have := congrArg List.length h
    simp [bitsOf_length] at this
  | x :: xs, [], h => by
    have := congrArg List.length h
    simp [bitsOf_length] at this
  | x :: xs, y :: ys, h => by
    rw [bitsOf_cons, bitsOf_cons] at h
    have := List.append_inj h (by rw [bits8_length, bits8_length])
    rw [bits8_inj this.1, bitsOf_inj this.2]

theorem chunk5_nil (fuel : Nat) : chunk5 fuel [] = [] := by
  cases fuel <;> rfl

theorem chunk5_len5 {fuel : Nat} {l : List Bool} : ∀ c ∈ chunk5 fuel l, c.length = 5 := by
  fun_induction chunk5 fuel l with
  | case1 => nofun
  | case2 => nofun
  | case3 fuel l hne c ih =>
    intro x hx
    rcases List.mem_cons.1 hx with rfl | hx
    · have : c.length ≤ 5 := List.length_take_le 5 l
      rw [List.length_append, List.length_replicate]; omega
    · exact ih x hx

theorem chunk5_length (fuel : Nat) (l : List Bool) (h : l.length ≤ fuel) : (chunk5 fuel l).length = (l.length + 4) / 5 := by
  fun_induction chunk5 fuel l with
  | case1 l => rw [List.eq_nil_of_length_eq_zero (Nat.le_zero.1 h)]; rfl
  | case2 fuel l he => rw [List.isEmpty_iff.1 he]; rfl
  | case3 fuel l hne c ih =>
    have : 0 < l.length := List.length_pos_iff.2 (by simpa using hne)
    rw [List.length_cons, ih (by rw [List.length_drop]; omega), List.length_drop]
    omega

theorem chunk5_flatten (fuel : Nat) (l : List Bool) (h : l.length ≤ fuel) :
    ∃ p, p < 5 ∧ (chunk5 fuel l).flatten = l ++ List.replicate p false := by
  fun_induction chunk5 fuel l with
  | case1 l => exact ⟨0, by decide, by rw [List.eq_nil_of_length_eq_zero (Nat.le_zero.1 h)]; rfl⟩
  | case2 fuel l he => exact ⟨0, by decide, by rw [List.isEmpty_iff.1 he]; rfl⟩
  | case3 fuel l hne c ih =>
    have hpos : 0 < l.length := List.length_pos_iff.2 (by simpa using hne)
    rw [List.flatten_cons]
    by_cases h5 : l.length ≤ 5
    · have hc : c = l := List.take_of_length_le h5
      rw [List.drop_eq_nil_of_le h5, chunk5_nil, hc]
      exact ⟨5 - l.length, by omega, List.append_nil _⟩
    · obtain ⟨p, hp, he⟩ := ih (by rw [List.length_drop]; omega)
      have hc : c.length = 5 := by rw [List.length_take]; omega
      refine ⟨p, hp, ?_⟩
      rw [he, hc, Nat.sub_self, List.replicate_zero, List.append_nil, ← List.append_assoc, List.take_append_drop]

theorem shiftBit_inj {a₁ a₂ : Nat} {b₁ b₂ : Bool}
    (h : a₁ * 2 + (if b₁ then 1 else 0) = a₂ * 2 + (if b₂ then 1 else 0)) : a₁ = a₂ ∧ b₁ = b₂ := by
  cases b₁ <;> cases b₂ <;> simp at h ⊢ <;> omega

theorem bitsToNat_foldl_inj : ∀ (l₁ l₂ : List Bool) (a₁ a₂ : Nat), l₁.length = l₂.length →
    l₁.foldl (fun acc b => acc * 2 + (if b then 1 else 0)) a₁ =
      l₂.foldl (fun acc b => acc * 2 + (if b then 1 else 0)) a₂ → a₁ = a₂ ∧ l₁ = l₂
  | [], [], _, _, _, h => ⟨h, rfl⟩
  | b₁ :: l₁, b₂ :: l₂, a₁, a₂, hl, h => by
    obtain ⟨ha, rfl⟩ := bitsToNat_foldl_inj l₁ l₂ _ _ (Nat.succ.inj hl) h
    obtain ⟨rfl, rfl⟩ := shiftBit_inj ha
    exact ⟨rfl, rfl⟩

theorem bitsToNat_inj {l₁ l₂ : List Bool} (hl : l₁.length = l₂.length) (h : bitsToNat l₁ = bitsToNat l₂) : l₁ = l₂ :=
  (bitsToNat_foldl_inj l₁ l₂ 0 0 hl h).2

theorem bitsToNat_foldl_lt : ∀ (l : List Bool) (a : Nat),
    l.foldl (fun acc b => acc * 2 + (if b then 1 else 0)) a < (a + 1) * 2 ^ l.length
  | [], a => Nat.lt_of_lt_of_eq (Nat.lt_succ_self a) (Nat.mul_one _).symm
  | b :: l, a => by
    have hb : a * 2 + (if b then 1 else 0) + 1 ≤ 2 * (a + 1) := by split <;> omega
    have := Nat.lt_of_lt_of_le (bitsToNat_foldl_lt l _) (Nat.mul_le_mul_right _ hb)
    rwa [Nat.mul_comm 2, Nat.mul_assoc, ← Nat.pow_succ'] at this

theorem bitsToNat_lt (l : List Bool) : bitsToNat l < 2 ^ l.length := by
  have := bitsToNat_foldl_lt l 0
  rwa [Nat.zero_add, Nat.one_mul] at this

theorem bitsToNat_lt32 {c : List Bool} (h : c.length = 5) : bitsToNat c < 32 := by
  have := bitsToNat_lt c
  rwa [h] at this

/-- the value a character of the alphabet stands for -/
def b32Val (c : UInt8) : Nat := if 65 ≤ c.toNat then c.toNat - 65 else c.toNat - 50 + 26

theorem b32Val_char : ∀ n, n < 32 → b32Val (b32StdChar n) = n := by decide +kernel

theorem b32StdChar_alphabet : ∀ n, n < 32 → isB32Char (b32StdChar n) = true := by decide +kernel

theorem map_char_inj : ∀ {x y : List (List Bool)}, (∀ c ∈ x, c.length = 5) → (∀ c ∈ y, c.length = 5) →
    x.map (fun c => b32StdChar (bitsToNat c)) = y.map (fun c => b32StdChar (bitsToNat c)) → x = y
  | [], [], _, _, _ => rfl
  | [], _ :: _, _, _, h => by simp at h
  | _ :: _, [], _, _, h => by simp at h
  | a :: x, b :: y, hx, hy, h => by
    simp only [List.map_cons, List.cons.injEq] at h
    have ha := hx a (List.mem_cons_self ..)
    have hb := hy b (List.mem_cons_self ..)
    have hv := congrArg b32Val h.1
    rw [b32Val_char _ (bitsToNat_lt32 ha), b32Val_char _ (bitsToNat_lt32 hb)] at hv
    rw [bitsToNat_inj (ha.trans hb.symm) hv,
      map_char_inj (fun c hc => hx c (List.mem_cons_of_mem _ hc)) (fun c hc => hy c (List.mem_cons_of_mem _ hc)) h.2]

end Ipld.Store

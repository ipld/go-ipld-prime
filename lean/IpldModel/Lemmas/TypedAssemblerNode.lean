/-
  `AssignNode` is the whole-value builder: the copy `putNode` makes into a value assembler of a plain type is accepted
  exactly when the node conforms (integers within int64) and then delivers `Schema.normalize t v`.  `Decided c r R` -
  the calls `r` end as `R` if `c`, in a refusal otherwise - is what the recursion on the node composes: a Bool condition,
  since at type level acceptance and result are two functions of the tree (Lemmas/ReprAssemblerNode.lean: `Agrees`).
-/
import IpldModel.Lemmas.TypedAssemblerInv
import IpldModel.Lemmas.SchemaType
namespace Ipld
namespace TAsm
open Ipld.Asm (Op Out ErrClass)
open Ipld.Schema (Ty Fields Field TL TLs TLKVs canonFields conforms conformsList conformsMap conformsStruct
  normalize normalizeList normalizeMap normalizeStruct)

theorem andThen_assoc (r : St × Out) (f g : St → St × Out) :
    andThen (andThen r f) g = andThen r (fun s => andThen (f s) g) := by
  obtain ⟨s, o⟩ := r
  cases o <;> rfl

theorem andThen_of_ok {r : St × Out} {s1 : St} (h : r = (s1, .ok)) (f : St → St × Out) : andThen r f = f s1 := by
  rw [h]; rfl

theorem andThen_of_err {r : St × Out} (h : ∃ s' c, r = (s', .err c)) (f : St → St × Out) :
    ∃ s' c, andThen r f = (s', .err c) := by
  obtain ⟨s', c, rfl⟩ := h
  exact ⟨s', c, rfl⟩

def okV (t : Ty) (nul : Bool) (d : DM) : Prop := (conforms t nul (TL.ofDM d) && int64s d) = true

theorem okV.conf {t : Ty} {nul : Bool} {d : DM} (h : okV t nul d) : conforms t nul (TL.ofDM d) = true := by
  unfold okV at h; simp only [Bool.and_eq_true] at h; exact h.1

theorem okV.ints {t : Ty} {nul : Bool} {d : DM} (h : okV t nul d) : int64s d = true := by
  unfold okV at h; simp only [Bool.and_eq_true] at h; exact h.2

def Decided (c : Bool) (r R : St × Out) : Prop :=
  (c = true → r = R) ∧ (c = false → ∃ s' k, r = (s', .err k))

theorem Decided.of_eq {r R : St × Out} (h : r = R) : Decided true r R := ⟨fun _ => h, nofun⟩

theorem Decided.of_err {r R : St × Out} (h : ∃ s' k, r = (s', .err k)) : Decided false r R := ⟨nofun, fun _ => h⟩

theorem Decided.andThen {a b : Bool} {r : St × Out} {f : St → St × Out} {s1 : St} {R : St × Out}
    (h1 : Decided a r (s1, .ok)) (h2 : Decided b (f s1) R) : Decided (a && b) (andThen r f) R := by
  cases a with
  | false => exact .of_err (andThen_of_err (h1.2 rfl) f)
  | true => rw [h1.1 rfl]; exact h2

theorem Decided.guard {b c : Bool} {s : St} {k : ErrClass} {r R : St × Out} (h : Decided c r R) :
    Decided (!b && c) (if b = true then (s, .err k) else r) R := by
  cases b with
  | true => exact .of_err ⟨s, k, rfl⟩
  | false => exact h

/-- `conforms… && int64s…` of a `cons`, re-associated into "this entry && the rest": the shape `Decided.andThen` composes -/
theorem and_regroup {a b c d : Bool} : ((a && b) && (c && d)) = ((a && c) && (b && d)) := by
  cases a <;> cases b <;> cases c <;> rfl

theorem and_regroup_guard {g a b c d : Bool} : ((g && a && b) && (c && d)) = (g && ((a && c) && (b && d))) := by
  cases g <;> cases a <;> cases b <;> cases c <;> rfl

theorem andThen_guard (b : Bool) (s : St) (k : ErrClass) (r : St × Out) (f : St → St × Out) :
    andThen (if b = true then (s, .err k) else r) f = if b = true then (s, .err k) else andThen r f := by
  cases b <;> rfl

theorem putNode_errAsm {e : Engine} {s : St} (hp : pos s = .errAsm) (v : DM) :
    (mach e).putNode s v = (s, .err .other) :=
  have h : ∀ op, stepPrim e s op = errPrim s op := stepPrim_at_errAsm hp
  Mach.putNode_refusing (mach e) (h _) (h _) (fun d hd => (h _).trans (by simp only [errPrim, hd, if_true])) v

theorem ofDM_ne_absent (d : DM) : TL.ofDM d ≠ .absent := Schema.ofDM_ne_absent d

theorem putNode_scalar {e : Engine} {s : St} {t : Ty} {nul : Bool} (hp : pos s = .value t nul)
    (hpl : plain t = true) {d : DM} (hs : Asm.isScalar d = true) :
    Decided (conforms t nul (TL.ofDM d) && int64s d) (stepPrim e s (.assign d))
      (deliver s (normalize t (TL.ofDM d))) := by
  rw [stepPrim_at_value hp]
  constructor
  · intro h
    simp only [valuePrim, (scalarOut_ok_iff hpl nul hs).2 h, normalize_ofDM_scalar hs]
  · intro h
    simp only [valuePrim]
    cases ho : scalarOut t nul d with
    | ok => rw [(scalarOut_ok_iff hpl nul hs).1 ho] at h; cases h
    | err c => exact ⟨s, c, rfl⟩
    | panic => exact absurd ho (scalarOut_ne_panic hs)

/-- the accepted keys of a frame, as the `seen` list of `conformsMap` / `conformsStruct` -/
def SeenIs (seen : List Bytes) (es : List (Bytes × TL)) : Prop := ∀ k, seen.contains k = hasKey es k

theorem SeenIs.nil : SeenIs [] [] := by intro k; simp [hasKey]

theorem SeenIs.snoc {seen : List Bytes} {es : List (Bytes × TL)} (h : SeenIs seen es) {k : Bytes} {v : TL} :
    SeenIs (k :: seen) (es ++ [(k, v)]) :=
  Schema.seen_append h k v

-- States are written out as `⟨T, frames, r, tt⟩` since the calls move the frames; the mark `tt` is only carried along -
-- `stepPrim` does not read it.
section
variable {e : Engine} {T : Ty} {es : List (Bytes × TL)} {rest : List Frame} {r : Option TL} {tt : Bool} {k : Bytes}
  {fs : List Field} {v : DM} {kvs : DMKVs}

theorem putList_cons {ety : Ty} {enul : Bool} {xs : List TL} {y : DM} {ys : DMs} :
    putList e ⟨T, .list ety enul xs false :: rest, r, tt⟩ (.cons y ys) =
      andThen (putNode e ⟨T, .list ety enul xs true :: rest, r, tt⟩ y) fun s2 => putList e s2 ys := by
  simp only [putList]; rfl

theorem putKVs_map_cons (he : e.keyAsmDupMapKey = false) {vty : Ty} {vnul : Bool} :
    putKVs e ⟨T, .map vty vnul es .init :: rest, r, tt⟩ (.cons k v kvs) =
      if hasKey es k = true then (⟨T, .map vty vnul es .init :: rest, r, tt⟩, .err .repeatedKey)
      else andThen (putNode e ⟨T, .map vty vnul es (.midValue k) :: rest, r, tt⟩ v) fun s4 => putKVs e s4 kvs := by
  cases hk : hasKey es k <;> simp [putKVs, stepPrim, keyPrim, supplyKey, andThen, hk, he]

theorem putKVs_struct_cons {f : Field} (hf : fieldOf fs k = some f) :
    putKVs e ⟨T, .struct fs es .init :: rest, r, tt⟩ (.cons k v kvs) =
      if hasKey es k = true then (⟨T, .struct fs es .init :: rest, r, tt⟩, .err .repeatedKey)
      else andThen (putNode e ⟨T, .struct fs es (.midValue k) :: rest, r, tt⟩ v) fun s4 => putKVs e s4 kvs := by
  cases hk : hasKey es k <;> simp [putKVs, stepPrim, keyPrim, supplyKey, andThen, hf, hk]

/-- a name that is no field is refused: at the key (`unknownAtKey`), or by the error assembler that stands for its value -/
theorem putKVs_struct_cons_unknown (hf : fieldOf fs k = none) (v : DM) (kvs : DMKVs) (g : St → St × Out) :
    ∃ s' c, andThen (putKVs e ⟨T, .struct fs es .init :: rest, r, tt⟩ (.cons k v kvs)) g = (s', .err c) := by
  rw [putKVs_eq, andThen_eq]
  refine Mach.putKVs_cons_noValue (mach e) (s1 := ⟨T, .struct fs es .midKey :: rest, r, tt⟩) rfl ?_ v kvs g
  cases hu : e.unknownAtKey with
  | true => exact .inl ⟨⟨T, .struct fs es .init :: rest, r, tt⟩, .other, by simp [stepPrim, keyPrim, supplyKey, hf, hu]⟩
  | false =>
    exact .inr ⟨⟨T, .struct fs es (.expectValue k) :: rest, r, tt⟩, ⟨T, .struct fs es (.midValue k) :: rest, r, tt⟩,
      by simp [stepPrim, keyPrim, supplyKey, hf, hu], rfl,
      fun v => ⟨_, _, putNode_errAsm (by simp only [pos, posOf, hf]) v⟩⟩

end

mutual
theorem putNode_spec {e : Engine} (he : e.keyAsmDupMapKey = false) : (v : DM) → (s : St) → (t : Ty) → (nul : Bool) →
    pos s = .value t nul → plain t = true →
    Decided (conforms t nul (TL.ofDM v) && int64s v) (putNode e s v) (deliver s (normalize t (TL.ofDM v)))
  | .list ys => fun ⟨T, fr, r, tt⟩ t nul hp hpl => by
    simp only [putNode, TL.ofDM, int64s]
    by_cases hl : ∃ ety enul, t = .list ety enul
    · obtain ⟨ety, enul, rfl⟩ := hl
      have hb : stepPrim e ⟨T, fr, r, tt⟩ (.beginList 0) = (⟨T, .list ety enul [] false :: fr, r, tt⟩, .ok) := by
        rw [stepPrim_at_value hp]; rfl
      rw [andThen_of_ok hb, ← Bool.and_true (_ && _)]
      refine Decided.andThen (putList_spec he ys T ety enul [] fr r tt hpl) (.of_eq ?_)
      simp only [stepPrim, normalize, List.nil_append, Schema.TLs.ofList_toList]
    · rw [Bool.eq_false_iff.2 fun h => hl (plain_conforms_list hpl h), Bool.false_and]
      exact .of_err (andThen_of_err ⟨_, _, (stepPrim_at_value hp _).trans (valuePrim_beginList_refused hl 0)⟩ _)
  | .map kvs => fun ⟨T, fr, r, tt⟩ t nul hp hpl => by
    simp only [putNode, TL.ofDM, int64s]
    by_cases hm : (∃ vty vnul, t = .map vty vnul) ∨ ∃ F r, t = .struct F r
    · rcases hm with ⟨vty, vnul, rfl⟩ | ⟨F, rp, rfl⟩
      · have hb : stepPrim e ⟨T, fr, r, tt⟩ (.beginMap 0) = (⟨T, .map vty vnul [] .init :: fr, r, tt⟩, .ok) := by
          rw [stepPrim_at_value hp]; rfl
        rw [andThen_of_ok hb, ← Bool.and_true (_ && _)]
        refine Decided.andThen (putKVs_map_spec he kvs T vty vnul [] [] fr r tt hpl SeenIs.nil) (.of_eq ?_)
        simp only [stepPrim, normalize, List.nil_append, Schema.TLKVs.ofList_toList]
      · have hb : stepPrim e ⟨T, fr, r, tt⟩ (.beginMap 0) = (⟨T, .struct F.toList [] .init :: fr, r, tt⟩, .ok) := by
          rw [stepPrim_at_value hp]; rfl
        rw [andThen_of_ok hb]
        exact putKVs_struct_spec he kvs T F.toList [] [] fr r tt (plainFields_mem F hpl) SeenIs.nil
    · rw [Bool.eq_false_iff.2 fun h => hm (plain_conforms_map hpl h), Bool.false_and]
      exact .of_err (andThen_of_err ⟨_, _, (stepPrim_at_value hp _).trans (valuePrim_beginMap_refused hm 0)⟩ _)
  | .null => fun _ _ _ hp hpl => putNode_scalar hp hpl rfl
  | .bool _ => fun _ _ _ hp hpl => putNode_scalar hp hpl rfl
  | .int _ => fun _ _ _ hp hpl => putNode_scalar hp hpl rfl
  | .float _ => fun _ _ _ hp hpl => putNode_scalar hp hpl rfl
  | .str _ => fun _ _ _ hp hpl => putNode_scalar hp hpl rfl
  | .bytes _ => fun _ _ _ hp hpl => putNode_scalar hp hpl rfl
  | .link _ => fun _ _ _ hp hpl => putNode_scalar hp hpl rfl
theorem putList_spec {e : Engine} (he : e.keyAsmDupMapKey = false) : (ys : DMs) → (T : Ty) → (ety : Ty) →
    (enul : Bool) → (xs : List TL) → (rest : List Frame) → (r : Option TL) → (tt : Bool) → plain ety = true →
    ((conformsList ety enul (TLs.ofDMs ys) && int64sL ys) = true →
        putList e ⟨T, .list ety enul xs false :: rest, r, tt⟩ ys =
          (⟨T, .list ety enul (xs ++ (normalizeList ety (TLs.ofDMs ys)).toList) false :: rest, r, tt⟩, .ok)) ∧
    ((conformsList ety enul (TLs.ofDMs ys) && int64sL ys) = false →
        ∃ s' c, putList e ⟨T, .list ety enul xs false :: rest, r, tt⟩ ys = (s', .err c))
  | .nil => fun T ety enul xs rest r tt _ => by
    simp only [TLs.ofDMs, normalizeList, TLs.toList, List.append_nil]
    exact Decided.of_eq rfl
  | .cons y ys => fun T ety enul xs rest r tt hpl => by
    have hy := putNode_spec he y ⟨T, .list ety enul xs true :: rest, r, tt⟩ ety enul rfl hpl
    have hys := putList_spec he ys T ety enul (xs ++ [normalize ety (TL.ofDM y)]) rest r tt hpl
    simp only [TLs.ofDMs, normalizeList, TLs.toList]
    rw [List.append_cons, show (conformsList ety enul (.cons (TL.ofDM y) (TLs.ofDMs ys)) && int64sL (.cons y ys)) = _ from
      and_regroup, putList_cons]
    exact Decided.andThen hy (by exact hys)
theorem putKVs_map_spec {e : Engine} (he : e.keyAsmDupMapKey = false) : (kvs : DMKVs) → (T : Ty) → (vty : Ty) →
    (vnul : Bool) → (es : List (Bytes × TL)) → (seen : List Bytes) → (rest : List Frame) → (r : Option TL) →
    (tt : Bool) → plain vty = true → SeenIs seen es →
    ((conformsMap vty vnul seen (TLKVs.ofDMKVs kvs) && int64sM kvs) = true →
        putKVs e ⟨T, .map vty vnul es .init :: rest, r, tt⟩ kvs =
          (⟨T, .map vty vnul (es ++ (normalizeMap vty (TLKVs.ofDMKVs kvs)).toList) .init :: rest, r, tt⟩, .ok)) ∧
    ((conformsMap vty vnul seen (TLKVs.ofDMKVs kvs) && int64sM kvs) = false →
        ∃ s' c, putKVs e ⟨T, .map vty vnul es .init :: rest, r, tt⟩ kvs = (s', .err c))
  | .nil => fun T vty vnul es seen rest r tt _ _ => by
    simp only [TLKVs.ofDMKVs, normalizeMap, TLKVs.toList, List.append_nil]
    exact Decided.of_eq rfl
  | .cons k v kvs => fun T vty vnul es seen rest r tt hpl hseen => by
    have hv := putNode_spec he v ⟨T, .map vty vnul es (.midValue k) :: rest, r, tt⟩ vty vnul rfl hpl
    have hkvs := putKVs_map_spec he kvs T vty vnul (es ++ [(k, normalize vty (TL.ofDM v))]) (k :: seen) rest r tt hpl
      hseen.snoc
    simp only [TLKVs.ofDMKVs, normalizeMap, TLKVs.toList]
    rw [List.append_cons, show (conformsMap vty vnul seen (.cons k (TL.ofDM v) (TLKVs.ofDMKVs kvs)) && int64sM (.cons k v kvs)) = _ from
      and_regroup_guard, hseen k, putKVs_map_cons he]
    refine Decided.guard (Decided.andThen hv ?_)
    exact hkvs
theorem putKVs_struct_spec {e : Engine} (he : e.keyAsmDupMapKey = false) : (kvs : DMKVs) → (T : Ty) →
    (fs : List Field) → (es : List (Bytes × TL)) → (seen : List Bytes) → (rest : List Frame) → (r : Option TL) →
    (tt : Bool) → (∀ f ∈ fs, plain f.ty = true) → SeenIs seen es →
    ((conformsStruct fs seen (TLKVs.ofDMKVs kvs) && int64sM kvs) = true →
        andThen (putKVs e ⟨T, .struct fs es .init :: rest, r, tt⟩ kvs) (fun s2 => stepPrim e s2 .finish) =
          deliver ⟨T, rest, r, tt⟩
            (.map (TLKVs.ofList (canonFields fs (es ++ (normalizeStruct fs (TLKVs.ofDMKVs kvs)).toList))))) ∧
    ((conformsStruct fs seen (TLKVs.ofDMKVs kvs) && int64sM kvs) = false →
        ∃ s' c, andThen (putKVs e ⟨T, .struct fs es .init :: rest, r, tt⟩ kvs) (fun s2 => stepPrim e s2 .finish)
          = (s', .err c))
  | .nil => fun T fs es seen rest r tt _ hseen => by
    have hall : fs.all (fun f => f.opt || seen.contains f.name) = fs.all (fun f => f.opt || hasKey es f.name) := by
      congr 1; funext f; rw [hseen]
    simp only [putKVs, andThen_ok, TLKVs.ofDMKVs, conformsStruct, int64sM, normalizeStruct, TLKVs.toList,
      List.append_nil, Bool.and_true, hall, stepPrim]
    cases fs.all (fun f => f.opt || hasKey es f.name) with
    | true => exact Decided.of_eq rfl
    | false => exact Decided.of_err ⟨_, .other, rfl⟩
  | .cons k v kvs => fun T fs es seen rest r tt hpl hseen => by
    simp only [TLKVs.ofDMKVs, Schema.conformsStruct_cons, normalizeStruct, TLKVs.toList]
    rw [List.append_cons]
    cases hf : fs.find? (fun f => f.name == k) with
    | none => exact Decided.of_err (putKVs_struct_cons_unknown hf v kvs _)
    | some f =>
      have hv := putNode_spec he v ⟨T, .struct fs es (.midValue k) :: rest, r, tt⟩ f.ty f.nullable
        (by simp only [pos, posOf, fieldOf, hf]) (hpl f (List.mem_of_find?_eq_some hf))
      have hkvs := putKVs_struct_spec he kvs T fs (es ++ [(k, normalize f.ty (TL.ofDM v))]) (k :: seen) rest r tt hpl
        hseen.snoc
      rw [show deliver ⟨T, .struct fs es (.midValue k) :: rest, r, tt⟩ (normalize f.ty (TL.ofDM v)) = _ from
        deliver_struct hf _] at hv
      simp only [Schema.fieldValOK_ofDM]
      rw [show (_ && int64sM (.cons k v kvs)) = _ from and_regroup_guard, hseen k, putKVs_struct_cons hf,
        andThen_guard, andThen_assoc]
      refine Decided.guard (Decided.andThen hv ?_)
      exact hkvs
end

theorem putKVs_struct_ok {e : Engine} (he : e.keyAsmDupMapKey = false) : (kvs : DMKVs) → (T : Ty) → (fs : List Field) →
    (es : List (Bytes × TL)) → (seen : List Bytes) → (rest : List Frame) → (r : Option TL) →
    (∀ f ∈ fs, plain f.ty = true) → SeenIs seen es →
    (conformsStruct fs seen (TLKVs.ofDMKVs kvs) && int64sM kvs) = true →
    putKVs e ⟨T, .struct fs es .init :: rest, r, false⟩ kvs =
      (⟨T, .struct fs (es ++ (normalizeStruct fs (TLKVs.ofDMKVs kvs)).toList) .init :: rest, r, false⟩, .ok) ∧
    fs.all (fun f => f.opt || hasKey (es ++ (normalizeStruct fs (TLKVs.ofDMKVs kvs)).toList) f.name) = true
  | .nil => fun T fs es seen rest r _ hseen hc => by
    have hall : fs.all (fun f => f.opt || seen.contains f.name) = fs.all (fun f => f.opt || hasKey es f.name) := by
      congr 1; funext f; rw [hseen]
    simp only [TLKVs.ofDMKVs, conformsStruct, int64sM, Bool.and_true, hall] at hc
    simp only [TLKVs.ofDMKVs, normalizeStruct, TLKVs.toList, List.append_nil]
    exact ⟨rfl, hc⟩
  | .cons k v kvs => fun T fs es seen rest r hpl hseen hc => by
    cases hf : fs.find? (fun f => f.name == k) with
    | none => simp only [TLKVs.ofDMKVs, Schema.conformsStruct_cons, hf, Bool.false_and] at hc; cases hc
    | some f =>
      simp only [TLKVs.ofDMKVs, Schema.conformsStruct_cons, int64sM, normalizeStruct, TLKVs.toList, hf,
        Schema.fieldValOK_ofDM] at hc ⊢
      rw [List.append_cons]
      rw [and_regroup_guard, hseen k, Bool.and_eq_true, Bool.and_eq_true, Bool.not_eq_true'] at hc
      obtain ⟨hk, hv, hrest⟩ := hc
      have h1 := (putNode_spec he v ⟨T, .struct fs es (.midValue k) :: rest, r, false⟩ f.ty f.nullable
        (by simp only [pos, posOf, fieldOf, hf]) (hpl f (List.mem_of_find?_eq_some hf))).1 hv
      rw [putKVs_struct_cons hf, if_neg (by rw [hk]; nofun), h1, deliver_struct hf, andThen_ok]
      exact putKVs_struct_ok he kvs T fs _ (k :: seen) rest r hpl hseen.snoc hrest

theorem step_assignNode_spec {e : Engine} (he : e.keyAsmDupMapKey = false) {s : St} {t : Ty}
    {nul : Bool} (ht : s.tainted = false) (hp : pos s = .value t nul) (hpl : plain t = true) (v : DM) :
    ((conforms t nul (TL.ofDM v) && int64s v) = true →
      step e s (.assignNode v) = ((deliver s (normalize t (TL.ofDM v))).1, .ok)) ∧
    ((conforms t nul (TL.ofDM v) && int64s v) = false →
      ∃ c, step e s (.assignNode v) = (s, .err c) ∨
        (e.anPartial = true ∧ step e s (.assignNode v) = ({ s with tainted := true }, .err c))) := by
  obtain ⟨h1, h2⟩ := putNode_spec he v s t nul hp hpl
  rw [step_eq]
  refine ⟨fun hc => Mach.step_assignNode_ok ht
    ((putNode_eq e v s).symm.trans ((h1 hc).trans (Prod.ext rfl (deliver_ok_of_pos hp)))), fun hc => ?_⟩
  obtain ⟨s', c, hpn⟩ := h2 hc
  refine ⟨c, Mach.step_assignNode_err ht ((putNode_eq e v s).symm.trans hpn) fun hr => ?_⟩
  -- a scalar refused by a value assembler leaves the state
  rw [putNode_eq, Mach.putNode_of_not_rec hr] at hpn
  exact valuePrim_err ((stepPrim_at_value hp _).symm.trans hpn)

end TAsm
end Ipld

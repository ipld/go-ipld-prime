/-
  UTF-8 facts for the JSON string codec model (DESIGN §13.3 C04): a successful `decodeRune` reads a
  well-formed sequence that `encodeRune` reproduces, and only looks at the bytes it consumes.
-/
import IpldModel.Model.JsonText
import IpldModel.Lemmas.Digits
namespace Ipld
namespace Json

theorem eq_of_toNat_eq_lit {b : UInt8} {k : Nat} (hk : k < 256) (h : b.toNat = k) : b = UInt8.ofNat k := by
  apply UInt8.toNat_inj.mp
  rw [UInt8.toNat_ofNat', h]; exact (Nat.mod_eq_of_lt hk).symm

/- A rune is written in base 64: the lead byte holds the top digit under a marker that tells the length,
   each continuation byte one further digit under the marker `0x80`. -/

theorem mod64_lt (c : Nat) : c % 64 < 64 := Nat.mod_lt c (by decide)

theorem cont_byte {c : Nat} (h : 0x80 ≤ c) (h' : c ≤ 0xBF) : 0x80 + c % 64 = c :=
  marker_add_mod 64 h (Nat.lt_succ_of_le h') rfl

theorem encodeRune_1 {r : Nat} (h : r < 0x80) : encodeRune r = [UInt8.ofNat r] := by
  unfold encodeRune
  have h1 : ¬ ((0xD800 ≤ r ∧ r ≤ 0xDFFF) ∨ r > 0x10FFFF) := by omega
  simp only [h1, if_false, h, if_true]

theorem encodeRune_2 {r : Nat} (h : 0x80 ≤ r) (h' : r < 0x800) :
    encodeRune r = [UInt8.ofNat (0xC0 + r / 64), UInt8.ofNat (0x80 + r % 64)] := by
  unfold encodeRune
  have h1 : ¬ ((0xD800 ≤ r ∧ r ≤ 0xDFFF) ∨ r > 0x10FFFF) := by omega
  have h2 : ¬ r < 0x80 := by omega
  simp only [h1, if_false, h2, h', if_true]

theorem encodeRune_3 {r : Nat} (h : 0x800 ≤ r) (h' : r < 0x10000) (hs : ¬ (0xD800 ≤ r ∧ r ≤ 0xDFFF)) :
    encodeRune r = [UInt8.ofNat (0xE0 + r / 4096), UInt8.ofNat (0x80 + r / 64 % 64), UInt8.ofNat (0x80 + r % 64)] := by
  unfold encodeRune
  have h1 : ¬ ((0xD800 ≤ r ∧ r ≤ 0xDFFF) ∨ r > 0x10FFFF) := by omega
  have h2 : ¬ r < 0x80 := by omega
  have h3 : ¬ r < 0x800 := by omega
  simp only [h1, if_false, h2, h3, h', if_true]

theorem encodeRune_4 {r : Nat} (h : 0x10000 ≤ r) (h' : r ≤ 0x10FFFF) :
    encodeRune r = [UInt8.ofNat (0xF0 + r / 262144), UInt8.ofNat (0x80 + r / 4096 % 64),
      UInt8.ofNat (0x80 + r / 64 % 64), UInt8.ofNat (0x80 + r % 64)] := by
  unfold encodeRune
  have h1 : ¬ ((0xD800 ≤ r ∧ r ≤ 0xDFFF) ∨ r > 0x10FFFF) := by omega
  have h2 : ¬ r < 0x80 := by omega
  have h3 : ¬ r < 0x800 := by omega
  have h4 : ¬ r < 0x10000 := by omega
  simp only [h1, if_false, h2, h3, h4]

theorem encodeRune_decoded2 (b0 b1 : UInt8) (h0 : 0xC2 ≤ b0.toNat) (h0' : b0.toNat < 0xE0)
    (hd : 0x80 ≤ b1.toNat ∧ b1.toNat ≤ 0xBF) :
    encodeRune ((b0.toNat % 32) * 64 + b1.toNat % 64) = [b0, b1] := by
  have e0 : 0xC0 + b0.toNat % 32 = b0.toNat :=
    marker_add_mod 32 (Nat.le_trans (by decide) h0) h0' rfl
  have e1 := cont_byte hd.1 hd.2
  have d0 := mul_add_div_of_lt (a := b0.toNat % 32) (mod64_lt b1.toNat)
  have d1 := Nat.mul_add_mod_of_lt (a := b0.toNat % 32) (mod64_lt b1.toNat)
  generalize hr : (b0.toNat % 32) * 64 + b1.toNat % 64 = r at d0 d1 ⊢
  have hrange : 0x80 ≤ r ∧ r < 0x800 := by
    clear d0 d1
    generalize b0.toNat % 32 = a at *
    generalize b1.toNat % 64 = b at *
    omega
  rw [encodeRune_2 hrange.1 hrange.2, d0, d1, e0, e1, UInt8.ofNat_toNat, UInt8.ofNat_toNat]

theorem encodeRune_decoded3 (b0 b1 b2 : UInt8) (h0 : 0xE0 ≤ b0.toNat) (h0' : b0.toNat < 0xF0)
    (hd : (if b0.toNat = 0xE0 then 0xA0 else 0x80) ≤ b1.toNat ∧
      b1.toNat ≤ (if b0.toNat = 0xED then 0x9F else 0xBF) ∧ 0x80 ≤ b2.toNat ∧ b2.toNat ≤ 0xBF) :
    encodeRune ((b0.toNat % 16) * 4096 + (b1.toNat % 64) * 64 + b2.toNat % 64) = [b0, b1, b2] := by
  obtain ⟨h1, h1', h2, h2'⟩ := hd
  have e0 : 0xE0 + b0.toNat % 16 = b0.toNat := marker_add_mod 16 h0 h0' rfl
  have u : b1.toNat ≤ 0xBF := Nat.le_trans h1' (by split <;> decide)
  have e1 := cont_byte (Nat.le_trans (by split <;> decide) h1) u
  have e2 := cont_byte h2 h2'
  -- `omega` takes an `if` for an atom: the two bounds `h1`, `h1'` give in the special cases, as implications
  have l1 : b0.toNat = 0xE0 → 0xA0 ≤ b1.toNat := fun e => by rwa [if_pos e] at h1
  have u1 : b0.toNat = 0xED → b1.toNat ≤ 0x9F := fun e => by rwa [if_pos e] at h1'
  obtain ⟨d0, d1, d2⟩ := digits3 (b0.toNat % 16) rfl (mod64_lt b1.toNat) (mod64_lt b2.toNat)
  generalize hr : (b0.toNat % 16) * 4096 + (b1.toNat % 64) * 64 + b2.toNat % 64 = r at d0 d1 d2 ⊢
  have hrange : 0x800 ≤ r ∧ r < 0x10000 ∧ ¬ (0xD800 ≤ r ∧ r ≤ 0xDFFF) := by
    clear d0 d1 d2
    generalize b0.toNat % 16 = a at *
    generalize b1.toNat % 64 = b at *
    generalize b2.toNat % 64 = c at *
    omega
  rw [encodeRune_3 hrange.1 hrange.2.1 hrange.2.2, d0, d1, d2, e0, e1, e2, UInt8.ofNat_toNat,
    UInt8.ofNat_toNat, UInt8.ofNat_toNat]

theorem encodeRune_decoded4 (b0 b1 b2 b3 : UInt8) (h0 : 0xF0 ≤ b0.toNat) (h0' : b0.toNat < 0xF5)
    (hd : (if b0.toNat = 0xF0 then 0x90 else 0x80) ≤ b1.toNat ∧
      b1.toNat ≤ (if b0.toNat = 0xF4 then 0x8F else 0xBF) ∧ 0x80 ≤ b2.toNat ∧ b2.toNat ≤ 0xBF ∧
      0x80 ≤ b3.toNat ∧ b3.toNat ≤ 0xBF) :
    encodeRune ((b0.toNat % 8) * 262144 + (b1.toNat % 64) * 4096 + (b2.toNat % 64) * 64 + b3.toNat % 64) =
      [b0, b1, b2, b3] := by
  obtain ⟨h1, h1', h2, h2', h3, h3'⟩ := hd
  have e0 : 0xF0 + b0.toNat % 8 = b0.toNat :=
    marker_add_mod 8 h0 (Nat.lt_trans h0' (by decide)) rfl
  have u : b1.toNat ≤ 0xBF := Nat.le_trans h1' (by split <;> decide)
  have e1 := cont_byte (Nat.le_trans (by split <;> decide) h1) u
  have e2 := cont_byte h2 h2'
  have e3 := cont_byte h3 h3'
  -- as in `encodeRune_decoded3`
  have l1 : b0.toNat = 0xF0 → 0x90 ≤ b1.toNat := fun e => by rwa [if_pos e] at h1
  have u1 : b0.toNat = 0xF4 → b1.toNat ≤ 0x8F := fun e => by rwa [if_pos e] at h1'
  obtain ⟨d0, d1, d2, d3⟩ := digits4 (b0.toNat % 8) rfl rfl (mod64_lt b1.toNat) (mod64_lt b2.toNat) (mod64_lt b3.toNat)
  generalize hr : (b0.toNat % 8) * 262144 + (b1.toNat % 64) * 4096 + (b2.toNat % 64) * 64 + b3.toNat % 64 = r
    at d0 d1 d2 d3 ⊢
  have hrange : 0x10000 ≤ r ∧ r ≤ 0x10FFFF := by
    clear d0 d1 d2 d3
    generalize b0.toNat % 8 = a at *
    generalize b1.toNat % 64 = b at *
    generalize b2.toNat % 64 = c at *
    generalize b3.toNat % 64 = d at *
    omega
  rw [encodeRune_4 hrange.1 hrange.2, d0, d1, d2, d3, e0, e1, e2, e3, UInt8.ofNat_toNat, UInt8.ofNat_toNat,
    UInt8.ofNat_toNat, UInt8.ofNat_toNat]

theorem decodeRune_ascii (b : UInt8) (rest : Bytes) (h : b.toNat < 0x80) :
    decodeRune (b :: rest) = (b.toNat, 1) := by
  unfold decodeRune; exact if_pos h

/-- A decode of nonempty input that is not the error result `(RuneError, 1)` consumed a well-formed
    sequence `pre`: `encodeRune` gives it back, and the decode does not depend on what follows. -/
theorem decodeRune_ok {s : Bytes} {r n : Nat} (h : decodeRune s = (r, n))
    (hne : ¬ (r = runeError ∧ n = 1)) (hs : s ≠ []) :
    ∃ pre post, s = pre ++ post ∧ pre.length = n ∧ 1 ≤ n ∧ encodeRune r = pre ∧
      ∀ t, decodeRune (pre ++ t) = (r, n) := by
  have err : (runeError, 1) ≠ (r, n) := fun e => hne ⟨(Prod.mk.inj e).1.symm, (Prod.mk.inj e).2.symm⟩
  cases s with
  | nil => exact absurd rfl hs
  | cons b0 rest =>
  unfold decodeRune at h
  dsimp only at h
  by_cases c1 : b0.toNat < 0x80
  · rw [if_pos c1] at h
    obtain ⟨rfl, rfl⟩ := Prod.mk.inj h
    refine ⟨[b0], rest, rfl, rfl, Nat.le_refl _, ?_, fun t => decodeRune_ascii b0 t c1⟩
    rw [encodeRune_1 c1, UInt8.ofNat_toNat]
  rw [if_neg c1] at h
  by_cases c2 : b0.toNat < 0xC2
  · rw [if_pos c2] at h; exact absurd h err
  rw [if_neg c2] at h
  by_cases c3 : b0.toNat < 0xE0
  · rw [if_pos c3] at h
    cases rest with
    | nil => exact absurd h err
    | cons b1 t0 =>
      dsimp only at h
      by_cases d : 0x80 ≤ b1.toNat ∧ b1.toNat ≤ 0xBF
      · rw [if_pos d] at h
        obtain ⟨hr, rfl⟩ := Prod.mk.inj h
        refine ⟨[b0, b1], t0, rfl, rfl, by decide, hr ▸ encodeRune_decoded2 b0 b1 (Nat.le_of_not_lt c2) c3 d,
          fun t => ?_⟩
        · show decodeRune (b0 :: b1 :: t) = _
          unfold decodeRune; dsimp only
          rw [if_neg c1, if_neg c2, if_pos c3, if_pos d, hr]
      · rw [if_neg d] at h; exact absurd h err
  rw [if_neg c3] at h
  by_cases c4 : b0.toNat < 0xF0
  · rw [if_pos c4] at h
    match rest, h with
    | [], h => exact absurd h err
    | [_], h => exact absurd h err
    | b1 :: b2 :: t0, h =>
      dsimp only at h
      by_cases d : (if b0.toNat = 0xE0 then 0xA0 else 0x80) ≤ b1.toNat ∧
          b1.toNat ≤ (if b0.toNat = 0xED then 0x9F else 0xBF) ∧ 0x80 ≤ b2.toNat ∧ b2.toNat ≤ 0xBF
      · rw [if_pos d] at h
        obtain ⟨hr, rfl⟩ := Prod.mk.inj h
        refine ⟨[b0, b1, b2], t0, rfl, rfl, by decide,
          hr ▸ encodeRune_decoded3 b0 b1 b2 (Nat.le_of_not_lt c3) c4 d, fun t => ?_⟩
        · show decodeRune (b0 :: b1 :: b2 :: t) = _
          unfold decodeRune; dsimp only
          rw [if_neg c1, if_neg c2, if_neg c3, if_pos c4, if_pos d, hr]
      · rw [if_neg d] at h; exact absurd h err
  rw [if_neg c4] at h
  by_cases c5 : b0.toNat < 0xF5
  · rw [if_pos c5] at h
    match rest, h with
    | [], h => exact absurd h err
    | [_], h => exact absurd h err
    | [_, _], h => exact absurd h err
    | b1 :: b2 :: b3 :: t0, h =>
      dsimp only at h
      by_cases d : (if b0.toNat = 0xF0 then 0x90 else 0x80) ≤ b1.toNat ∧
          b1.toNat ≤ (if b0.toNat = 0xF4 then 0x8F else 0xBF) ∧ 0x80 ≤ b2.toNat ∧ b2.toNat ≤ 0xBF ∧
          0x80 ≤ b3.toNat ∧ b3.toNat ≤ 0xBF
      · rw [if_pos d] at h
        obtain ⟨hr, rfl⟩ := Prod.mk.inj h
        refine ⟨[b0, b1, b2, b3], t0, rfl, rfl, by decide,
          hr ▸ encodeRune_decoded4 b0 b1 b2 b3 (Nat.le_of_not_lt c4) c5 d, fun t => ?_⟩
        · show decodeRune (b0 :: b1 :: b2 :: b3 :: t) = _
          unfold decodeRune; dsimp only
          rw [if_neg c1, if_neg c2, if_neg c3, if_neg c4, if_pos c5, if_pos d, hr]
      · rw [if_neg d] at h; exact absurd h err
  · rw [if_neg c5] at h; exact absurd h err

theorem decodeRune_take {s : Bytes} {r n : Nat} (h : decodeRune s = (r, n))
    (hne : ¬ (r = runeError ∧ n = 1)) (hs : s ≠ []) :
    1 ≤ n ∧ n ≤ s.length ∧ encodeRune r = s.take n ∧ ∀ t, decodeRune (s.take n ++ t) = (r, n) := by
  obtain ⟨pre, post, rfl, hl, h1, he, ht⟩ := decodeRune_ok h hne hs
  rw [List.take_left' hl, List.length_append, hl]
  exact ⟨h1, Nat.le_add_right _ _, he, ht⟩

theorem validUtf8_cons_err (vf : Nat) (b : UInt8) (rest : Bytes) (h : decodeRune (b :: rest) = (runeError, 1)) :
    validUtf8 (vf + 1) (b :: rest) = false := by
  simp only [validUtf8, h, and_self, if_true]

theorem validUtf8_cons_ok (vf : Nat) {b : UInt8} {rest : Bytes} {r n : Nat} (h : decodeRune (b :: rest) = (r, n))
    (hne : ¬ (r = runeError ∧ n = 1)) :
    validUtf8 (vf + 1) (b :: rest) = validUtf8 vf ((b :: rest).drop n) := by
  simp only [validUtf8, h]
  rw [if_neg hne]

theorem validUtf8_of_ascii : ∀ (s : Bytes) (vf : Nat), (∀ b ∈ s, b.toNat < 0x80) → validUtf8 vf s = true := by
  intro s
  induction s with
  | nil => intro vf _; cases vf <;> rfl
  | cons b rest ih =>
    intro vf h
    cases vf with
    | zero => rfl
    | succ vf =>
      have hb : b.toNat < 0x80 := h b List.mem_cons_self
      rw [validUtf8_cons_ok vf (decodeRune_ascii b rest hb) (fun e => absurd (e.1 ▸ hb) (by decide))]
      exact ih vf (fun x hx => h x (List.mem_cons_of_mem _ hx))

end Json
end Ipld

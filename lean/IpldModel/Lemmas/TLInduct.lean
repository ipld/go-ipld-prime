/-
  Induction over typed values for facts about a function family on `TL`, `TLs`, `TLKVs` at once: one motive per
  type; a fact about several functions on the same argument is a conjunction.
-/
import IpldModel.Model.Schema
namespace Ipld
namespace Schema

theorem TL.value_induct {P : TL → Prop} {Q : TLs → Prop} {R : TLKVs → Prop}
    (absent : P .absent) (null : P .null) (bool : ∀ b, P (.bool b)) (int : ∀ i, P (.int i))
    (float : ∀ f, P (.float f)) (str : ∀ s, P (.str s)) (bytes : ∀ b, P (.bytes b)) (link : ∀ c, P (.link c))
    (list : ∀ xs, Q xs → P (.list xs)) (map : ∀ es, R es → P (.map es))
    (nil : Q .nil) (cons : ∀ x xs, P x → Q xs → Q (.cons x xs))
    (mnil : R .nil) (mcons : ∀ k v es, P v → R es → R (.cons k v es)) :
    (∀ v, P v) ∧ (∀ xs, Q xs) ∧ (∀ es, R es) :=
  ⟨fun v => TL.rec (motive_1 := P) (motive_2 := Q) (motive_3 := R) absent null bool int float str bytes link
      list map nil cons mnil mcons v,
    fun xs => TLs.rec (motive_1 := P) (motive_2 := Q) (motive_3 := R) absent null bool int float str bytes link
      list map nil cons mnil mcons xs,
    fun es => TLKVs.rec (motive_1 := P) (motive_2 := Q) (motive_3 := R) absent null bool int float str bytes link
      list map nil cons mnil mcons es⟩

/-- With this a fact about a function on lists or entries is an ordinary induction that takes the fact about the
    elements as a hypothesis. -/
theorem TL.mem_induct {P : TL → Prop} (leaf : ∀ v, (∀ xs, v ≠ .list xs) → (∀ es, v ≠ .map es) → P v)
    (list : ∀ xs, (∀ x ∈ xs.toList, P x) → P (.list xs))
    (map : ∀ es, (∀ e ∈ es.toList, P e.2) → P (.map es)) : ∀ v, P v :=
  (TL.value_induct (P := P) (Q := fun xs => ∀ x ∈ xs.toList, P x) (R := fun es => ∀ e ∈ es.toList, P e.2)
    (leaf _ nofun nofun) (leaf _ nofun nofun) (fun _ => leaf _ nofun nofun) (fun _ => leaf _ nofun nofun)
    (fun _ => leaf _ nofun nofun) (fun _ => leaf _ nofun nofun) (fun _ => leaf _ nofun nofun)
    (fun _ => leaf _ nofun nofun) list map nofun
    (fun _ _ hx hxs => List.forall_mem_cons.2 ⟨hx, hxs⟩) nofun
    (fun _ _ _ hv hes => List.forall_mem_cons.2 ⟨hv, hes⟩)).1

theorem TL.step_induct {P : TL → Prop}
    (step : ∀ v, (∀ xs, v = .list xs → ∀ x ∈ xs.toList, P x) → (∀ es, v = .map es → ∀ e ∈ es.toList, P e.2) → P v) :
    ∀ v, P v :=
  TL.mem_induct (fun v h1 h2 => step v (fun xs h => absurd h (h1 xs)) (fun es h => absurd h (h2 es)))
    (fun _ ih => step _ (fun _ h => by cases h; exact ih) nofun)
    (fun _ ih => step _ nofun (fun _ h => by cases h; exact ih))

end Schema
end Ipld

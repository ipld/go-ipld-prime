/-
  Reading finished nodes: `absRef` and `readSet` depend only on the objects reachable from the node
  (`absRef_congr`, `readSet_congr`); every location a reader touches is part of an object it reaches (`LocOf`,
  `readSet_locs`), and none of them is part of an object under construction (`HInvO.unread`).
-/
import IpldModel.Lemmas.HeapStep
namespace Ipld
namespace Heap
open Asm

def entryVal (h : H) (F : Nat) : Cell → Option (Bytes × DM)
  | .entry k (some v) => some (k, absRef h F v)
  | _ => none

def itemVal (h : H) (F : Nat) : Cell → Option DM
  | .item v => some (absRef h F v)
  | _ => none

@[simp] theorem absRef_scalar (h : H) (F : Nat) (d : DM) : absRef h F (.scalar d) = d := by
  cases F <;> rfl

@[simp] theorem absRef_zero_obj (h : H) (id : Nat) : absRef h 0 (.obj id) = .null := rfl

theorem absRef_succ (h : H) (F id : Nat) :
    absRef h (F + 1) (.obj id) =
      if (objAt h id).isMap then .map (DMKVs.ofList ((cellsOf h id).filterMap (entryVal h F)))
      else .list (DMs.ofList ((cellsOf h id).filterMap (itemVal h F))) := by
  simp only [absRef, cellsOf]
  cases ho : objAt h id with
  | map t m =>
    unfold objAt at ho
    simp only [ho, Obj.isMap, Obj.slice, if_true]
    apply congrArg; apply congrArg; apply filterMap_congr'
    intro c _
    cases c with
    | entry k v => cases v <;> rfl
    | _ => rfl
  | list x =>
    unfold objAt at ho
    simp only [ho, Obj.isMap, Obj.slice]
    apply congrArg; apply congrArg; apply filterMap_congr'
    intro c _
    cases c <;> rfl

def entryRead (h : H) (F : Nat) : Cell → List Loc
  | .entry _ (some v) => readSet h F v
  | _ => []

def itemRead (h : H) (F : Nat) : Cell → List Loc
  | .item v => readSet h F v
  | _ => []

@[simp] theorem readSet_scalar (h : H) (F : Nat) (d : DM) : readSet h F (.scalar d) = [] := by
  cases F <;> rfl

@[simp] theorem readSet_zero_obj (h : H) (id : Nat) : readSet h 0 (.obj id) = [.objHdr id] := rfl

def ownLocs (id : Nat) : Obj → List Loc
  | .map t m => [.objHdr id, .gomap m] ++ (List.range t.len).map (fun i => Loc.arrCell t.arr i)
  | .list x => [.objHdr id] ++ (List.range x.len).map (fun i => Loc.arrCell x.arr i)

theorem readSet_succ (h : H) (F id : Nat) :
    readSet h (F + 1) (.obj id) =
      ownLocs id (objAt h id) ++
        if (objAt h id).isMap then (cellsOf h id).flatMap (entryRead h F)
        else (cellsOf h id).flatMap (itemRead h F) := by
  simp only [readSet, cellsOf]
  cases ho : objAt h id with
  | map t m =>
    unfold objAt at ho
    simp only [ho, Obj.slice, ownLocs, Obj.isMap, if_true]
    congr 1
  | list x =>
    unfold objAt at ho
    simp only [ho, Obj.slice, ownLocs, Obj.isMap]
    congr 1

theorem entryVal_congr {h h' : H} {F F' : Nat} {c : Cell}
    (hv : ∀ v, c.ref = some v → absRef h' F' v = absRef h F v) : entryVal h' F' c = entryVal h F c := by
  cases c with
  | entry k o =>
    cases o with
    | none => rfl
    | some v => simp only [entryVal, hv v rfl]
  | _ => rfl

theorem itemVal_congr {h h' : H} {F F' : Nat} {c : Cell}
    (hv : ∀ v, c.ref = some v → absRef h' F' v = absRef h F v) : itemVal h' F' c = itemVal h F c := by
  cases c with
  | item v => simp only [itemVal, hv v rfl]
  | _ => rfl

theorem absRef_succ_congr {h h' : H} {F F' j j' : Nat} (ho : (objAt h' j').isMap = (objAt h j).isMap)
    (hc : cellsOf h' j' = cellsOf h j)
    (hv : ∀ c ∈ cellsOf h j, ∀ v, c.ref = some v → absRef h' F' v = absRef h F v) :
    absRef h' (F' + 1) (.obj j') = absRef h (F + 1) (.obj j) := by
  rw [absRef_succ, absRef_succ, ho, hc, filterMap_congr' fun c hc => entryVal_congr (hv c hc),
    filterMap_congr' fun c hc => itemVal_congr (hv c hc)]

theorem absRef_congr {h h' : H} (P : Nat → Prop) (hs : ∀ j, P j → SameObj h h' j) (hcl : Closed h P) :
    ∀ (F j : Nat), P j → absRef h' F (.obj j) = absRef h F (.obj j)
  | 0, _, _ => rfl
  | F + 1, j, hp => by
    refine absRef_succ_congr (by rw [(hs j hp).obj]) (hs j hp).cells ?_
    intro c hc v hr
    cases v with
    | scalar d => rw [absRef_scalar, absRef_scalar]
    | obj id' => exact absRef_congr P hs hcl F id' (hcl j hp c hc id' hr)

theorem absRef_congr_ref {h h' : H} (P : Nat → Prop) (hs : ∀ j, P j → SameObj h h' j) (hcl : Closed h P)
    (F : Nat) (v : NRef) (hv : ∀ id, v = .obj id → P id) : absRef h' F v = absRef h F v := by
  cases v with
  | scalar d => rw [absRef_scalar, absRef_scalar]
  | obj id => exact absRef_congr P hs hcl F id (hv id rfl)

theorem entryRead_congr {h h' : H} {F : Nat} {c : Cell}
    (hv : ∀ v, c.ref = some v → readSet h' F v = readSet h F v) : entryRead h' F c = entryRead h F c := by
  cases c with
  | entry k o =>
    cases o with
    | none => rfl
    | some v => exact hv v rfl
  | _ => rfl

theorem itemRead_congr {h h' : H} {F : Nat} {c : Cell}
    (hv : ∀ v, c.ref = some v → readSet h' F v = readSet h F v) : itemRead h' F c = itemRead h F c := by
  cases c with
  | item v => exact hv v rfl
  | _ => rfl

theorem readSet_congr {h h' : H} (P : Nat → Prop) (hs : ∀ j, P j → SameObj h h' j) (hcl : Closed h P) :
    ∀ (F j : Nat), P j → readSet h' F (.obj j) = readSet h F (.obj j)
  | 0, _, _ => rfl
  | F + 1, j, hp => by
    have hv : ∀ c ∈ cellsOf h j, ∀ v, c.ref = some v → readSet h' F v = readSet h F v := by
      intro c hc v hr
      cases v with
      | scalar d => rw [readSet_scalar, readSet_scalar]
      | obj id' => exact readSet_congr P hs hcl F id' (hcl j hp c hc id' hr)
    rw [readSet_succ, readSet_succ, (hs j hp).obj, (hs j hp).cells,
      flatMap_congr' fun c hc => entryRead_congr (hv c hc), flatMap_congr' fun c hc => itemRead_congr (hv c hc)]

def LocOf (h : H) (id : Nat) : Loc → Prop
  | .objHdr i => i = id
  | .arrCell a _ => a = (objAt h id).slice.arr
  | .gomap m => (objAt h id).gm = some m

theorem ownLocs_locOf (h : H) (id : Nat) : ∀ l ∈ ownLocs id (objAt h id), LocOf h id l := by
  intro l hl
  cases ho : objAt h id with
  | map t m =>
    rw [ho] at hl
    simp only [ownLocs, List.cons_append, List.nil_append, List.mem_cons, List.mem_map, List.mem_range] at hl
    rcases hl with rfl | rfl | ⟨i, _, rfl⟩
    · rfl
    · simp [LocOf, ho, Obj.gm]
    · simp [LocOf, ho, Obj.slice]
  | list x =>
    rw [ho] at hl
    simp only [ownLocs, List.cons_append, List.nil_append, List.mem_cons, List.mem_map, List.mem_range] at hl
    rcases hl with rfl | ⟨i, _, rfl⟩
    · rfl
    · simp [LocOf, ho, Obj.slice]

theorem readSet_locs {h : H} (P : Nat → Prop) (hcl : Closed h P) :
    ∀ (F j : Nat), P j → ∀ l ∈ readSet h F (.obj j), ∃ i, P i ∧ LocOf h i l
  | 0, j, hp, l, hl => by
    simp at hl; subst hl; exact ⟨j, hp, rfl⟩
  | F + 1, j, hp, l, hl => by
    rw [readSet_succ, List.mem_append] at hl
    rcases hl with hl | hl
    · exact ⟨j, hp, ownLocs_locOf h j l hl⟩
    · have key : ∀ c ∈ cellsOf h j, ∀ v, c.ref = some v → l ∈ readSet h F v → ∃ i, P i ∧ LocOf h i l := by
        intro c hc v hr hlv
        cases v with
        | scalar d => simp at hlv
        | obj id' => exact readSet_locs P hcl F id' (hcl j hp c hc id' hr) l hlv
      split at hl
      · rw [List.mem_flatMap] at hl
        obtain ⟨c, hc, hlc⟩ := hl
        cases c with
        | entry k v =>
          cases v with
          | none => simp [entryRead] at hlc
          | some v => exact key _ hc v rfl hlc
        | _ => simp [entryRead] at hlc
      · rw [List.mem_flatMap] at hl
        obtain ⟨c, hc, hlc⟩ := hl
        cases c with
        | item v => exact key _ hc v rfl hlc
        | _ => simp [itemRead] at hlc

theorem HeapInv.loc_disjoint {h : H} (hi : HeapInv h) {i j : Nat} {l : Loc} (hil : i < h.objs.length)
    (hjl : j < h.objs.length) (hif : i ∉ h.finished) (hne : i ≠ j) (h1 : LocOf h i l) (h2 : LocOf h j l) :
    False := by
  cases l with
  | objHdr k => simp only [LocOf] at h1 h2; exact hne (h1.symm.trans h2)
  | arrCell a k => simp only [LocOf] at h1 h2; exact hi.excl_arr i j hil hjl hne hif (h1.symm.trans h2)
  | gomap m => simp only [LocOf] at h1 h2; exact hi.excl_gm i j m hil hjl hne hif h1 h2

theorem HInvO.unread {others : List Nat} {st : HSt} (hi : HInvO others st) {fid id F : Nat} {l : Loc}
    (hfid : fid ∈ frameIds st.frames) (hloc : LocOf st.h fid l) (hid : id ∈ st.h.finished) :
    l ∉ readSet st.h F (.obj id) := by
  intro hmem
  obtain ⟨i, hif, hloc'⟩ := readSet_locs (· ∈ st.h.finished) hi.heap.closed F id hid l hmem
  have hfu := hi.ids_unfin fid (List.mem_append_left _ hfid)
  exact hi.heap.loc_disjoint (hi.ids_lt fid (List.mem_append_left _ hfid)) (hi.heap.fin_lt i hif) hfu
    (fun e => hfu (e ▸ hif)) hloc hloc'

theorem hFinish_same (h : H) (id j : Nat) : SameObj h (hFinish h id) j := ⟨rfl, rfl, rfl⟩

theorem locOf_hFinish (h : H) (id j : Nat) (l : Loc) : LocOf (hFinish h id) j l ↔ LocOf h j l := by
  cases l <;> exact Iff.rfl

theorem appendTop_written (st : HSt) (id : Nat) (c : Cell) :
    ∀ l ∈ (appendSlice st.h (objAt st.h id).slice c).2.2 ++ [.objHdr id], LocOf st.h id l := by
  intro l hl
  rcases List.mem_append.1 hl with hl | hl
  · rw [appendSlice_written _ _ _ l hl]; rfl
  · rw [List.mem_singleton.1 hl]; rfl

theorem absRef_bounded {h : H} : ∀ (n id : Nat), Bounded h n id → ∀ F, n ≤ F →
    absRef h F (.obj id) = absRef h n (.obj id)
  | 0, _, hb, _, _ => absurd hb (by simp [Bounded])
  | n + 1, id, hb, F, hF => by
    obtain ⟨F', rfl⟩ : ∃ F', F = F' + 1 := ⟨F - 1, by omega⟩
    refine absRef_succ_congr rfl rfl ?_
    intro c hc v hr
    cases v with
    | scalar d => rw [absRef_scalar, absRef_scalar]
    | obj id' => exact absRef_bounded n id' (hb c hc id' hr) F' (by omega)

theorem HeapInv.absRef_fuel {h : H} (hi : HeapInv h) {v : NRef} (hv : RefOk h.finished v) {F F' : Nat}
    (h1 : h.finished.length ≤ F) (h2 : h.finished.length ≤ F') : absRef h F v = absRef h F' v := by
  cases v with
  | scalar d => simp
  | obj id =>
    rw [absRef_bounded _ id (hi.bounded id hv) F h1, absRef_bounded _ id (hi.bounded id hv) F' h2]

theorem absRef_hFinish (h : H) (id : Nat) (F : Nat) (v : NRef) :
    absRef (hFinish h id) F v = absRef h F v :=
  absRef_congr_ref (fun _ => True) (fun j _ => hFinish_same h id j) (fun _ _ _ _ _ _ => trivial) F v
    (fun _ _ => trivial)

end Heap
end Ipld

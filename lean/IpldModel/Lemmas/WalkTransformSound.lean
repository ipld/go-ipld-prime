/-
  `walkT` returns its input rewritten exactly where its log says (`Spec.Rewrites`, `walkT_sound`); what follows
  from the spec alone, by `rewrites_induct`; what both say of a whole `WalkT.run`.
-/
import IpldModel.Lemmas.WalkTransformInv
namespace Ipld
namespace WalkT
open Sel Walk Spec

/-- what `walkT_sound` shows of the walk at every fuel and, in its step, assumes of the recursive call: a successful call
    returns a node that `Spec.Rewrites` allows, and logs exactly the events of that rewriting -/
def Sound (cfg : Cfg) (fn : TFn) (rec : Path → DM → S → St → TR) : Prop :=
  ∀ {path n s st st' r}, rec path n s st = (st', .ok r) →
    ∃ evs, st'.events = evs.reverse ++ st.events ∧ Rewrites cfg fn path n r evs

theorem events_step {a b c e1 e2 : List Event} (h1 : b = e1.reverse ++ a) (h2 : c = e2.reverse ++ b) :
    c = (e1 ++ e2).reverse ++ a := by
  rw [h2, h1, List.reverse_append, List.append_assoc]

theorem rewritesCh_copy {cfg : Cfg} {fn : TFn} {path : Path} (ps : Seg) (v : DM) {rest out : List (Seg × DM)}
    {e2 : List Event} (h : RewritesCh cfg fn path rest out e2) :
    RewritesCh cfg fn path ((ps, v) :: rest) ((ps, v) :: out) e2 := by
  by_cases hl : ∃ c, v = .link c
  · obtain ⟨c, rfl⟩ := hl
    exact .kept h
  · exact .cons (e1 := []) (fun c hc => hl ⟨c, hc⟩) (.keep _ _) h

section
variable {cfg : Cfg} {fn : TFn} {rec : Path → DM → S → St → TR} (hrec : Sound cfg fn rec) {path : Path} {n : DM} {s : S}
include hrec

theorem tChild_sound {attn : Option (List Seg)} {ps : Seg} {v : DM} {st st' : St} {v' : DM}
    (h : tChild cfg rec path n s attn ps v st = (st', .ok v')) :
    ∃ evs, st'.events = evs.reverse ++ st.events ∧
      ∀ {rest out e2}, RewritesCh cfg fn path rest out e2 →
        RewritesCh cfg fn path ((ps, v) :: rest) ((ps, v') :: out) (evs ++ e2) := by
  rcases tChild_cases cfg rec path n s attn ps v st with h' | ⟨e, _, h'⟩ | ⟨sNext, c, rfl, h'⟩ | ⟨sNext, hnl, h'⟩
  · cases h'.symm.trans h
    exact ⟨[], rfl, fun h => rewritesCh_copy ps v h⟩
  · cases h'.symm.trans h
  · rw [h'] at h
    have hsome := @linkStep_some cfg c st
    have hnone := @linkStep_none cfg c st
    generalize linkStep cfg c st = ls at h hsome hnone
    obtain ⟨st1, e | _ | blk⟩ := ls
    · cases h
    · cases h
      rcases hnone rfl with h1 | ⟨h1, h2⟩
      · exact ⟨[], congrArg St.events h1, fun h => .kept h⟩
      · exact ⟨[.load c], h1, fun h => .skipped h2 h⟩
    · obtain ⟨h1, h2, h3⟩ := hsome rfl
      obtain ⟨e1, he1, hr⟩ := hrec h
      exact ⟨.load c :: e1, events_step (e1 := [.load c]) h3 he1, fun h => .inlined h2 h1 hr h⟩
  · rw [h'] at h
    obtain ⟨e1, he1, hr⟩ := hrec h
    exact ⟨e1, he1, fun h => .cons hnl hr h⟩

theorem iterate_sound {attn : Option (List Seg)} {l : List (Seg × DM)} :
    ∀ {st st' : St} {out : List (Seg × DM)}, iterate (tChild cfg rec path n s attn) l st = (st', .ok out) →
      ∃ evs, st'.events = evs.reverse ++ st.events ∧ RewritesCh cfg fn path l out evs := by
  induction l with
  | nil =>
    intro st st' out h
    cases h
    exact ⟨[], rfl, .nil _⟩
  | cons x rest ih =>
    intro st st' out h
    rw [iterate_cons] at h
    obtain ⟨st1, v', h1, h⟩ := bindT_ok h
    obtain ⟨out2, h2, rfl⟩ := mapT_ok h
    obtain ⟨e1, he1, hc⟩ := tChild_sound hrec h1
    obtain ⟨e2, he2, hr⟩ := ih h2
    exact ⟨e1 ++ e2, events_step he1 he2, hc hr⟩

theorem descend_sound {st st' : St} {r : DM} (h : descend cfg rec path n s st = (st', .ok r)) :
    ∃ evs, st'.events = evs.reverse ++ st.events ∧
      ((r = n ∧ evs = []) ∨
        ∃ out, isRecursive n = true ∧ RewritesCh cfg fn path (children n) out evs ∧ r = rebuild n out) := by
  unfold descend at h
  split at h
  · rename_i hr
    rw [iterateNode_eq] at h
    obtain ⟨out, h1, rfl⟩ := mapT_ok h
    obtain ⟨evs, he, hc⟩ := iterate_sound hrec h1
    exact ⟨evs, he, Or.inr ⟨out, hr, hc, rfl⟩⟩
  · cases h
    exact ⟨[], rfl, Or.inl ⟨rfl, rfl⟩⟩

end

theorem walkT_sound (cfg : Cfg) (fn : TFn) (fuel : Nat) : Sound cfg fn (walkT cfg fn fuel) := by
  induction fuel with
  | zero => intro path n s st st' r h; cases h
  | succ fuel ih =>
    intro path n s st st' r h
    rw [walkT_succ] at h
    cases hck : checkNode st with
    | error e => rw [hck] at h; cases h
    | ok st1 =>
      rw [hck] at h
      have he1 := checkNode_events hck
      simp only at h
      rcases tBody_cases cfg fn (walkT cfg fn fuel) path n s st1 with h' | ⟨d, hfn, h'⟩ | h' | ⟨hfn, h'⟩ | h'
      · cases h'.symm.trans h
      · cases h'.symm.trans h
        exact ⟨[callEvent path n], congrArg (callEvent path n :: ·) he1, .replaced hfn⟩
      · cases h'.symm.trans h
      · obtain ⟨evs, he, hd⟩ := descend_sound ih (h'.symm.trans h)
        refine ⟨callEvent path n :: evs,
          events_step (e1 := [callEvent path n]) (congrArg (callEvent path n :: ·) he1) he, ?_⟩
        rcases hd with ⟨rfl, rfl⟩ | ⟨out, hr, hc, rfl⟩
        · exact .calledKeep hfn
        · exact .calledRebuilt hfn hr hc
      · obtain ⟨evs, he, hd⟩ := descend_sound ih (h'.symm.trans h)
        refine ⟨evs, he.trans (congrArg (evs.reverse ++ ·) he1), ?_⟩
        rcases hd with ⟨rfl, rfl⟩ | ⟨out, hr, hc, rfl⟩
        · exact .keep _ _
        · exact .rebuilt hr hc

/-- Simultaneous induction over a rewriting and the rewriting of a container's entries; the cases do not see the
    sub-derivations.  (A property of the entries alone goes by
    `induction h using RewritesCh.rec (motive_1 := fun _ _ _ _ _ => True)`.) -/
theorem rewrites_induct {cfg : Cfg} {fn : TFn} {M : Path → DM → DM → List Event → Prop}
    {Mc : Path → List (Seg × DM) → List (Seg × DM) → List Event → Prop}
    (keep : ∀ path n, M path n n [])
    (replaced : ∀ {path n d}, fn path n = .replace d → M path n d [callEvent path n])
    (calledKeep : ∀ {path n}, fn path n = .same → M path n n [callEvent path n])
    (rebuilt : ∀ {path n out evs}, isRecursive n = true → Mc path (children n) out evs →
      M path n (rebuild n out) evs)
    (calledRebuilt : ∀ {path n out evs}, fn path n = .same → isRecursive n = true → Mc path (children n) out evs →
      M path n (rebuild n out) (callEvent path n :: evs))
    (nil : ∀ path, Mc path [] [] [])
    (cons : ∀ {path ps v v' rest out e1 e2}, (∀ c, v ≠ .link c) → M (path ++ [ps]) v v' e1 → Mc path rest out e2 →
      Mc path ((ps, v) :: rest) ((ps, v') :: out) (e1 ++ e2))
    (kept : ∀ {path ps c rest out e2}, Mc path rest out e2 →
      Mc path ((ps, .link c) :: rest) ((ps, .link c) :: out) e2)
    (skipped : ∀ {path ps c rest out e2}, cfg.skip.contains c = true → Mc path rest out e2 →
      Mc path ((ps, .link c) :: rest) ((ps, .link c) :: out) (.load c :: e2))
    (inlined : ∀ {path ps c blk v' rest out e1 e2}, cfg.skip.contains c = false → storeGet cfg.store c = some blk →
      M (path ++ [ps]) blk v' e1 → Mc path rest out e2 →
      Mc path ((ps, .link c) :: rest) ((ps, v') :: out) (.load c :: (e1 ++ e2))) :
    (∀ {path n r evs}, Rewrites cfg fn path n r evs → M path n r evs) ∧
    (∀ {path l out evs}, RewritesCh cfg fn path l out evs → Mc path l out evs) :=
  ⟨fun h => h.rec (motive_1 := fun p n r e _ => M p n r e) (motive_2 := fun p l o e _ => Mc p l o e)
      keep replaced calledKeep (fun hr _ => rebuilt hr) (fun hf hr _ => calledRebuilt hf hr) nil
      (fun hnl _ _ => cons hnl) (fun _ => kept) (fun hk _ => skipped hk) (fun hk hs _ _ => inlined hk hs),
    fun h => h.rec (motive_1 := fun p n r e _ => M p n r e) (motive_2 := fun p l o e _ => Mc p l o e)
      keep replaced calledKeep (fun hr _ => rebuilt hr) (fun hf hr _ => calledRebuilt hf hr) nil
      (fun hnl _ _ => cons hnl) (fun _ => kept) (fun hk _ => skipped hk) (fun hk hs _ _ => inlined hk hs)⟩

theorem rewrites_identity_both {cfg : Cfg} {fn : TFn} (hfn : ∀ p d e, fn p d ≠ .replace e) :
    (∀ {path : Path} {n r : DM} {evs : List Event}, Rewrites cfg fn path n r evs →
      (∀ c, Event.load c ∈ evs → cfg.skip.contains c = true) → r = n) ∧
    (∀ {path : Path} {l out : List (Seg × DM)} {evs : List Event}, RewritesCh cfg fn path l out evs →
      (∀ c, Event.load c ∈ evs → cfg.skip.contains c = true) → out = l) :=
  rewrites_induct
    (keep := fun _ _ _ => rfl)
    (replaced := fun h _ => absurd h (hfn _ _ _))
    (calledKeep := fun _ _ => rfl)
    (rebuilt := fun hr ih hl => by rw [ih hl, rebuild_children hr])
    (calledRebuilt := fun _ hr ih hl => by
      rw [ih fun c hc => hl c (List.mem_cons_of_mem _ hc), rebuild_children hr])
    (nil := fun _ _ => rfl)
    (cons := fun _ ih1 ih2 hl => by
      rw [ih1 fun c hc => hl c (List.mem_append_left _ hc), ih2 fun c hc => hl c (List.mem_append_right _ hc)])
    (kept := fun ih hl => by rw [ih hl])
    (skipped := fun _ ih hl => by rw [ih fun c hc => hl c (List.mem_cons_of_mem _ hc)])
    -- a block was loaded: its request is in the log, for a link that is not skipped
    (inlined := fun hk _ _ _ hl => by rw [hl _ (List.mem_cons_self ..)] at hk; cases hk)

theorem rewritesCh_identity {cfg : Cfg} {fn : TFn} (hfn : ∀ p d e, fn p d ≠ .replace e) :
    ∀ {path : Path} {l out : List (Seg × DM)} {evs : List Event}, RewritesCh cfg fn path l out evs →
      (∀ c, Event.load c ∈ evs → cfg.skip.contains c = true) → out = l :=
  (rewrites_identity_both hfn).2

theorem rewrites_events {cfg : Cfg} {fn : TFn} {Pos : Path → DM → Prop} {Ent : Path → Seg × DM → Prop}
    (inh : Inherits cfg Pos Ent) {A : Event → Prop} (call : ∀ {p m}, Pos p m → A (callEvent p m))
    (load : ∀ {p ps c}, Ent p (ps, .link c) → A (.load c)) :
    (∀ {path : Path} {n r : DM} {evs : List Event}, Rewrites cfg fn path n r evs → Pos path n → ∀ e ∈ evs, A e) ∧
    (∀ {path : Path} {l out : List (Seg × DM)} {evs : List Event}, RewritesCh cfg fn path l out evs →
      (∀ x ∈ l, Ent path x) → ∀ e ∈ evs, A e) :=
  rewrites_induct
    (keep := fun _ _ _ _ he => nomatch he)
    (replaced := fun _ hp => List.forall_mem_singleton.2 (call hp))
    (calledKeep := fun _ hp => List.forall_mem_singleton.2 (call hp))
    (rebuilt := fun _ ih hp => ih fun _ hx => inh.entry hp hx)
    (calledRebuilt := fun _ _ ih hp => List.forall_mem_cons.2 ⟨call hp, ih fun _ hx => inh.entry hp hx⟩)
    (nil := fun _ _ _ he => nomatch he)
    (cons := fun hnl ih1 ih2 hl => List.forall_mem_append.2
      ⟨ih1 (inh.child (hl _ (List.mem_cons_self ..)) hnl), ih2 fun x hx => hl x (List.mem_cons_of_mem _ hx)⟩)
    (kept := fun ih hl => ih fun x hx => hl x (List.mem_cons_of_mem _ hx))
    (skipped := fun _ ih hl => List.forall_mem_cons.2
      ⟨load (hl _ (List.mem_cons_self ..)), ih fun x hx => hl x (List.mem_cons_of_mem _ hx)⟩)
    (inlined := fun hk hs ih1 ih2 hl => List.forall_mem_cons.2 ⟨load (hl _ (List.mem_cons_self ..)),
      List.forall_mem_append.2
        ⟨ih1 (inh.link (hl _ (List.mem_cons_self ..)) hs hk), ih2 fun x hx => hl x (List.mem_cons_of_mem _ hx)⟩⟩)

theorem rewritesCh_calls_resolve {cfg : Cfg} {fn : TFn} (F : Nat) (root : DM) (hstore : StoreOk cfg.store) :
    ∀ {path : Path} {l out : List (Seg × DM)} {evs : List Event}, RewritesCh cfg fn path l out evs →
      ∀ {n : DM}, n.NoDup → get cfg.store (F + 2) root path = .ok n → (∀ x ∈ l, x ∈ children n) →
      ∀ p m rs, Event.visit p m rs ∈ evs → rs = .matched ∧ get cfg.store (F + 2) root p = .ok m :=
  fun h _ hn hg hl _ _ _ he =>
    (rewrites_events (getsTo_inherits cfg F root hstore) callResolves_call
      (fun _ => callResolves_load)).2 h (fun x hx => ⟨_, ⟨hg, hn⟩, hl x hx⟩) _ he

theorem linkFree_inherits (cfg : Cfg) :
    Inherits cfg (fun _ n => hasLink n = false) (fun _ x => hasLink x.2 = false) where
  entry hp hx := (linkFree_hereditary hp).children hx
  child h _ := h
  link h := nomatch h

theorem rewrites_linkFree_both {cfg : Cfg} {fn : TFn} :
    (∀ {path : Path} {n r : DM} {evs : List Event}, Rewrites cfg fn path n r evs → hasLink n = false →
      ∀ e ∈ evs, ∀ c, e ≠ .load c) ∧
    (∀ {path : Path} {l out : List (Seg × DM)} {evs : List Event}, RewritesCh cfg fn path l out evs →
      (∀ x ∈ l, hasLink x.2 = false) → ∀ e ∈ evs, ∀ c, e ≠ .load c) :=
  rewrites_events (linkFree_inherits cfg) (fun _ _ he => nomatch he) (fun h => nomatch h)

theorem rewritesCh_linkFree {cfg : Cfg} {fn : TFn} :
    ∀ {path : Path} {l out : List (Seg × DM)} {evs : List Event}, RewritesCh cfg fn path l out evs →
      (∀ x ∈ l, hasLink x.2 = false) → ∀ c, Event.load c ∉ evs :=
  fun h hl c hm => rewrites_linkFree_both.2 h hl _ hm c rfl

theorem run_rewrites {cfg : Cfg} {fn : TFn} {fuel : Nat} {nb lb : Option Int} {root : DM} {s : S} {r : DM}
    (h : (run cfg fn fuel nb lb root s).outcome = .ok r) :
    Rewrites cfg fn [] root r (run cfg fn fuel nb lb root s).events := by
  obtain ⟨evs, he, hr⟩ := walkT_sound cfg fn fuel (Prod.ext rfl h)
  show Rewrites cfg fn [] root r (List.reverse _)
  rw [he]
  show Rewrites cfg fn [] root r (evs.reverse ++ []).reverse
  rwa [List.append_nil, List.reverse_reverse]

theorem run_calls_resolve (cfg : Cfg) (fn : TFn) (F : Nat) (root : DM) (hroot : root.NoDup)
    (hstore : StoreOk cfg.store) (fuel : Nat) (nb lb : Option Int) (s : S) (r : DM)
    (h : (run cfg fn fuel nb lb root s).outcome = .ok r) (p : Path) (m : DM)
    (hc : (p, m) ∈ callsOf (run cfg fn fuel nb lb root s).events) :
    get cfg.store (F + 2) root p = .ok m :=
  run_calls_resolve_anyOutcome hroot hstore hc

end WalkT
end Ipld

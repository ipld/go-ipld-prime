/-
  Several builders on one heap (`Conc`, `cstep`, `crun`).  A call of one thread is a step of that thread's builder seen
  alone (`thSt`) and leaves every object it does not have under construction as it was (`cstep_frame`); the lifted
  invariant, the ownership of written locations and the comparison with a run alone rest on that.  `crun_finished`,
  `crun_frozen`, `crun_written_shared` repeat `hrun_…` of Lemmas/HeapLocal.lean: `crun` logs writes with their thread.
-/
import IpldModel.Lemmas.HeapRefine
namespace Ipld
namespace Heap
open Asm

def allIds (ths : List Thread) : List Nat := ths.flatMap fun th => frameIds th.frames

def othersOf (ths : List Thread) (tid : Nat) : List Nat :=
  allIds (ths.take tid) ++ allIds (ths.drop (tid + 1))

/-- thread `th` seen as a single builder on heap `h` -/
def thSt (h : H) (th : Thread) : HSt := { h := h, frames := th.frames, root := th.root, written := [] }

theorem allIds_setAt {ths : List Thread} {tid : Nat} {th : Thread} (th' : Thread) (h : ths[tid]? = some th) :
    (allIds (setAt ths tid th')).Perm (frameIds th'.frames ++ othersOf ths tid) := by
  rw [setAt_split th' h]
  simp only [allIds, othersOf, List.flatMap_append, List.flatMap_cons]
  exact List.perm_append_comm_assoc _ _ _

theorem mem_allIds_of_mem {ths : List Thread} {th : Thread} {id : Nat} (h : th ∈ ths)
    (hid : id ∈ frameIds th.frames) : id ∈ allIds ths :=
  List.mem_flatMap.2 ⟨th, h, hid⟩

theorem mem_othersOf {ths : List Thread} {tid tid' : Nat} {th' : Thread} {id : Nat} (hne : tid' ≠ tid)
    (h : ths[tid']? = some th') (hid : id ∈ frameIds th'.frames) : id ∈ othersOf ths tid := by
  rcases Nat.lt_or_gt_of_ne hne with hlt | hgt
  · refine List.mem_append_left _ (mem_allIds_of_mem (th := th') ?_ hid)
    exact List.mem_of_getElem? (i := tid') (by rw [List.getElem?_take, if_pos hlt]; exact h)
  · refine List.mem_append_right _ (mem_allIds_of_mem (th := th') ?_ hid)
    refine List.mem_of_getElem? (i := tid' - (tid + 1)) ?_
    rw [List.getElem?_drop, Nat.add_sub_cancel' hgt]; exact h

theorem getElem?_setAt_threads {ths : List Thread} {tid tid' : Nat} {th th' th'' : Thread}
    (h : ths[tid]? = some th) (h' : (setAt ths tid th')[tid']? = some th'') :
    (tid' = tid ∧ th'' = th') ∨ (tid' ≠ tid ∧ ths[tid']? = some th'') := by
  rw [getElem?_setAt] at h'
  split at h'
  · next hh => exact .inl ⟨hh.1, (Option.some.inj h').symm⟩
  · next hh => exact .inr ⟨fun e => hh ⟨e, lt_of_getElem?_some h⟩, h'⟩

structure CInv (c : Conc) : Prop where
  heap : HeapInv c.h
  ids_lt : ∀ id ∈ allIds c.threads, id < c.h.objs.length
  ids_unfin : ∀ id ∈ allIds c.threads, id ∉ c.h.finished
  ids_nodup : (allIds c.threads).Nodup
  kinds : ∀ th ∈ c.threads, ∀ p ∈ th.frames.map HFrame.key, (objAt c.h p.1).isMap = p.2
  roots : ∀ th ∈ c.threads, ∀ v, th.root = some v → RefOk c.h.finished v

theorem CInv.thread {c : Conc} (hc : CInv c) {tid : Nat} {th : Thread} (h : c.threads[tid]? = some th) :
    HInvO (othersOf c.threads tid) (thSt c.h th) := by
  have hp := allIds_setAt th h
  -- setting thread `tid` to what it is already leaves the threads as they are
  rw [setAt_split th h, ← split_at h] at hp
  exact {
    heap := hc.heap
    ids_lt := fun id hid => hc.ids_lt id (hp.mem_iff.2 hid)
    ids_unfin := fun id hid => hc.ids_unfin id (hp.mem_iff.2 hid)
    ids_nodup := hp.nodup_iff.1 hc.ids_nodup
    kinds := hc.kinds th (List.mem_of_getElem? h)
    root := hc.roots th (List.mem_of_getElem? h) }

theorem cstep_none {c : Conc} {tid : Nat} {op : HOp} (h : c.threads[tid]? = none) : cstep c tid op = c := by
  simp [cstep, h]

theorem cstep_some {c : Conc} {tid : Nat} {th : Thread} {op : HOp} (h : c.threads[tid]? = some th) :
    cstep c tid op =
      { h := (hstep (thSt c.h th) op).h,
        threads := setAt c.threads tid { frames := (hstep (thSt c.h th) op).frames, root := (hstep (thSt c.h th) op).root },
        written := (hstep (thSt c.h th) op).written.map (fun l => (tid, l)) ++ c.written } := by
  simp [cstep, h, thSt]

theorem cstep_frame {c : Conc} (hc : CInv c) {tid : Nat} {op : HOp} (hw : OpWf { h := c.h } op) {j : Nat}
    (hj : j < c.h.objs.length) (hn : ∀ th, c.threads[tid]? = some th → j ∉ frameIds th.frames) :
    SameObj c.h (cstep c tid op).h j := by
  cases hth : c.threads[tid]? with
  | none => rw [cstep_none hth]; exact .refl _ _
  | some th => rw [cstep_some hth]; exact (hstep_local (hc.thread hth) hw).same j hj (hn th hth)

theorem cstep_other {c : Conc} (hc : CInv c) (tid : Nat) {op : HOp} (hw : OpWf { h := c.h } op) :
    ∀ t th, t ≠ tid → c.threads[t]? = some th → ∀ id ∈ frameIds th.frames,
      id < c.h.objs.length ∧ SameObj c.h (cstep c tid op).h id := by
  intro t th hne ht id hid
  have hlt := hc.ids_lt id (mem_allIds_of_mem (List.mem_of_getElem? ht) hid)
  exact ⟨hlt, cstep_frame hc hw hlt fun _ hth hin =>
    (List.nodup_append.1 (hc.thread hth).ids_nodup).2.2 id hin id (mem_othersOf hne ht hid) rfl⟩

theorem cstep_finished (c : Conc) (tid : Nat) (op : HOp) :
    ∃ l, (cstep c tid op).h.finished = l ++ c.h.finished ∧ l.length ≤ 1 := by
  cases hth : c.threads[tid]? with
  | none => rw [cstep_none hth]; exact ⟨[], rfl, Nat.zero_le _⟩
  | some th => rw [cstep_some hth]; exact (hstep_footprint (thSt c.h th) op).fin

theorem cstep_frozen {c : Conc} (hc : CInv c) {tid : Nat} {op : HOp} (hw : OpWf { h := c.h } op) :
    Frozen c.h (cstep c tid op).h := by
  cases hth : c.threads[tid]? with
  | none => rw [cstep_none hth]; exact .refl _
  | some th => rw [cstep_some hth]; exact hstep_frozen (hc.thread hth) hw

theorem CInv.step {c : Conc} (hc : CInv c) {tid : Nat} {op : HOp} (hw : OpWf { h := c.h } op) :
    CInv (cstep c tid op) := by
  cases hth : c.threads[tid]? with
  | none => rw [cstep_none hth]; exact hc
  | some th =>
    have hso := cstep_other hc tid hw
    have hmono := (cstep_frozen hc (tid := tid) hw).fin
    rw [cstep_some hth] at hso hmono ⊢
    have hi' := (hstep_local (hc.thread hth) hw).inv
    generalize hstep (thSt c.h th) op = st' at hi' hso hmono
    have hp := allIds_setAt { frames := st'.frames, root := st'.root } hth
    exact {
      heap := hi'.heap
      ids_lt := fun id hid => hi'.ids_lt id (hp.mem_iff.1 hid)
      ids_unfin := fun id hid => hi'.ids_unfin id (hp.mem_iff.1 hid)
      ids_nodup := hp.nodup_iff.2 hi'.ids_nodup
      -- a thread of the new state is the stepping thread, or an old thread whose objects are untouched
      kinds := by
        intro th'' hm p hp
        obtain ⟨i, hget⟩ := List.mem_iff_getElem?.1 hm
        rcases getElem?_setAt_threads hth hget with ⟨_, rfl⟩ | ⟨hne, hold⟩
        · exact hi'.kinds p hp
        · obtain ⟨f, hf, rfl⟩ := List.mem_map.1 hp
          show (objAt st'.h f.id).isMap = _
          rw [(hso i th'' hne hold f.id (List.mem_map.2 ⟨f, hf, rfl⟩)).2.obj]
          exact hc.kinds th'' (List.mem_of_getElem? hold) _ hp
      roots := by
        intro th'' hm v hv
        obtain ⟨i, hget⟩ := List.mem_iff_getElem?.1 hm
        rcases getElem?_setAt_threads hth hget with ⟨_, rfl⟩ | ⟨_, hold⟩
        · exact hi'.root v hv
        · exact (hc.roots th'' (List.mem_of_getElem? hold) v hv).mono hmono }

def SchedWf : Conc → List (Nat × HOp) → Prop
  | _, [] => True
  | c, (tid, op) :: rest => OpWf { h := c.h } op ∧ SchedWf (cstep c tid op) rest

theorem crun_finished (c : Conc) (sched : List (Nat × HOp)) :
    ∃ l, (crun c sched).h.finished = l ++ c.h.finished ∧ l.length ≤ sched.length := by
  induction sched generalizing c with
  | nil => exact ⟨[], rfl, Nat.le_refl _⟩
  | cons e rest ih =>
    obtain ⟨tid, op⟩ := e
    obtain ⟨l1, e1, h1⟩ := cstep_finished c tid op
    obtain ⟨l2, e2, h2⟩ := ih (cstep c tid op)
    exact ⟨l2 ++ l1, by rw [crun, e2, e1, List.append_assoc],
      by rw [List.length_append]; exact Nat.add_le_add h2 h1⟩

theorem crun_finished_mono {c : Conc} {sched : List (Nat × HOp)} {j : Nat} (hj : j ∈ c.h.finished) :
    j ∈ (crun c sched).h.finished := by
  obtain ⟨l, e, _⟩ := crun_finished c sched
  rw [e]; exact List.mem_append_right _ hj

theorem crun_frozen {c : Conc} {sched : List (Nat × HOp)} (hc : CInv c) (hw : SchedWf c sched) :
    Frozen c.h (crun c sched).h := by
  induction sched generalizing c with
  | nil => exact .refl _
  | cons e rest ih => exact (cstep_frozen hc hw.1).trans (ih (hc.step hw.1) hw.2)

theorem cstep_written (c : Conc) (tid : Nat) (op : HOp) :
    ∃ w : List Loc, (cstep c tid op).written = w.map (fun l => (tid, l)) ++ c.written ∧
      ∀ l ∈ w, ∃ th, c.threads[tid]? = some th ∧ ∃ id ∈ frameIds th.frames, LocOf c.h id l := by
  cases hth : c.threads[tid]? with
  | none => rw [cstep_none hth]; exact ⟨[], rfl, by intro l hl; cases hl⟩
  | some th =>
    rw [cstep_some hth]
    obtain ⟨w, h1, h2⟩ := (hstep_footprint (thSt c.h th) op).log
    exact ⟨w, by rw [h1, show (thSt c.h th).written = [] from rfl, List.append_nil],
      fun l hl => ⟨th, rfl, h2 l hl⟩⟩

/-- no call of any thread writes a location that a reader of a shared finished node touches -/
theorem crun_written_shared {c : Conc} {sched : List (Nat × HOp)} (hc : CInv c) (hw : SchedWf c sched) :
    ∃ w, (crun c sched).written = w ++ c.written ∧
      ∀ e ∈ w, ∀ id ∈ c.h.finished, ∀ F, e.2 ∉ readSet c.h F (.obj id) := by
  induction sched generalizing c with
  | nil => exact ⟨[], rfl, by intro l hl; cases hl⟩
  | cons e rest ih =>
    obtain ⟨tid, op⟩ := e
    obtain ⟨w1, e1, f1⟩ := cstep_written c tid op
    obtain ⟨w2, e2, f2⟩ := ih (hc.step hw.1) hw.2
    refine ⟨w2 ++ w1.map (fun l => (tid, l)), by simp only [crun, e2, e1, List.append_assoc], ?_⟩
    intro x hx id hid F hmem
    rcases List.mem_append.1 hx with hx | hx
    · have hf := cstep_frozen hc (tid := tid) hw.1
      exact f2 x hx id (hf.fin id hid) F (hf.readSet hc.heap hid F ▸ hmem)
    · obtain ⟨l, hl, rfl⟩ := List.mem_map.1 hx
      obtain ⟨th, hth, fid, hfid, hloc⟩ := f1 l hl
      exact (hc.thread hth).unread hfid hloc hid hmem

/-- the thread that allocated an object / array / lookup map -/
structure Owner where
  o : Nat → Nat
  a : Nat → Nat
  g : Nat → Nat

/-- the start of the run: the sizes of the initial heap -/
structure Start where
  n : Nat
  a : Nat
  g : Nat

/-- object `id`, its array and its lookup map were allocated after the start by thread `t` -/
def OwnedObj (h : H) (s0 : Start) (ow : Owner) (t id : Nat) : Prop :=
  s0.n ≤ id ∧ ow.o id = t ∧ s0.a ≤ (objAt h id).slice.arr ∧ ow.a (objAt h id).slice.arr = t ∧
    ∀ m, (objAt h id).gm = some m → s0.g ≤ m ∧ ow.g m = t

def OwnedLoc (h : H) (s0 : Start) (ow : Owner) (t : Nat) : Loc → Prop
  | .objHdr i => s0.n ≤ i ∧ i < h.objs.length ∧ ow.o i = t
  | .arrCell a _ => s0.a ≤ a ∧ a < h.arrs.length ∧ ow.a a = t
  | .gomap m => s0.g ≤ m ∧ m < h.gomaps.length ∧ ow.g m = t

structure Own (c : Conc) (s0 : Start) (w : List (Nat × Loc)) (ow : Owner) : Prop where
  start : s0.n ≤ c.h.objs.length ∧ s0.a ≤ c.h.arrs.length ∧ s0.g ≤ c.h.gomaps.length
  frames : ∀ tid th, c.threads[tid]? = some th → ∀ id ∈ frameIds th.frames, OwnedObj c.h s0 ow tid id
  writes : ∀ e ∈ w, OwnedLoc c.h s0 ow e.1 e.2

theorem own_init (c : Conc) (hf : ∀ th ∈ c.threads, th.frames = []) :
    Own c ⟨c.h.objs.length, c.h.arrs.length, c.h.gomaps.length⟩ [] ⟨fun _ => 0, fun _ => 0, fun _ => 0⟩ where
  start := ⟨Nat.le_refl _, Nat.le_refl _, Nat.le_refl _⟩
  frames tid th hth id hid := by rw [hf th (List.mem_of_getElem? hth)] at hid; cases hid
  writes _ he := nomatch he

def Owner.grow (ow : Owner) (h : H) (tid : Nat) : Owner :=
  { o := fun i => if h.objs.length ≤ i then tid else ow.o i,
    a := fun i => if h.arrs.length ≤ i then tid else ow.a i,
    g := fun i => if h.gomaps.length ≤ i then tid else ow.g i }

theorem OwnedLoc.grow {h h' : H} {s0 : Start} {ow : Owner} {t : Nat} {l : Loc} (tid : Nat)
    (hg : Grows h h') (ho : OwnedLoc h s0 ow t l) : OwnedLoc h' s0 (ow.grow h tid) t l := by
  cases l <;> refine ⟨ho.1, Nat.lt_of_lt_of_le ho.2.1 ?_, (if_neg (Nat.not_le.2 ho.2.1)).trans ho.2.2⟩
  case objHdr => exact hg.objs
  case arrCell => exact hg.arrs
  case gomap => exact hg.gms

theorem OwnedObj.loc {h : H} {s0 : Start} {ow : Owner} {t id : Nat} {l : Loc} (hi : HeapInv h)
    (hlt : id < h.objs.length) (ho : OwnedObj h s0 ow t id) (hl : LocOf h id l) : OwnedLoc h s0 ow t l := by
  obtain ⟨h1, h2, h3, h4, h5⟩ := ho
  cases l with
  | objHdr i => cases hl; exact ⟨h1, hlt, h2⟩
  | arrCell a k => cases hl; exact ⟨h3, (hi.wf id hlt).1, h4⟩
  | gomap m => exact ⟨(h5 m hl).1, hi.gm_lt id m hlt hl, (h5 m hl).2⟩

/-- an owned object stays owned while it evolves; if it moves to a fresh array, that array goes to
    the stepping thread `tid`, which must then be the owner -/
theorem OwnedObj.evolves {h h' : H} {s0 : Start} {ow : Owner} {t tid id : Nat} (hi : HeapInv h)
    (hlt : id < h.objs.length) (hs : s0.a ≤ h.arrs.length) (ho : OwnedObj h s0 ow t id)
    (he : ObjEvolves h h' id) (ht : h.arrs.length ≤ (objAt h' id).slice.arr → t = tid) :
    OwnedObj h' s0 (ow.grow h tid) t id := by
  obtain ⟨h1, h2, h3, h4, h5⟩ := ho
  obtain ⟨harr, hgm⟩ := he
  refine ⟨h1, (if_neg (Nat.not_le.2 hlt)).trans h2, ?_, ?_, ?_⟩
  · rcases harr with e | e
    · rw [e]; exact h3
    · exact Nat.le_trans hs e
  · by_cases e : h.arrs.length ≤ (objAt h' id).slice.arr
    · exact (if_pos e).trans (ht e).symm
    · rcases harr with e' | e'
      · rw [e']; exact (if_neg (Nat.not_le.2 (hi.wf id hlt).1)).trans h4
      · exact absurd e' e
  · intro m hm; rw [hgm] at hm
    exact ⟨(h5 m hm).1, (if_neg (Nat.not_le.2 (hi.gm_lt id m hlt hm))).trans (h5 m hm).2⟩

theorem Own.step {c : Conc} {s0 : Start} {w : List (Nat × Loc)} {ow : Owner} (ho : Own c s0 w ow)
    (hc : CInv c) {tid : Nat} {op : HOp} (hw : OpWf { h := c.h } op) :
    ∃ w1 ow', (cstep c tid op).written = w1 ++ c.written ∧ Own (cstep c tid op) s0 (w1 ++ w) ow' := by
  cases hth : c.threads[tid]? with
  | none => rw [cstep_none hth]; exact ⟨[], ow, rfl, ho⟩
  | some th =>
    obtain ⟨wl, hwl, hlocs⟩ := cstep_written c tid op
    have hso := cstep_other hc tid hw
    rw [cstep_some hth] at hwl hso ⊢
    have hi := hc.thread hth
    obtain ⟨hg, hev⟩ := (hstep_local hi hw).evolves
    generalize hstep (thSt c.h th) op = st' at hwl hg hev hso ⊢
    refine ⟨wl.map (fun l => (tid, l)), ow.grow c.h tid, hwl, ?_⟩
    exact {
      start := ⟨Nat.le_trans ho.start.1 hg.objs, Nat.le_trans ho.start.2.1 hg.arrs,
        Nat.le_trans ho.start.2.2 hg.gms⟩
      frames := by
        intro tid' th'' hth'' id hid
        rcases getElem?_setAt_threads hth hth'' with ⟨rfl, rfl⟩ | ⟨hne, hold⟩
        · rcases hev id hid with ⟨hin, he⟩ | hf
          · exact (ho.frames tid' th hth id hin).evolves hc.heap
              (hi.ids_lt id (List.mem_append_left _ hin)) ho.start.2.1 he (fun _ => rfl)
          · exact ⟨Nat.le_trans ho.start.1 hf.1, if_pos hf.1, Nat.le_trans ho.start.2.1 hf.2.1, if_pos hf.2.1,
              fun m hm => ⟨Nat.le_trans ho.start.2.2 (hf.2.2 m hm), if_pos (hf.2.2 m hm)⟩⟩
        · -- another thread: its objects are untouched, so none moves to a new array
          obtain ⟨hlt, hso⟩ := hso tid' th'' hne hold id hid
          refine (ho.frames tid' th'' hold id hid).evolves hc.heap hlt ho.start.2.1 (.of_obj hso.obj)
            fun hge => ?_
          rw [hso.obj] at hge; exact absurd (hc.heap.wf id hlt).1 (Nat.not_lt.2 hge)
      writes := by
        intro e he
        rcases List.mem_append.1 he with he | he
        · obtain ⟨l, hl, rfl⟩ := List.mem_map.1 he
          obtain ⟨th1, hth1, fid, hfid, hloc⟩ := hlocs l hl
          rw [hth] at hth1; cases hth1
          exact ((ho.frames tid th hth fid hfid).loc hc.heap
            (hi.ids_lt fid (List.mem_append_left _ hfid)) hloc).grow tid hg
        · exact (ho.writes e he).grow tid hg }

theorem crun_own {c : Conc} {s0 : Start} {w : List (Nat × Loc)} {ow : Owner} {sched : List (Nat × HOp)}
    (ho : Own c s0 w ow) (hc : CInv c) (hw : SchedWf c sched) :
    ∃ w1 ow', (crun c sched).written = w1 ++ c.written ∧ Own (crun c sched) s0 (w1 ++ w) ow' := by
  induction sched generalizing c w ow with
  | nil => exact ⟨[], ow, rfl, ho⟩
  | cons e rest ih =>
    obtain ⟨tid, op⟩ := e
    obtain ⟨w1, ow1, e1, ho1⟩ := ho.step hc (tid := tid) hw.1
    obtain ⟨w2, ow2, e2, ho2⟩ := ih ho1 (hc.step hw.1) hw.2
    refine ⟨w2 ++ w1, ow2, by simp only [crun, e2, e1, List.append_assoc], ?_⟩
    rw [List.append_assoc]; exact ho2

def FreshLoc (h0 : H) : Loc → Prop
  | .objHdr i => h0.objs.length ≤ i
  | .arrCell a _ => h0.arrs.length ≤ a
  | .gomap m => h0.gomaps.length ≤ m

theorem OwnedLoc.fresh {h h0 : H} {ow : Owner} {t : Nat} {l : Loc}
    (ho : OwnedLoc h ⟨h0.objs.length, h0.arrs.length, h0.gomaps.length⟩ ow t l) : FreshLoc h0 l := by
  cases l <;> exact ho.1

theorem OwnedLoc.unique {h : H} {s0 : Start} {ow : Owner} {t t' : Nat} {l : Loc}
    (h1 : OwnedLoc h s0 ow t l) (h2 : OwnedLoc h s0 ow t' l) : t = t' := by
  cases l <;> exact h1.2.2.symm.trans h2.2.2

def thPure (F : Nat) (h : H) (th : Thread) : St := toPure F (thSt h th)

/-- The nodes a call hands in by reference are among `fin0`.  `OpWf st op` is `Refs0 st.h.finished op` (`Refs0.opWf`);
    here the set is a parameter, so that it can stay the initial heap's along a schedule. -/
def Refs0 (fin0 : List Nat) : HOp → Prop
  | .assignNode (.obj id) => id ∈ fin0
  | .assignNodeShortcut src => src ∈ fin0
  | _ => True

def arun (p : St) (val : NRef → DM) (ops : List HOp) : St := ops.foldl (fun p op => astep p val op) p

theorem Refs0.opWf {fin0 : List Nat} {st : HSt} {op : HOp} (hsub : ∀ id ∈ fin0, id ∈ st.h.finished)
    (hr : Refs0 fin0 op) : OpWf st op := by
  cases op with
  | assignNode r =>
    cases r with
    | scalar d => trivial
    | obj id => exact hsub id hr
  | assignNodeShortcut src => exact hsub src hr
  | _ => trivial

def Vals (fin0 : List Nat) (val : NRef → DM) (h : H) (F : Nat) : Prop :=
  (∀ id ∈ fin0, id ∈ h.finished ∧ val (.obj id) = absRef h F (.obj id)) ∧ ∀ d, val (.scalar d) = d

theorem Vals.init (h : H) (F : Nat) : Vals h.finished (absRef h F) h F :=
  ⟨fun _ hid => ⟨hid, rfl⟩, absRef_scalar h F⟩

theorem Vals.astep_congr {fin0 : List Nat} {val : NRef → DM} {h : H} {F : Nat} {op : HOp}
    (hv : Vals fin0 val h F) (hr : Refs0 fin0 op) (p : St) : astep p (absRef h F) op = astep p val op := by
  cases op with
  | assignNode r =>
    cases r with
    | scalar d => simp only [astep, absRef_scalar, hv.2]
    | obj id => simp only [astep, (hv.1 id hr).2]
  | assignNodeShortcut src => simp only [astep, (hv.1 src hr).2]
  | _ => rfl

theorem Vals.mono {fin0 : List Nat} {val : NRef → DM} {h h' : H} {F : Nat} (hv : Vals fin0 val h F)
    (hi : HeapInv h) (hf : Frozen h h') : Vals fin0 val h' F :=
  ⟨fun id hid => ⟨hf.fin id (hv.1 id hid).1, by rw [(hv.1 id hid).2, hf.absRef hi (hv.1 id hid).1]⟩, hv.2⟩

/-- A run of one builder alone, through the abstraction: the abstract run with the shared nodes read in the initial
    heap.  (The induction of `run_refines`, read against `astep` with fixed values `Vals` instead of `Asm.step`.) -/
theorem solo_arun {others : List Nat} {s : HSt} {ops : List HOp} {F : Nat} {val : NRef → DM}
    {fin0 : List Nat} (hi : HInvO others s) (hp : PInv (toPure F s)) (hv : Vals fin0 val s.h F)
    (hops : ∀ op ∈ ops, Refs0 fin0 op) (hF : (hrun s ops).h.finished.length < F) :
    toPure F (hrun s ops) = arun (toPure F s) val ops := by
  induction ops generalizing s with
  | nil => rfl
  | cons op ops ih =>
    have hr := hops op (List.mem_cons_self ..)
    have hw : OpWf s op := hr.opWf fun id hid => (hv.1 id hid).1
    have r : Readable F others s := ⟨hi, hp, fuel_of_hrun hF⟩
    have r1 := r.step hw hF
    simp only [hrun, arun, List.foldl_cons]
    rw [← hv.astep_congr hr, ← toPure_hstep r hw]
    exact ih r1.inv r1.shape (hv.mono hi.heap (hstep_frozen hi hw))
      (fun o ho => hops o (List.mem_cons_of_mem _ ho)) hF

theorem projection_cons (tid t : Nat) (op : HOp) (rest : List (Nat × HOp)) :
    projection ((t, op) :: rest) tid = if t = tid then op :: projection rest tid else projection rest tid := by
  by_cases e : t = tid <;> simp only [projection, List.filterMap_cons, e, ↓reduceIte]

theorem thPure_other {c : Conc} (hc : CInv c) {t tid : Nat} {op : HOp} (hw : OpWf { h := c.h } op)
    (hne : t ≠ tid) {th : Thread} (hth : c.threads[tid]? = some th) (F : Nat) :
    (cstep c t op).threads[tid]? = some th ∧ thPure F (cstep c t op).h th = thPure F c.h th := by
  refine ⟨?_, ?_⟩
  · cases htt : c.threads[t]? with
    | none => rw [cstep_none htt]; exact hth
    | some tht =>
      rw [cstep_some htt]
      show (setAt c.threads t _)[tid]? = some th
      rw [getElem?_setAt, if_neg (fun hh => hne hh.1.symm)]; exact hth
  · have hst : AbsStable c.h (cstep c t op).h F := absStable_of_same hc.heap (cstep_frozen hc hw).same F
    have hfr := absFrames_same hc.heap hst (fr := th.frames) fun f hf =>
      cstep_other hc t hw tid th (Ne.symm hne) hth f.id (List.mem_map.2 ⟨f, hf, rfl⟩)
    have hrt := absRoot_same hst (hc.roots th (List.mem_of_getElem? hth))
    simp only [thPure, toPure, thSt, hfr, hrt]

theorem thPure_self {c : Conc} (hc : CInv c) {tid : Nat} {op : HOp} (hw : OpWf { h := c.h } op)
    {th : Thread} (hth : c.threads[tid]? = some th) (F : Nat) (hp : PInv (thPure F c.h th))
    (hF : c.h.finished.length < F) :
    ∃ th', (cstep c tid op).threads[tid]? = some th' ∧
      thPure F (cstep c tid op).h th' = astep (thPure F c.h th) (absRef c.h F) op := by
  rw [cstep_some hth]
  refine ⟨{ frames := (hstep (thSt c.h th) op).frames, root := (hstep (thSt c.h th) op).root }, ?_,
    toPure_hstep ⟨hc.thread hth, hp, hF⟩ hw⟩
  show (setAt c.threads tid _)[tid]? = some _
  rw [getElem?_setAt, if_pos ⟨rfl, lt_of_getElem?_some hth⟩]

theorem conc_arun {c : Conc} {sched : List (Nat × HOp)} {tid : Nat} {F : Nat} {val : NRef → DM}
    {fin0 : List Nat} (hc : CInv c) (hv : Vals fin0 val c.h F)
    (hops : ∀ e ∈ sched, Refs0 fin0 e.2) (hF : (crun c sched).h.finished.length < F)
    {th : Thread} (hth : c.threads[tid]? = some th) (hp : PInv (thPure F c.h th)) :
    ∃ th', (crun c sched).threads[tid]? = some th' ∧
      thPure F (crun c sched).h th' = arun (thPure F c.h th) val (projection sched tid) := by
  induction sched generalizing c th with
  | nil => exact ⟨th, hth, rfl⟩
  | cons e rest ih =>
    obtain ⟨t, op⟩ := e
    have hr : Refs0 fin0 op := hops (t, op) (List.mem_cons_self ..)
    have hw : OpWf { h := c.h } op := hr.opWf fun id hid => (hv.1 id hid).1
    have hF1 : c.h.finished.length < F := by
      obtain ⟨l, e, _⟩ := crun_finished c ((t, op) :: rest)
      rw [e, List.length_append] at hF; exact Nat.lt_of_le_of_lt (Nat.le_add_left _ _) hF
    have ih := @ih (cstep c t op) (hc.step hw) (hv.mono hc.heap (cstep_frozen hc hw))
      (fun e he => hops e (List.mem_cons_of_mem _ he)) hF
    rw [projection_cons]
    by_cases e : t = tid
    · subst e
      obtain ⟨th1, hth1, hp1⟩ := thPure_self hc hw hth F hp hF1
      obtain ⟨th', hth', hfin⟩ := ih hth1 (by rw [hp1]; exact astep_pinv hp)
      refine ⟨th', hth', ?_⟩
      rw [if_pos rfl]
      simp only [crun, arun, List.foldl_cons] at hfin ⊢
      rw [hfin, hp1, hv.astep_congr hr]
    · obtain ⟨hth1, hp1⟩ := thPure_other hc hw e hth F
      obtain ⟨th', hth', hfin⟩ := ih hth1 (by rw [hp1]; exact hp)
      refine ⟨th', hth', ?_⟩
      rw [if_neg e]
      simp only [crun] at hfin ⊢
      rw [hfin, hp1]

theorem mem_of_mem_projection {sched : List (Nat × HOp)} {tid : Nat} {op : HOp}
    (h : op ∈ projection sched tid) : (tid, op) ∈ sched := by
  obtain ⟨e, he, hop⟩ := List.mem_filterMap.1 h
  split at hop
  · rename_i ht; cases hop; exact ht ▸ he
  · cases hop

theorem projection_length_le (sched : List (Nat × HOp)) (tid : Nat) :
    (projection sched tid).length ≤ sched.length := by
  unfold projection; exact List.length_filterMap_le _ _

theorem schedWf_of_refs0 {c : Conc} {sched : List (Nat × HOp)} {fin0 : List Nat}
    (hsub : ∀ id ∈ fin0, id ∈ c.h.finished) (hops : ∀ e ∈ sched, Refs0 fin0 e.2) : SchedWf c sched := by
  induction sched generalizing c with
  | nil => trivial
  | cons e rest ih =>
    obtain ⟨tid, op⟩ := e
    refine ⟨(hops (tid, op) (List.mem_cons_self ..)).opWf hsub, ?_⟩
    obtain ⟨l, e, _⟩ := cstep_finished c tid op
    exact ih (fun id hid => e ▸ List.mem_append_right l (hsub id hid))
      (fun e he => hops e (List.mem_cons_of_mem _ he))

instance (fin0 : List Nat) (op : HOp) : Decidable (Refs0 fin0 op) := by
  cases op with
  | assignNode r => cases r <;> simp only [Refs0] <;> exact inferInstance
  | assignNodeShortcut src => simp only [Refs0]; exact inferInstance
  | _ => simp only [Refs0]; exact inferInstance

end Heap
end Ipld

/-
  The entry table and the lookup map of a map assembler (`Ipld.Asm`) as lists: Go map insert and lookup, the entries a
  table holds (`tableEntries`), its last entry (`setLast`, `lastKey`), tables whose entries all have values (`AllDone`,
  `doneEntries`), and what duplicate-free keys give.
-/
import IpldModel.Model.Assembler
import IpldModel.Lemmas.BytesEq
namespace Ipld
namespace Asm

theorem mapLookup_cons (a : Bytes) (b : DM) (r : List (Bytes × DM)) (k : Bytes) :
    mapLookup ((a, b) :: r) k = if a = k then some b else mapLookup r k := by
  simp [mapLookup]

theorem mapInsert_cons (a : Bytes) (b : DM) (r : List (Bytes × DM)) (k : Bytes) (v : DM) :
    mapInsert ((a, b) :: r) k v = if a = k then (k, v) :: r else (a, b) :: mapInsert r k v := by
  simp [mapInsert]

theorem mapLookup_mapInsert (m : List (Bytes × DM)) (k k' : Bytes) (v : DM) :
    mapLookup (mapInsert m k v) k' = if k = k' then some v else mapLookup m k' := by
  induction m with
  | nil => simp [mapInsert, mapLookup]
  | cons e r ih =>
    obtain ⟨a, b⟩ := e
    rw [mapInsert_cons]
    by_cases h : a = k
    · subst h
      rw [if_pos rfl, mapLookup_cons, mapLookup_cons]
      by_cases h2 : a = k' <;> simp [h2]
    · rw [if_neg h, mapLookup_cons, mapLookup_cons, ih]
      by_cases h2 : a = k'
      · subst h2
        have : ¬ k = a := fun e => h e.symm
        simp [this]
      · simp [h2]

theorem mapHas_mapInsert (m : List (Bytes × DM)) (k k' : Bytes) (v : DM) :
    mapHas (mapInsert m k v) k' = (decide (k = k') || mapHas m k') := by
  simp only [mapHas, mapLookup_mapInsert]
  by_cases h : k = k' <;> simp [h]

theorem mapHas_eq_false_iff (m : List (Bytes × DM)) (k : Bytes) :
    mapHas m k = false ↔ mapLookup m k = none := by
  simp [mapHas]

theorem mapInsert_of_not_has {m : List (Bytes × DM)} {k : Bytes} (v : DM) (h : mapHas m k = false) :
    mapInsert m k v = m ++ [(k, v)] := by
  induction m with
  | nil => rfl
  | cons e r ih =>
    obtain ⟨a, b⟩ := e
    rw [mapHas_eq_false_iff, mapLookup_cons] at h
    by_cases e : a = k
    · simp [e] at h
    · rw [if_neg e] at h
      rw [mapInsert_cons, if_neg e, ih ((mapHas_eq_false_iff _ _).2 h)]
      rfl

def AllDone (t : List (Bytes × Option DM)) : Prop := ∀ e ∈ t, e.2.isSome = true

theorem allDone_nil : AllDone [] := by intro e h; cases h

theorem allDone_append {t u : List (Bytes × Option DM)} :
    AllDone (t ++ u) ↔ AllDone t ∧ AllDone u :=
  List.forall_mem_append

theorem allDone_single (k : Bytes) (v : DM) : AllDone [(k, some v)] := by
  intro e he; cases List.mem_singleton.1 he; rfl

theorem tableEntries_append (t u : List (Bytes × Option DM)) :
    tableEntries (t ++ u) = tableEntries t ++ tableEntries u := by
  simp [tableEntries, List.filterMap_append]

@[simp] theorem tableEntries_nil : tableEntries [] = [] := rfl
@[simp] theorem tableEntries_single_none (k : Bytes) : tableEntries [(k, none)] = [] := rfl
@[simp] theorem tableEntries_single_some (k : Bytes) (v : DM) :
    tableEntries [(k, some v)] = [(k, v)] := rfl

theorem setLast_append_single (t : List (Bytes × Option DM)) (k : Bytes) (o : Option DM) (v : DM) :
    setLast (t ++ [(k, o)]) v = t ++ [(k, some v)] := by
  induction t with
  | nil => rfl
  | cons e r ih =>
    cases r with
    | nil => obtain ⟨a, b⟩ := e; simp [setLast]
    | cons e' r' =>
      simp only [List.cons_append] at ih ⊢
      rw [setLast, ih]
      intro k' x _ h; cases h

theorem lastKey_append_single (t : List (Bytes × Option DM)) (k : Bytes) (o : Option DM) :
    lastKey (t ++ [(k, o)]) = some k := by
  simp [lastKey]

theorem lastKey_ne_nil {t : List (Bytes × Option DM)} (h : t ≠ []) : ∃ k, lastKey t = some k := by
  cases hl : t.getLast? with
  | none => simp at hl; exact absurd hl h
  | some e => exact ⟨e.1, by simp [lastKey, hl]⟩

theorem tableEntries_keys_sublist (t : List (Bytes × Option DM)) :
    ((tableEntries t).map (·.1)).Sublist (t.map (·.1)) := by
  induction t with
  | nil => simp
  | cons e r ih =>
    obtain ⟨a, b⟩ := e
    cases b with
    | none => simpa [tableEntries] using ih.cons a
    | some v => simpa [tableEntries] using ih.cons_cons a

theorem tableEntries_keys_of_allDone {t : List (Bytes × Option DM)} (h : AllDone t) :
    (tableEntries t).map (·.1) = t.map (·.1) := by
  induction t with
  | nil => rfl
  | cons e r ih =>
    obtain ⟨a, b⟩ := e
    have hr : AllDone r := fun e he => h e (List.mem_cons_of_mem _ he)
    cases b with
    | none => have := h (a, none) (List.mem_cons_self ..); simp at this
    | some v => simpa [tableEntries] using ih hr

theorem mem_tableEntries {t : List (Bytes × Option DM)} {k : Bytes} {v : DM} :
    (k, v) ∈ tableEntries t ↔ (k, some v) ∈ t := by
  simp only [tableEntries, List.mem_filterMap]
  constructor
  · rintro ⟨⟨a, b⟩, hm, he⟩
    cases b with
    | none => simp at he
    | some w => simp at he; obtain ⟨rfl, rfl⟩ := he; exact hm
  · intro h; exact ⟨(k, some v), h, rfl⟩

theorem find_none_iff {l : List (Bytes × DM)} {k : Bytes} :
    l.find? (fun e => e.1 == k) = none ↔ k ∉ l.map (·.1) := by
  simp only [List.find?_eq_none, beq_iff_eq, List.mem_map, not_exists, not_and]

theorem ofList_keys (l : List (Bytes × DM)) : (DMKVs.ofList l).keys = l.map (·.1) := by
  simp [DMKVs.keys]

theorem noDupVals_ofList (l : List (Bytes × DM)) :
    (DMKVs.ofList l).NoDupVals ↔ ∀ k v, (k, v) ∈ l → v.NoDup := by
  induction l with
  | nil => simp [DMKVs.ofList, DMKVs.NoDupVals]
  | cons e r ih =>
    obtain ⟨a, b⟩ := e
    simp only [DMKVs.ofList, DMKVs.NoDupVals, ih, List.mem_cons, Prod.mk.injEq]
    constructor
    · rintro ⟨hb, hr⟩ k v (⟨rfl, rfl⟩ | h)
      · exact hb
      · exact hr k v h
    · intro h
      exact ⟨h a b (Or.inl ⟨rfl, rfl⟩), fun k v hm => h k v (Or.inr hm)⟩

theorem noDup_ofList (l : List DM) : (DMs.ofList l).NoDup ↔ ∀ v ∈ l, v.NoDup := by
  induction l with
  | nil => simp [DMs.ofList, DMs.NoDup]
  | cons e r ih => simp [DMs.ofList, DMs.NoDup, ih]

theorem noDup_of_isScalar {v : DM} (h : isScalar v = true) : v.NoDup := by
  cases v <;> simp [isScalar] at h <;> simp [DM.NoDup]

/-- a list of finished entries as it sits in the entry table -/
def doneEntries (l : List (Bytes × DM)) : List (Bytes × Option DM) := l.map fun e => (e.1, some e.2)

def insertAll (m : List (Bytes × DM)) (l : List (Bytes × DM)) : List (Bytes × DM) :=
  l.foldl (fun m e => mapInsert m e.1 e.2) m

theorem tableEntries_doneEntries (l : List (Bytes × DM)) : tableEntries (doneEntries l) = l := by
  induction l with
  | nil => rfl
  | cons e r ih =>
    simp only [doneEntries, tableEntries, List.map_cons, List.filterMap_cons, Option.map_some] at ih ⊢
    rw [ih]

theorem insertAll_cons (m : List (Bytes × DM)) (k : Bytes) (v : DM) (l : List (Bytes × DM)) :
    insertAll m ((k, v) :: l) = insertAll (mapInsert m k v) l := rfl

end Asm
end Ipld

/-
  Start-at path: without budgets and without visit-once, when the full walk succeeds so does the walk resumed at
  a start path; its events are a sub-sequence of the full walk's and its visits a suffix of the full walk's visits.
-/
import IpldModel.Lemmas.Walk
namespace Ipld
namespace Walk
open Sel

def noStart (cfg : Cfg) : Cfg := { cfg with startAt := [] }

/-- at this position the start-at bookkeeping no longer suppresses anything: the walk is past the start path, or as
    deep as it is long -/
def full (cfg : Cfg) (past : Bool) (path : Path) : Prop := past = true ∨ cfg.startAt.length ≤ path.length
/-- the same for the loop over the children at `path`: it has met the start path's segment, or is `full` already -/
def fullL (cfg : Cfg) (lp : Loop) (path : Path) : Prop :=
  lp.reached = true ∨ lp.past = true ∨ cfg.startAt.length ≤ path.length

/-- `R` = result of the walk with the start-at path from `st`, `U` = result of the walk without from `st0`.  Logs are
    kept most recent first, so the prefix of visits stated here is a suffix in the order of time. -/
def RelS (isFull : Prop) (st st0 : St) (R U : WR) : Prop :=
  U.2 = .ok () → R.2 = .ok () ∧ Plain R.1 ∧ Plain U.1 ∧
    ∃ newR newU, R.1.events = newR ++ st.events ∧ U.1.events = newU ++ st0.events ∧ newR.Sublist newU ∧
      visitsOf newR <+: visitsOf newU ∧ (isFull → newR = newU)

theorem RelS.refl_ok {isFull : Prop} {st st0 : St} (h : Plain st) (h0 : Plain st0) :
    RelS isFull st st0 (st, .ok ()) (st0, .ok ()) :=
  fun _ => ⟨rfl, h, h0, [], [], rfl, rfl, List.Sublist.refl _, List.prefix_refl _, fun _ => rfl⟩

theorem RelS.of_error {isFull : Prop} {st st0 : St} {R : WR} {stU : St} {e : Err} :
    RelS isFull st st0 R (stU, .error e) :=
  fun h => by cases h

theorem RelS.seq {isFull : Prop} {st st0 st1 st01 : St} {R U : WR} (new1R new1U : List Event)
    (h1R : st1.events = new1R ++ st.events) (h1U : st01.events = new1U ++ st0.events)
    (hs : new1R.Sublist new1U) (hp : visitsOf new1R <+: visitsOf new1U) (hf : isFull → new1R = new1U)
    (h2 : RelS True st1 st01 R U) : RelS isFull st st0 R U := by
  intro hok
  obtain ⟨hr, hp1, hp2, newR, newU, heR, heU, _, _, hfull⟩ := h2 hok
  have heq := hfull trivial
  subst heq
  refine ⟨hr, hp1, hp2, newR ++ new1R, newR ++ new1U, by rw [heR, h1R, List.append_assoc],
    by rw [heU, h1U, List.append_assoc], (List.Sublist.refl _).append hs, ?_, ?_⟩
  · rw [visitsOf_append, visitsOf_append]
    exact (List.prefix_append_right_inj _).2 hp
  · intro hfl; rw [hf hfl]

theorem RelS.bind {isFull : Prop} {st st0 : St} {R1 U1 : WR} (g g0 : St → WR) (h1 : RelS isFull st st0 R1 U1)
    (h2 : ∀ st1 st01, Plain st1 → Plain st01 → RelS True st1 st01 (g st1) (g0 st01)) :
    RelS isFull st st0 (andThen R1 g) (andThen U1 g0) := by
  obtain ⟨stR, rR⟩ := R1
  obtain ⟨stU, rU⟩ := U1
  cases rU with
  | error e => exact RelS.of_error
  | ok u =>
    cases u
    obtain ⟨hr, hp1, hp2, newR, newU, heR, heU, hsub, hpre, hfull⟩ := h1 rfl
    simp only at hr hp1 hp2 heR heU
    subst hr
    rw [andThen_ok, andThen_ok]
    exact RelS.seq newR newU heR heU hsub hpre hfull (h2 stR stU hp1 hp2)

theorem RelS.mono {P Q : Prop} {st st0 : St} {R U : WR} (h : RelS P st st0 R U) (hqp : Q → P) : RelS Q st st0 R U := by
  intro hok
  obtain ⟨hr, hp1, hp2, newR, newU, heR, heU, hsub, hpre, hfull⟩ := h hok
  exact ⟨hr, hp1, hp2, newR, newU, heR, heU, hsub, hpre, fun hq => hfull (hqp hq)⟩

/-- the run without the start path did something more beforehand (`x`), where the position is not full -/
theorem RelS.older {P Q : Prop} {st st0 st01 : St} {R U : WR} (x : List Event) (h0 : st01.events = x ++ st0.events)
    (hP : ¬ P) (h : RelS Q st st01 R U) : RelS P st st0 R U := by
  intro hok
  obtain ⟨hr, hp1, hp2, newR, newU, heR, heU, hsub, hpre, _⟩ := h hok
  exact ⟨hr, hp1, hp2, newR, newU ++ x, heR, by rw [heU, h0, List.append_assoc],
    hsub.trans (List.sublist_append_left _ _), by rw [visitsOf_append]; exact hpre.trans (List.prefix_append _ _),
    fun h => absurd h hP⟩

/-- the test both the visit and the loop make: still before the start path, that is, not `full` -/
theorem searching_iff (cfg : Cfg) (past : Bool) (path : Path) :
    (!past && decide (path.length < cfg.startAt.length)) = true ↔ ¬ full cfg past path := by
  unfold full
  cases past <;> simp [Nat.not_le]

theorem loopStep_cases (cfg : Cfg) (path : Path) (lp : Loop) (ps : Seg) :
    ((loopStep cfg path lp ps).1 = false ∧ fullL cfg (loopStep cfg path lp ps).2 path ∧
        (fullL cfg lp path → full cfg (loopStep cfg path lp ps).2.past (path ++ [ps])))
    ∨ ((loopStep cfg path lp ps).1 = true ∧ (loopStep cfg path lp ps).2 = lp ∧ ¬ fullL cfg lp path) := by
  unfold loopStep
  by_cases hlen : cfg.startAt.length > 0
  · rw [if_pos hlen]
    by_cases hreach : lp.reached = true
    · rw [if_pos hreach]
      exact .inl ⟨rfl, .inl hreach, fun _ => .inl rfl⟩
    · rw [if_neg hreach]
      by_cases hsearch : (!lp.past && decide (path.length < cfg.startAt.length)) = true
      · rw [if_pos hsearch]
        have hnf : ¬ fullL cfg lp path := fun h => h.elim hreach ((searching_iff ..).1 hsearch)
        by_cases heq : ps.equals (cfg.startAt.getD path.length (.str [])) = true
        · rw [if_pos heq]
          exact .inl ⟨rfl, .inl rfl, fun h => absurd h hnf⟩
        · rw [if_neg heq]
          exact .inr ⟨rfl, rfl, hnf⟩
      · rw [if_neg hsearch]
        have hf : full cfg lp.past path := Classical.not_not.1 fun h => hsearch ((searching_iff ..).2 h)
        exact .inl ⟨rfl, .inr hf, fun _ => hf.imp_right fun h =>
          Nat.le_trans h (by rw [List.length_append]; exact Nat.le_add_right _ _)⟩
  · rw [if_neg hlen]
    have h0 : cfg.startAt.length = 0 := Nat.eq_zero_of_not_pos hlen
    exact .inl ⟨rfl, .inr (.inr (h0 ▸ Nat.zero_le _)), fun _ => .inr (h0 ▸ Nat.zero_le _)⟩

theorem visitSt_full (cfg : Cfg) (past : Bool) (path : Path) (n : DM) (s : S) (st : St) :
    (full cfg past path ∧ visitSt cfg past path n s st = { st with events := visitEvent path n s :: st.events }) ∨
    (¬ full cfg past path ∧ visitSt cfg past path n s st = st) := by
  unfold visitSt
  split
  · rename_i hc; exact .inr ⟨(searching_iff ..).1 hc, rfl⟩
  · rename_i hc; exact .inl ⟨Classical.not_not.1 fun h => hc ((searching_iff ..).2 h), rfl⟩

theorem startAt_all (cfg : Cfg) (hl : cfg.linkOnce = false) (fuel : Nat) :
    (∀ past past0 path n s st st0, Plain st → Plain st0 →
      RelS (full cfg past path) st st0 (walkAdv cfg fuel past path n s st)
        (walkAdv (noStart cfg) fuel past0 path n s st0)) ∧
    (∀ path n s l lp lp0 st st0, Plain st → Plain st0 →
      RelS (fullL cfg lp path) st st0 (walkChildren cfg fuel path n s l lp st)
        (walkChildren (noStart cfg) fuel path n s l lp0 st0)) ∧
    (∀ past past0 path n s ps v st st0, Plain st → Plain st0 →
      RelS (full cfg past (path ++ [ps])) st st0 (exploreChild cfg fuel past path n s ps v st)
        (exploreChild (noStart cfg) fuel past0 path n s ps v st0)) := by
  induction fuel with
  | zero =>
    refine ⟨?_, ?_, ?_⟩
    · intros; rw [walkAdv_zero, walkAdv_zero]; exact RelS.of_error
    · intros; rw [walkChildren_zero, walkChildren_zero]; exact RelS.of_error
    · intros; rw [exploreChild_zero, exploreChild_zero]; exact RelS.of_error
  | succ fuel ih =>
    obtain ⟨ihA, ihC, ihE⟩ := ih
    refine ⟨?_, ?_, ?_⟩
    · intro past past0 path n s st st0 hp hp0
      rw [walkAdv_succ, walkAdv_succ, checkNode_plain hp, checkNode_plain hp0]
      simp only [visitSt_noStart (noStart cfg) rfl]
      split
      · exact RelS.of_error
      · -- the visit is suppressed on the left iff the position is not `full`
        have hfullL : full cfg past path → fullL cfg { past := past } path :=
          fun hf => hf.elim (fun h => .inr (.inl h)) fun h => .inr (.inr h)
        rcases visitSt_full cfg past path n s st with ⟨hf, hv⟩ | ⟨hf, hv⟩ <;> rw [hv]
        · refine RelS.seq (st1 := { st with events := visitEvent path n s :: st.events })
            (st01 := { st0 with events := visitEvent path n s :: st0.events }) [_] [_] rfl rfl (.refl _)
            (List.prefix_refl _) (fun _ => rfl) ?_
          split
          · exact RelS.refl_ok hp hp0
          · exact (ihC path n s _ _ { past := past0 } { st with events := visitEvent path n s :: st.events }
              { st0 with events := visitEvent path n s :: st0.events } hp hp0).mono fun _ => hfullL hf
        · refine RelS.older (st01 := { st0 with events := visitEvent path n s :: st0.events }) [_] rfl hf
            (Q := fullL cfg { past := past } path) ?_
          split
          · exact RelS.refl_ok hp hp0
          · exact ihC path n s _ _ { past := past0 } st { st0 with events := visitEvent path n s :: st0.events } hp hp0
    · intro path n s l lp lp0 st st0 hp hp0
      cases l with
      | nil => rw [walkChildren_nil, walkChildren_nil]; exact RelS.refl_ok hp hp0
      | cons x rest =>
        obtain ⟨ps, v⟩ := x
        rw [walkChildren_cons, walkChildren_cons]
        simp only [loopStep_noStart (noStart cfg) rfl, Bool.false_eq_true, if_false]
        rcases loopStep_cases cfg path lp ps with ⟨h1, h2, h3⟩ | ⟨h1, h2, h3⟩
        · -- the child is entered; the rest of the loop is past the start path
          rw [h1]
          simp only [Bool.false_eq_true, if_false]
          exact (RelS.bind (fun st' => walkChildren cfg fuel path n s rest (loopStep cfg path lp ps).2 st')
            (fun st' => walkChildren (noStart cfg) fuel path n s rest lp0 st')
            (ihE (loopStep cfg path lp ps).2.past lp0.past path n s ps v st st0 hp hp0)
            (fun st1 st01 hp1 hp01 => (ihC path n s rest (loopStep cfg path lp ps).2 lp0 st1 st01 hp1 hp01).mono
              (fun _ => h2))).mono h3
        · -- a child before the start path: skipped on the left
          rw [h1, h2]
          simp only [if_true]
          intro hok
          have hpc := (plain_all (noStart cfg) fuel).2.2 lp0.past path n s ps v st0 hp0
          obtain ⟨newc, hnewc⟩ := (eventsExtend_all (noStart cfg) fuel).2.2 lp0.past path n s ps v st0
          generalize exploreChild (noStart cfg) fuel lp0.past path n s ps v st0 = u1 at hok hpc hnewc
          obtain ⟨stU1, rU1⟩ := u1
          cases rU1 with
          | error e => cases hok
          | ok u =>
            cases u
            rw [andThen_ok] at hok ⊢
            exact RelS.older newc hnewc h3 (ihC path n s rest lp lp0 st stU1 hp hpc) hok
    · intro past past0 path n s ps v st st0 hp hp0
      rw [exploreChild_succ, exploreChild_succ]
      cases hx : explore s n ps with
      | error e => cases e <;> exact RelS.of_error
      | ok o =>
        cases o with
        | none => exact RelS.refl_ok hp hp0
        | some sNext =>
          simp only
          cases v with
          | link c =>
            simp only [enterChild]
            have hl0 : (noStart cfg).linkOnce = false := hl
            rw [linkStep_plain hl hp, linkStep_plain hl0 hp0,
              show fetch (noStart cfg) c = fetch cfg c from rfl]
            have hp' : Plain { st with events := .load c :: st.events } := hp
            have hp0' : Plain { st0 with events := .load c :: st0.events } := hp0
            rcases fetch cfg c with e | _ | blk
            · exact RelS.of_error
            · intro _
              exact ⟨rfl, hp', hp0', [.load c], [.load c], rfl, rfl, List.Sublist.refl _, List.prefix_refl _,
                fun _ => rfl⟩
            · have ha := ihA past past0 (path ++ [ps]) blk sNext _ _ hp' hp0'
              intro hok
              obtain ⟨hr, hp1, hp2, newR, newU, heR, heU, hsub, hpre, hfull⟩ := ha hok
              exact ⟨hr, hp1, hp2, newR ++ [.load c], newU ++ [.load c], by rw [heR]; simp, by rw [heU]; simp,
                hsub.append (List.Sublist.refl _), by rw [visitsOf_snoc_load, visitsOf_snoc_load]; exact hpre,
                fun h => by rw [hfull h]⟩
          | _ => simp only [enterChild]; exact ihA past past0 (path ++ [ps]) _ sNext st st0 hp hp0

end Walk
end Ipld

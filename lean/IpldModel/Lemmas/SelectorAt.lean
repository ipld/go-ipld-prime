/-
  `Spec.selectorAt`, `Spec.stepAt` and `Spec.Selected` by equations; what `denote` lists (`mem_denote`); the positions a walk can
  arrive at are those `selectorAt` reaches (`reach_iff_selectorAt`), so what any walk visits is selected.
-/
import IpldModel.Lemmas.WalkChildList
import IpldModel.Lemmas.WalkGet
namespace Ipld
namespace Walk
open Sel Spec

theorem selectorAt_nil (store : Store) (s : S) (root : DM) : selectorAt store s root [] = some (root, s) := rfl

theorem selectorAt_cons (store : Store) (s : S) (root : DM) (seg : Seg) (rest : Path) :
    selectorAt store s root (seg :: rest) =
      (stepAt store root s seg).bind fun x => selectorAt store x.2 x.1 rest := by
  rw [selectorAt]
  cases stepAt store root s seg with
  | none => rfl
  | some x => rfl

theorem selectorAt_cons_some {store : Store} {s : S} {root : DM} {seg : Seg} {rest : Path} {x : DM × S} :
    selectorAt store s root (seg :: rest) = some x ↔
      ∃ y, stepAt store root s seg = some y ∧ selectorAt store y.2 y.1 rest = some x := by
  rw [selectorAt_cons]
  exact Option.bind_eq_some_iff

theorem selectorAt_append (store : Store) : ∀ (p q : Path) (s : S) (root : DM),
    selectorAt store s root (p ++ q) = (selectorAt store s root p).bind fun x => selectorAt store x.2 x.1 q
  | [], q, s, root => rfl
  | seg :: p, q, s, root => by
    rw [List.cons_append, selectorAt_cons, selectorAt_cons]
    cases stepAt store root s seg with
    | none => rfl
    | some x => exact selectorAt_append store p q x.2 x.1

theorem selectorAt_snoc (store : Store) (p : Path) (seg : Seg) (s : S) (root : DM) :
    selectorAt store s root (p ++ [seg]) = (selectorAt store s root p).bind fun x => stepAt store x.1 x.2 seg := by
  rw [selectorAt_append]
  congr 1
  funext x
  rw [selectorAt_cons]
  cases stepAt store x.1 x.2 seg <;> rfl

theorem stepAt_some {store : Store} {n : DM} {s : S} {seg : Seg} {n' : DM} {s' : S}
    (h : stepAt store n s seg = some (n', s')) :
    ∃ v, seg ∈ segsAt n s ∧ lookupBySegment n seg = some v ∧ explore s n seg = .ok (some s') ∧
      deref store v = some n' := by
  unfold stepAt at h
  split at h
  · rename_i v s1 hc hx
    simp only [Option.map_eq_some_iff, Prod.mk.injEq] at h
    obtain ⟨a, ha, rfl, rfl⟩ := h
    unfold childAt at hc
    split at hc
    · rename_i hm; exact ⟨v, hm, hc, hx, ha⟩
    · cases hc
  · cases h

theorem stepAt_of {store : Store} {n : DM} {s : S} {seg : Seg} {n' v : DM} {s' : S}
    (hm : seg ∈ segsAt n s) (hl : lookupBySegment n seg = some v) (hx : explore s n seg = .ok (some s'))
    (hd : deref store v = some n') : stepAt store n s seg = some (n', s') := by
  unfold stepAt childAt
  simp only [hm, if_true, hl, hx, hd, Option.map_some]

theorem stepAt_of_child {store : Store} {n : DM} (hn : n.NoDup) {s : S} {seg : Seg} {n' v : DM} {s' : S}
    (hmem : (seg, v) ∈ childList n s) (hx : explore s n seg = .ok (some s')) (hd : deref store v = some n') :
    stepAt store n s seg = some (n', s') :=
  have ⟨hm, hl⟩ := (childList_mem_iff hn).1 hmem
  stepAt_of hm hl hx hd

theorem selected_iff (store : Store) (s : S) (root : DM) (p : Path) :
    Selected store s root p ↔ ∃ n s', selectorAt store s root p = some (n, s') := by
  unfold Selected
  cases selectorAt store s root p with
  | none => simp
  | some x => exact ⟨fun _ => ⟨x.1, x.2, rfl⟩, fun _ => rfl⟩

theorem selected_nil {store : Store} {s : S} {root : DM} : Selected store s root [] := rfl

theorem selected_cons (store : Store) (s : S) (root : DM) (seg : Seg) (rest : Path) :
    Selected store s root (seg :: rest) ↔
      ∃ n' s', stepAt store root s seg = some (n', s') ∧ Selected store s' n' rest := by
  unfold Selected
  rw [selectorAt_cons]
  cases stepAt store root s seg with
  | none => simp
  | some x =>
    obtain ⟨n', s'⟩ := x
    simp only [Option.bind_some, Option.some.injEq, Prod.mk.injEq]
    constructor
    · intro h; exact ⟨n', s', ⟨rfl, rfl⟩, h⟩
    · rintro ⟨_, _, ⟨rfl, rfl⟩, h⟩; exact h

theorem visitOf_fst {path : Path} {n : DM} {s : S} : (visitOf path n s).1 = path := by
  unfold visitOf; cases matchNode s n <;> rfl

theorem visitOf_components (p : Path) (n : DM) (s : S) :
    visitOf p n s = (p, (matchNode s n).getD n, if decides s n then .matched else .candidate) := by
  unfold visitOf decides
  cases matchNode s n <;> rfl

theorem denoteFrom_succ (store : Store) (d : Nat) (path : Path) (n : DM) (s : S) :
    denoteFrom store (d + 1) path n s =
      visitOf path n s :: (segsAt n s).flatMap fun seg =>
        match stepAt store n s seg with
        | some (n', s') => denoteFrom store d (path ++ [seg]) n' s'
        | none => [] := rfl

theorem mem_denoteFrom (store : Store) : ∀ (d : Nat) (path : Path) (n : DM) (s : S) (x : Path × DM × Reason),
    x ∈ denoteFrom store d path n s ↔
      ∃ q n' s', q.length < d ∧ selectorAt store s n q = some (n', s') ∧ x = visitOf (path ++ q) n' s'
  | 0, path, n, s, x => by
    simp [denoteFrom]
  | d + 1, path, n, s, x => by
    rw [denoteFrom_succ, List.mem_cons, List.mem_flatMap]
    constructor
    · rintro (rfl | ⟨seg, hseg, hx⟩)
      · exact ⟨[], n, s, by simp, rfl, by simp⟩
      · cases hstep : stepAt store n s seg with
        | none => rw [hstep] at hx; cases hx
        | some y =>
          obtain ⟨n1, s1⟩ := y
          rw [hstep] at hx
          obtain ⟨q, n', s', hq, hsel, rfl⟩ := (mem_denoteFrom store d (path ++ [seg]) n1 s1 x).1 hx
          exact ⟨seg :: q, n', s', Nat.succ_lt_succ hq, selectorAt_cons_some.2 ⟨_, hstep, hsel⟩, by simp⟩
    · rintro ⟨q, n', s', hq, hsel, rfl⟩
      cases q with
      | nil =>
        left
        rw [selectorAt_nil] at hsel
        cases hsel
        simp
      | cons seg q =>
        right
        obtain ⟨⟨n1, s1⟩, hstep, hsel⟩ := selectorAt_cons_some.1 hsel
        obtain ⟨v, hm, _⟩ := stepAt_some hstep
        refine ⟨seg, hm, ?_⟩
        rw [hstep]
        simp only
        rw [(mem_denoteFrom store d (path ++ [seg]) n1 s1 _)]
        exact ⟨q, n', s', Nat.lt_of_succ_lt_succ hq, hsel, by simp⟩

theorem mem_denote (store : Store) (d : Nat) (s : S) (root : DM) (x : Path × DM × Reason) :
    x ∈ denote store d s root ↔
      ∃ n' s', x.1.length < d ∧ selectorAt store s root x.1 = some (n', s') ∧ x = visitOf x.1 n' s' := by
  unfold denote
  rw [mem_denoteFrom]
  constructor
  · rintro ⟨q, n', s', hq, hsel, rfl⟩
    simp only [List.nil_append, visitOf_fst]
    exact ⟨n', s', hq, hsel, rfl⟩
  · rintro ⟨n', s', hq, hsel, hx⟩
    exact ⟨x.1, n', s', hq, hsel, by simpa using hx⟩

theorem reach_selectorAt {cfg : Cfg} {root : DM} {s0 : S} (hroot : root.NoDup) (hstore : StoreNoDup cfg.store)
    {path : Path} {n : DM} {s : S} (h : Reach cfg root s0 path n s) :
    selectorAt cfg.store s0 root path = some (n, s) := by
  induction h with
  | root => rfl
  | child hr hm hx hnl ih =>
    rw [selectorAt_snoc, ih]
    exact stepAt_of_child (reach_noDup hroot hstore hr) hm hx (deref_nonlink hnl)
  | link hr hm hx hs _ ih =>
    rw [selectorAt_snoc, ih]
    exact stepAt_of_child (reach_noDup hroot hstore hr) hm hx (deref_link hs)

theorem selectorAt_reach_from {cfg : Cfg} (hk : cfg.skip = []) {root : DM} {s0 : S} (hroot : root.NoDup)
    (hstore : StoreNoDup cfg.store) : ∀ (path p0 : Path) (n0 : DM) (s1 : S) (n : DM) (s : S),
    Reach cfg root s0 p0 n0 s1 → selectorAt cfg.store s1 n0 path = some (n, s) →
      Reach cfg root s0 (p0 ++ path) n s
  | [], p0, n0, s1, n, s, hr, h => by
    rw [selectorAt_nil] at h; cases h; simpa using hr
  | seg :: rest, p0, n0, s1, n, s, hr, h => by
    obtain ⟨⟨n1, s2⟩, hstep, h⟩ := selectorAt_cons_some.1 h
    obtain ⟨v, hm, hl, hx, hd⟩ := stepAt_some hstep
    have hmem := (childList_mem_iff (reach_noDup hroot hstore hr)).2 ⟨hm, hl⟩
    have hr' : Reach cfg root s0 (p0 ++ [seg]) n1 s2 := by
      by_cases hlink : ∃ c, v = .link c
      · obtain ⟨c, rfl⟩ := hlink
        have : storeGet cfg.store c = some n1 := by rw [storeGet_eq_lookup]; exact hd
        exact Reach.link hr hmem hx this (by simp [hk])
      · have hnl : ∀ c, v ≠ .link c := fun c hc => hlink ⟨c, hc⟩
        rw [deref_nonlink hnl] at hd
        cases hd
        exact Reach.child hr hmem hx hnl
    have := selectorAt_reach_from hk hroot hstore rest (p0 ++ [seg]) n1 s2 n s hr' h
    simpa using this

theorem reach_iff_selectorAt {cfg : Cfg} (hk : cfg.skip = []) {root : DM} {s0 : S} (hroot : root.NoDup)
    (hstore : StoreNoDup cfg.store) {path : Path} {n : DM} {s : S} :
    Reach cfg root s0 path n s ↔ selectorAt cfg.store s0 root path = some (n, s) :=
  ⟨reach_selectorAt hroot hstore, fun h => by
    simpa using selectorAt_reach_from hk hroot hstore path [] root s0 n s Reach.root h⟩

theorem selectorAt_noDup {store : Store} (hstore : StoreNoDup store) {root : DM} (hroot : root.NoDup) {s : S}
    {q : Path} {n : DM} {s' : S} (h : selectorAt store s root q = some (n, s')) : n.NoDup := by
  -- `NoDup` is proved along `Reach`, which wants a configuration: any with this store will do
  have hr : Reach { store := store } root s q n s' :=
    (reach_iff_selectorAt (cfg := { store := store }) rfl hroot hstore).2 h
  exact reach_noDup (cfg := { store := store }) hroot hstore hr

theorem visitEvent_eq_visitOf (path : Path) (n : DM) (s : S) :
    visitEvent path n s = .visit (visitOf path n s).1 (visitOf path n s).2.1 (visitOf path n s).2.2 := by
  unfold visitEvent visitOf
  cases matchNode s n <;> rfl

theorem visited_selectorAt {cfg : Cfg} (hstore : StoreNoDup cfg.store) {root : DM} (hroot : root.NoDup) {s : S}
    {fuel : Nat} {nb lb : Option Int} {x : Path × DM × Reason} (h : x ∈ visitsOf (walk cfg fuel nb lb root s).events) :
    ∃ n s', selectorAt cfg.store s root x.1 = some (n, s') ∧ x = visitOf x.1 n s' := by
  rw [mem_visitsOf] at h
  obtain ⟨n, s', hr, he⟩ := walk_visit_ok h
  rw [visitEvent_eq_visitOf] at he
  obtain ⟨h1, h2, h3⟩ := Event.visit.inj he
  have hx : x = visitOf x.1 n s' := Prod.ext h1 (Prod.ext h2 h3)
  exact ⟨n, s', reach_selectorAt hroot hstore hr, hx⟩

end Walk
end Ipld

/-
  Rejections.  At top level an error of the tokenizer on the first token, or of `unmarshal`'s step on it, plain or
  under a tag, is the error of `decode`; at any level a collection head larger than the budget is refused.
-/
import IpldModel.Lemmas.CborDecComplete
namespace Ipld
namespace Cbor
open Spec

theorem decode_tok_error {cfg : DecCfg} {bs : Bytes} {e : DecErr} (h : nextTok cfg none bs = .error e) :
    decode cfg bs = .error e := by
  unfold decode
  rw [decItem_eq, h]
  rfl

theorem decode_tok {cfg : DecCfg} {bs r : Bytes} {t : Tok} {e : DecErr} (h : nextTok cfg none bs = .ok (t, r))
    (he : ∀ f, r.length < f → afterTok cfg f 0 0 none cfg.budget t r = .error e) : decode cfg bs = .error e := by
  unfold decode
  rw [decItem_tok h, he _ (nextTok_len h)]
  rfl

theorem decode_tagged {cfg : DecCfg} {t : Nat} (ht : t < 2 ^ 63) {r : Bytes} {e : DecErr}
    (h : ∀ f, decItem cfg (f + 1) 0 0 (some t) ⟨r, cfg.budget⟩ = .error e) :
    decode cfg (shortestHead 6 t ++ r) = .error e := by
  unfold decode
  obtain ⟨f, hf⟩ : ∃ f, (shortestHead 6 t ++ r).length = f + 1 :=
    Nat.exists_eq_add_one_of_ne_zero (Nat.ne_of_gt (head_append_pos 6 t r))
  rw [decItem_tok (nextTok_tag cfg t ht r), hf, afterTok, h f]
  rfl

/-- A tag on anything but a byte string is refused: on a scalar, a list or a map as `badTag`, whatever the
    contents (a second tag is refused by the tokenizer, as `multiTag`). -/
theorem decode_tag_refused {cfg : DecCfg} (hb : 0 ≤ cfg.budget) {t : Nat} (ht : t < 2 ^ 63) {r r' : Bytes} {tok : Tok}
    (h : nextTok cfg (some t) r = .ok (tok, r')) (hnb : ∀ p n, tok ≠ .bytes p n) :
    decode cfg (shortestHead 6 t ++ r) = .error .badTag := by
  obtain ⟨_, _, _, hw, _⟩ := nextTok_ok h
  refine decode_tagged ht fun f => ?_
  rw [decItem_tok h]
  exact afterTok_tagged t hb tok hnb hw

theorem decode_nonminimal (cfg : DecCfg) (hs : cfg.relaxed = false) (b0 : UInt8) (hm : b0.toNat / 32 ≤ 6)
    (a : Bytes) {thr : Nat} (hw : Wide (b0.toNat % 32) a.length thr) (hv : beVal a < thr) (rest : Bytes) :
    decode cfg (b0 :: (a ++ rest)) = .error .nonMinimal := by
  apply decode_tok_error
  have hi : ¬ (b0.toNat = 0x5f ∨ b0.toNat = 0x7f ∨ b0.toNat = 0x9f ∨ b0.toNat = 0xbf) := by
    rcases hw with ⟨h, _⟩ | ⟨h, _⟩ | ⟨h, _⟩ | ⟨h, _⟩ <;> omega
  have hr : readArg true (b0.toNat % 32) (a ++ rest) = .error .nonMinimal := by
    rw [readArg_wide hw, take?_append]
    simp [bind, Except.bind, hv]
  rw [nextTok_major cfg hm hi, if_neg (fun h => h.2 rfl), hs]
  unfold readHead readLen
  rw [Bool.not_false, hr]
  split <;> rfl

theorem decode_float_err (cfg : DecCfg) (hs : cfg.relaxed = false) {x : Nat} {b1 : Bytes}
    (hf : x < 2 ^ 64 ∧ FloatBytes x b1) (rest : Bytes) {e : DecErr} (he : checkFloat true x = .error e) :
    decode cfg (b1 ++ rest) = .error e := by
  apply decode_tok_error
  rw [nextTok_floatBytes cfg hf.2 hf.1, hs, Bool.not_false, he]
  rfl

theorem decItem_count_over_budget (cfg : DecCfg) (fuel depth : Nat) (extra B : Int) (m n : Nat) (rest : Bytes)
    (hm : m = 4 ∨ m = 5) (hn : n < 2 ^ 63) (hd : depth < cfg.maxDepth) (hB : B - extra < n) :
    decItem cfg (fuel + 1) depth extra none ⟨shortestHead m n ++ rest, B⟩ = .error .budget := by
  rcases hm with rfl | rfl
  · rw [decItem_tok (nextTok_list cfg hn rest)]; exact decColl_budget hd hB
  · rw [decItem_tok (nextTok_map cfg hn rest)]; exact decColl_budget hd hB

end Cbor
end Ipld

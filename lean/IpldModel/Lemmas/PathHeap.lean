/-
  The heap-level path model (`Model/PathHeap.lean`).  Arrays are never freed or resized, so a slice of a heap reads the
  same in every heap that extends it (`Slice.WF.ext`); an allocating operation returns `alloc h x`, a re-slicing one
  leaves the heap alone; hence a step leads to a `Later` state: heap and paths have grown at the end, nothing else moved.
-/
import IpldModel.Model.PathHeap
namespace Ipld
namespace PathHeap
open Sel

theorem storeFrom_length : ∀ (vs cells : List Seg) (k : Nat), (storeFrom cells k vs).length = cells.length
  | [], _, _ => rfl
  | v :: vs, cells, k => by rw [storeFrom, storeFrom_length vs, List.length_set]

theorem storeFrom_append : ∀ (vs pre mid post : List Seg), mid.length = vs.length →
    storeFrom (pre ++ mid ++ post) pre.length vs = pre ++ vs ++ post
  | [], pre, [], post, _ => rfl
  | v :: vs, pre, m :: ms, post, h => by
    have ih := storeFrom_append vs (pre ++ [v]) ms post (Nat.succ.inj h)
    rw [List.length_append, List.length_singleton] at ih
    rw [storeFrom, List.append_assoc, List.set_append_right _ _ (Nat.le_refl _), Nat.sub_self]
    simpa using ih

theorem storeFrom_end (vs pre mid : List Seg) (h : mid.length = vs.length) :
    storeFrom (pre ++ mid) pre.length vs = pre ++ vs := by
  have := storeFrom_append vs pre mid [] h
  rwa [List.append_nil, List.append_nil] at this

theorem arr_fresh (h : Heap) (z : List Seg) : Heap.arr (h ++ [z]) h.length = z := by
  simp [Heap.arr]

theorem set_fresh (h : Heap) (z x : List Seg) : (h ++ [z]).set h.length x = h ++ [x] := by
  simp

theorem arr_append_lt (h ext : Heap) (a : Nat) (ha : a < h.length) : Heap.arr (h ++ ext) a = Heap.arr h a := by
  simp [Heap.arr, List.getElem?_append_left ha]

theorem arr_ge (h : Heap) (a : Nat) (ha : h.length ≤ a) : Heap.arr h a = [] := by
  simp [Heap.arr, List.getElem?_eq_none ha]

theorem copy_fresh (h : Heap) (z vals : List Seg) (o l c : Nat) :
    copy (h ++ [z]) ⟨h.length, o, l, c⟩ vals = h ++ [storeFrom z o (vals.take (min l vals.length))] := by
  simp only [copy, arr_fresh, set_fresh]

theorem setIdx_fresh (h : Heap) (z : List Seg) (o l c i : Nat) (v : Seg) :
    setIdx (h ++ [z]) ⟨h.length, o, l, c⟩ i v = h ++ [storeFrom z (o + i) [v]] := by
  simp only [setIdx, arr_fresh, set_fresh]

theorem read_len_zero {h : Heap} {s : Slice} (hl : s.len = 0) : read h s = [] := by
  rw [read, hl, List.take_zero]

theorem read_length {h : Heap} {s : Slice} (w : s.WF h) : (read h s).length = s.len := by
  rw [read, List.length_take, List.length_drop]
  exact Nat.min_eq_left (Nat.le_sub_of_add_le' (Nat.le_trans (Nat.add_le_add_left w.1 _) w.2))

/-- Arrays are never freed or resized: a slice keeps its array when the heap grows, or has none and shows no cells. -/
theorem Slice.WF.ext {h h' : Heap} {s : Slice} (w : s.WF h) (hh : h <+: h') : read h' s = read h s ∧ s.WF h' := by
  obtain ⟨ext, rfl⟩ := hh
  by_cases ha : s.arr < h.length
  · unfold read Slice.WF; rw [arr_append_lt h ext s.arr ha]; exact ⟨rfl, w⟩
  · have h0 : s.off + s.cap = 0 := by
      have := w.2; rwa [arr_ge h s.arr (Nat.le_of_not_lt ha), List.length_nil, Nat.le_zero] at this
    have hl : s.len = 0 := Nat.le_zero.1 (Nat.le_trans w.1 (h0 ▸ Nat.le_add_left _ _))
    exact ⟨by rw [read_len_zero hl, read_len_zero hl], w.1, h0 ▸ Nat.zero_le _⟩

/-- what an allocating operation returns: the heap with the new array `x` at its end, and the slice over all of `x`
    (`make` gives cap = len).  A notion of the proofs: the model's `newPath`, `parsePath`, `appendSegment` and `join`
    are shown equal to it, the model itself does not mention it. -/
def alloc (h : Heap) (x : List Seg) : Heap × Slice := (h ++ [x], ⟨h.length, 0, x.length, x.length⟩)

theorem alloc_eq {h : Heap} {x : List Seg} {n : Nat} (hn : x.length = n) :
    (h ++ [x], (⟨h.length, 0, n, n⟩ : Slice)) = alloc h x := by
  subst hn; rfl

theorem alloc_WF (h : Heap) (x : List Seg) : (alloc h x).2.WF (alloc h x).1 :=
  ⟨Nat.le_refl _, by rw [alloc, arr_fresh]; exact Nat.le_of_eq (Nat.zero_add _)⟩

theorem read_alloc {h : Heap} {x : List Seg} : read (alloc h x).1 (alloc h x).2 = x := by
  rw [alloc, read, arr_fresh, List.drop_zero, List.take_length]

theorem newPath_eq (h : Heap) (segs : List Seg) : newPath h segs = alloc h segs := by
  have e : storeFrom (List.replicate segs.length zeroSeg) 0 segs = segs :=
    storeFrom_end segs [] _ List.length_replicate
  simp only [newPath, make, copy_fresh, Nat.min_self, List.take_length, e, alloc]

theorem parsePath_eq (h : Heap) (txt : Bytes) : parsePath h txt = alloc h (Sel.parsePath txt) := by
  have e : storeFrom (List.replicate (splitSlash txt).length zeroSeg) 0 ((splitSlash txt).map Seg.str)
      = (splitSlash txt).map Seg.str :=
    storeFrom_end _ [] _ (by rw [List.length_replicate, List.length_map])
  simp only [parsePath, make, arr_fresh, set_fresh, e, Sel.parsePath, List.length_map, alloc]

/-- The first part needs no hypothesis: a receiver that is no slice of `h` still makes `AppendSegment` allocate. -/
theorem appendSegment_eq (h : Heap) (p : Slice) (ps : Seg) :
    ∃ x, appendSegment h p ps = alloc h x ∧ (p.WF h → x = read h p ++ [ps]) := by
  simp only [appendSegment, make, copy_fresh, setIdx_fresh]
  refine ⟨_, alloc_eq (by rw [storeFrom_length, storeFrom_length, List.length_replicate]), fun w => ?_⟩
  -- copying `p` into the fresh zero array gives what `p` reads followed by the spare zero, which `ps` then replaces
  have hl := read_length w
  have h1 : storeFrom (List.replicate p.len zeroSeg ++ [zeroSeg]) 0 (read h p) = read h p ++ [zeroSeg] :=
    storeFrom_append _ [] _ _ (by rw [List.length_replicate, hl])
  have h2 := storeFrom_end [ps] (read h p) [zeroSeg] rfl
  rw [(w.ext (List.prefix_append _ _)).1, hl, Nat.min_eq_right (Nat.le_succ _), List.take_of_length_le (Nat.le_of_eq hl),
    List.replicate_succ', h1, Nat.zero_add, ← hl, h2]

theorem join_eq (h : Heap) (p p2 : Slice) :
    ∃ x, join h p p2 = alloc h x ∧ (p.WF h → p2.WF h → x = read h p ++ read h p2) := by
  simp only [join, make, copy_fresh, Slice.sub]
  refine ⟨_, alloc_eq (by rw [storeFrom_length, storeFrom_length, List.length_replicate]), fun w w2 => ?_⟩
  -- the two copies into the fresh zero array fill it with what `p` reads, then what `p2` reads
  have hl := read_length w
  have hl2 := read_length w2
  have h1 : storeFrom (List.replicate p.len zeroSeg ++ List.replicate p2.len zeroSeg) 0 (read h p)
      = read h p ++ List.replicate p2.len zeroSeg :=
    storeFrom_append _ [] _ _ (by rw [List.length_replicate, hl])
  have h2 := storeFrom_end (read h p2) (read h p) (List.replicate p2.len zeroSeg) (by rw [List.length_replicate, hl2])
  rw [(w.ext (List.prefix_append _ _)).1, (w2.ext (List.prefix_append _ _)).1, hl, hl2,
    Nat.min_eq_right (Nat.le_add_right _ _), List.take_of_length_le (Nat.le_of_eq hl),
    Nat.add_sub_cancel_left, Nat.min_self, List.take_of_length_le (Nat.le_of_eq hl2),
    ← List.replicate_append_replicate, h1, Nat.zero_add, ← hl, h2]

theorem nilSlice_WF (h : Heap) : nilSlice.WF h := ⟨Nat.le_refl _, Nat.zero_le _⟩

theorem sub_WF {h : Heap} {p : Slice} (w : p.WF h) {lo hi : Nat} (h1 : lo ≤ hi) (h2 : hi ≤ p.cap) : (p.sub lo hi).WF h :=
  ⟨Nat.sub_le_sub_right h2 lo, by
    show p.off + lo + (p.cap - lo) ≤ _
    rw [Nat.add_assoc, Nat.add_sub_cancel' (Nat.le_trans h1 h2)]; exact w.2⟩

theorem read_sub_le {h : Heap} {p : Slice} {lo hi : Nat} (h2 : hi ≤ p.len) :
    read h (p.sub lo hi) = ((read h p).take hi).drop lo := by
  unfold read Slice.sub
  rw [List.take_take, Nat.min_eq_left h2, List.drop_take, List.drop_drop]

theorem parent_spec {h : Heap} {p : Slice} (w : p.WF h) : read h (parent p) = (read h p).dropLast ∧ (parent p).WF h := by
  unfold parent; split
  · next h0 => exact ⟨by rw [read_len_zero h0]; rfl, nilSlice_WF h⟩
  · exact ⟨by rw [read_sub_le (Nat.sub_le _ _), List.dropLast_eq_take, read_length w, List.drop_zero],
      sub_WF w (Nat.zero_le _) (Nat.le_trans (Nat.sub_le _ _) w.1)⟩

theorem pop_eq_parent (p : Slice) : pop p = parent p := by
  unfold pop parent; simp only [Nat.lt_one_iff]

theorem shift_spec {h : Heap} {p : Slice} (w : p.WF h) : read h (shift p) = (read h p).drop 1 ∧ (shift p).WF h := by
  unfold shift; split
  · next h0 => exact ⟨by rw [read_len_zero (Nat.lt_one_iff.1 h0)]; rfl, nilSlice_WF h⟩
  · next h0 => exact ⟨by rw [read_sub_le (Nat.le_refl _), ← read_length w, List.take_length],
      sub_WF w (Nat.le_of_not_lt h0) w.1⟩

theorem truncate_spec {h : Heap} {p : Slice} (w : p.WF h) (n : Int) (h0 : 0 ≤ n) (hc : n ≤ (p.cap : Int)) :
    truncate p n = some (p.sub 0 n.toNat) ∧ (p.sub 0 n.toNat).WF h ∧
      (n ≤ (p.len : Int) → read h (p.sub 0 n.toNat) = (read h p).take n.toNat) :=
  ⟨if_pos ⟨h0, hc⟩, sub_WF w (Nat.zero_le _) (Int.toNat_le.2 hc),
    fun hn => by rw [read_sub_le (Int.toNat_le.2 hn), List.drop_zero]⟩

structure Later (st st' : St) : Prop where
  heap : st.heap <+: st'.heap
  paths : st.paths <+: st'.paths
  wf : st.WF → st'.WF

theorem St.WF.get {st : St} (w : st.WF) {i : Nat} {p : Slice} (hp : st.paths[i]? = some p) : p.WF st.heap :=
  w p (List.mem_of_getElem? hp)

theorem Later.refl (st : St) : Later st st := ⟨List.prefix_refl _, List.prefix_refl _, id⟩

theorem Later.trans {a b c : St} (h1 : Later a b) (h2 : Later b c) : Later a c :=
  ⟨h1.heap.trans h2.heap, h1.paths.trans h2.paths, h2.wf ∘ h1.wf⟩

theorem Later.push {st : St} {h' : Heap} (hh : st.heap <+: h') {q : Slice} (hq : st.WF → q.WF h') :
    Later st ⟨h', st.paths ++ [q]⟩ where
  heap := hh
  paths := List.prefix_append _ _
  wf w s hs := by
    rcases List.mem_append.1 hs with hs | hs
    · exact ((w s hs).ext hh).2
    · rw [List.mem_singleton.1 hs]; exact hq w

theorem Later.alloc (st : St) (x : List Seg) : Later st ⟨(alloc st.heap x).1, st.paths ++ [(alloc st.heap x).2]⟩ :=
  .push (List.prefix_append _ _) fun _ => alloc_WF _ x

/-- Every cell a step of path.go stores goes into an array it has just allocated. -/
theorem step_later {st st' : St} {op : Op} (hs : step st op = some st') : Later st st' := by
  cases op <;>
    simp only [step, stepWith, Option.bind_eq_some_iff, Option.map_eq_some_iff, Option.some.injEq] at hs
  case newPath segs => rw [← hs, newPath_eq]; exact .alloc st segs
  case parsePath txt => rw [← hs, parsePath_eq]; exact .alloc st _
  case append i s =>
    obtain ⟨p, _, rfl⟩ := hs
    obtain ⟨x, he, _⟩ := appendSegment_eq st.heap p s
    rw [he]; exact .alloc st x
  case join i j =>
    obtain ⟨p, _, p2, _, rfl⟩ := hs
    obtain ⟨x, he, _⟩ := join_eq st.heap p p2
    rw [he]; exact .alloc st x
  case parent i =>
    obtain ⟨p, hp, rfl⟩ := hs
    exact .push (List.prefix_refl _) fun w => (parent_spec (w.get hp)).2
  case pop i =>
    obtain ⟨p, hp, rfl⟩ := hs
    exact .push (List.prefix_refl _) fun w => pop_eq_parent p ▸ (parent_spec (w.get hp)).2
  case truncate i n =>
    obtain ⟨p, hp, q, hq, rfl⟩ := hs
    refine .push (List.prefix_refl _) fun w => ?_
    unfold truncate at hq; split at hq
    · next hn => cases hq; exact (truncate_spec (w.get hp) n hn.1 hn.2).2.1
    · cases hq
  case shift i =>
    obtain ⟨p, hp, rfl⟩ := hs
    exact .push (List.prefix_refl _) fun w => (shift_spec (w.get hp)).2

theorem run_nil (st : St) : run st [] = some st := rfl

theorem run_cons (st : St) (op : Op) (ops : List Op) : run st (op :: ops) = (step st op).bind fun st' => run st' ops := rfl

theorem run_later : ∀ (ops : List Op) {st st' : St}, run st ops = some st' → Later st st'
  | [], st, _, h => by cases h; exact .refl st
  | op :: ops, _, _, h => by
    rw [run_cons, Option.bind_eq_some_iff] at h
    obtain ⟨m, hm, hr⟩ := h
    exact (step_later hm).trans (run_later ops hr)

end PathHeap
end Ipld

/-
  The positions a walk can arrive at (`Reach`), and that every visit it logs is the visit event of one of them.
-/
import IpldModel.Lemmas.Walk
namespace Ipld
namespace Walk
open Sel

inductive Reach (cfg : Cfg) (root : DM) (s0 : S) : Path → DM → S → Prop
  | root : Reach cfg root s0 [] root s0
  | child {path n s ps v sNext} : Reach cfg root s0 path n s → (ps, v) ∈ childList n s →
      explore s n ps = .ok (some sNext) → (∀ c, v ≠ .link c) → Reach cfg root s0 (path ++ [ps]) v sNext
  | link {path n s ps c blk sNext} : Reach cfg root s0 path n s → (ps, .link c) ∈ childList n s →
      explore s n ps = .ok (some sNext) → storeGet cfg.store c = some blk → cfg.skip.contains c = false →
      Reach cfg root s0 (path ++ [ps]) blk sNext

theorem walk_visit_ok {cfg : Cfg} {fuel : Nat} {nb lb : Option Int} {root : DM} {s : S} {p : Path} {m : DM} {r : Reason}
    (h : .visit p m r ∈ (walk cfg fuel nb lb root s).events) :
    ∃ n s', Reach cfg root s p n s' ∧ .visit p m r = visitEvent p n s' := by
  refine (walk_inv cfg (fun _ path n s' => Reach cfg root s path n s')
    (fun es => ∀ p m r, .visit p m r ∈ es → ∃ n s', Reach cfg root s p n s' ∧ .visit p m r = visitEvent p n s')
    (fun h => h)
    (fun hq p m r he => by
      rcases List.mem_cons.1 he with he | he
      · cases he
      · exact hq p m r he)
    (fun {_ path n s'} hq hp p m r he => by
      rcases List.mem_cons.1 he with he | he
      · obtain ⟨m', r', hv⟩ := visitEvent_is_visit path n s'
        cases he.trans hv
        exact ⟨n, s', hp, he⟩
      · exact hq p m r he)
    (fun hp _ hm hx hnl => .child hp hm hx hnl) (fun hp _ hm hx hs hk => .link hp hm hx hs hk) fuel).1
      false [] root s { nodeBudget := nb, linkBudget := lb } nofun Reach.root p m r (List.mem_reverse.1 h)

end Walk
end Ipld

/-
  Histories of assembler calls over any step function `σ → Op → σ × Out`, and erasing the refused calls from one: a
  history and the history with its refused calls erased end in the same state, for every machine whose key assemblers
  behave (`KeyAsm`).  The generic machine and the two typed machines are instances.
-/
import IpldModel.Model.Assembler
namespace Ipld
namespace Hist
open Ipld.Asm (Op Out ErrClass)

variable {σ : Type}

def run (step : σ → Op → σ × Out) (st : σ) : List Op → σ × List Out
  | [] => (st, [])
  | op :: ops =>
    match step st op with
    | (st', .panic) => (st', [.panic])
    | (st', o) =>
      let (st'', os) := run step st' ops
      (st'', o :: os)

def Runs (step : σ → Op → σ × Out) (s : σ) (ops : List Op) (s' : σ) : Prop :=
  run step s ops = (s', List.replicate ops.length .ok)

/-- The accepted calls of a history run from `s`.  A refused call is dropped.  An accepted `AssembleKey` is held back in
    `pend` until the key assembler it returned has accepted a key (then it is emitted, followed by that call) or has
    ended by refusing one (`inKey` no longer holds) - then it is dropped too. -/
def eraseFrom (step : σ → Op → σ × Out) (inKey : σ → Bool) (s : σ) (pend : List Op) : List Op → List Op
  | [] => pend
  | op :: ops =>
    match step s op with
    | (s', .ok) =>
        if op = .assembleKey then pend ++ eraseFrom step inKey s' [op] ops
        else pend ++ op :: eraseFrom step inKey s' [] ops
    | (s', .err _) =>
        if inKey s && !inKey s' then eraseFrom step inKey s' [] ops else eraseFrom step inKey s' pend ops
    | (s', .panic) => eraseFrom step inKey s' pend ops

variable {step : σ → Op → σ × Out}

theorem run_cons_ok {s s1 : σ} {op : Op} {ops : List Op} (h : step s op = (s1, .ok)) :
    run step s (op :: ops) = ((run step s1 ops).1, .ok :: (run step s1 ops).2) := by
  simp only [run, h]

theorem run_cons_err {s s1 : σ} {op : Op} {c : ErrClass} {ops : List Op} (h : step s op = (s1, .err c)) :
    run step s (op :: ops) = ((run step s1 ops).1, .err c :: (run step s1 ops).2) := by
  simp only [run, h]

theorem run_cons_panic {s s1 : σ} {op : Op} {ops : List Op} (h : step s op = (s1, .panic)) :
    run step s (op :: ops) = (s1, [.panic]) := by
  simp only [run, h]

theorem Runs.cons {s s1 s' : σ} {op : Op} {ops : List Op} (h1 : step s op = (s1, .ok))
    (h2 : Runs step s1 ops s') : Runs step s (op :: ops) s' := by
  unfold Runs at *
  rw [run_cons_ok h1, h2]
  rfl

theorem Runs.of_cons {s s' : σ} {op : Op} {ops : List Op} (h : Runs step s (op :: ops) s') :
    ∃ s1, step s op = (s1, .ok) ∧ Runs step s1 ops s' := by
  unfold Runs at h
  rcases hs : step s op with ⟨s1, _ | c | _⟩
  · rw [run_cons_ok hs] at h
    simp only [List.length_cons, List.replicate_succ, Prod.mk.injEq, List.cons.injEq, true_and] at h
    exact ⟨s1, rfl, Prod.ext h.1 h.2⟩
  · rw [run_cons_err hs] at h
    simp [List.replicate_succ] at h
  · rw [run_cons_panic hs] at h
    simp [List.replicate_succ] at h

theorem Runs.append {s s1 s' : σ} {a b : List Op} (h1 : Runs step s a s1) (h2 : Runs step s1 b s') :
    Runs step s (a ++ b) s' := by
  induction a generalizing s with
  | nil => cases h1; exact h2
  | cons op ops ih =>
    obtain ⟨s2, hs, h1'⟩ := h1.of_cons
    exact Runs.cons hs (ih h1')

/-- a history whose answers are all `ok` is accepted call by call -/
theorem runs_of_all_ok : (ops : List Op) → (s : σ) → (∀ o ∈ (run step s ops).2, o = .ok) →
    Runs step s ops (run step s ops).1
  | [], _, _ => rfl
  | op :: ops, s, h => by
    rcases hs : step s op with ⟨s', _ | c | _⟩
    · rw [run_cons_ok hs] at h ⊢
      exact Runs.cons hs (runs_of_all_ok ops s' fun o ho => h o (List.mem_cons_of_mem _ ho))
    · rw [run_cons_err hs] at h; exact absurd (h _ List.mem_cons_self) nofun
    · rw [run_cons_panic hs] at h; exact absurd (h _ List.mem_cons_self) nofun

theorem run_state {P : σ → Prop} (hP : ∀ s op, P s → P (step s op).1) : (ops : List Op) → (s : σ) → P s → P (run step s ops).1
  | [], _, h => h
  | op :: ops, s, h => by
    have h1 := hP s op h
    rcases hs : step s op with ⟨s', _ | c | _⟩ <;> rw [hs] at h1
    · rw [run_cons_ok hs]; exact run_state hP ops s' h1
    · rw [run_cons_err hs]; exact run_state hP ops s' h1
    · rw [run_cons_panic hs]; exact h1

theorem run_fst_of_no_panic : (ops : List Op) → (s : σ) → Out.panic ∉ (run step s ops).2 →
    (run step s ops).1 = ops.foldl (fun s op => (step s op).1) s
  | [], _, _ => rfl
  | op :: ops, s, h => by
    rcases hs : step s op with ⟨s', _ | c | _⟩
    · rw [run_cons_ok hs] at h ⊢
      rw [List.foldl_cons, hs]
      exact run_fst_of_no_panic ops s' fun hm => h (List.mem_cons_of_mem _ hm)
    · rw [run_cons_err hs] at h ⊢
      rw [List.foldl_cons, hs]
      exact run_fst_of_no_panic ops s' fun hm => h (List.mem_cons_of_mem _ hm)
    · rw [run_cons_panic hs] at h
      exact absurd (List.mem_singleton_self _) h

theorem eraseFrom_sublist {inKey : σ → Bool} (s : σ) (pend h : List Op) :
    (eraseFrom step inKey s pend h).Sublist (pend ++ h) := by
  induction h generalizing s pend with
  | nil => simp [eraseFrom]
  | cons op ops ih =>
    have hdrop : ∀ l : List Op, l.Sublist (pend ++ ops) → l.Sublist (pend ++ op :: ops) := by
      intro l hl
      exact hl.trans (List.Sublist.append_left (List.sublist_cons_self op ops) pend)
    cases hs : step s op with
    | mk s' o =>
      cases o with
      | ok =>
        by_cases hop : op = .assembleKey
        · subst hop
          simp only [eraseFrom, hs, if_true]
          exact List.Sublist.append_left (ih s' [.assembleKey]) pend
        · simp only [eraseFrom, hs, if_neg hop]
          exact List.Sublist.append_left ((ih s' []).cons_cons op) pend
      | err c =>
        simp only [eraseFrom, hs]
        split
        · exact hdrop _ ((ih s' []).trans (List.sublist_append_right pend ops))
        · exact hdrop _ (ih s' pend)
      | panic =>
        simp only [eraseFrom, hs]
        exact hdrop _ (ih s' pend)

/-- What erasing needs of a machine: `AssembleKey` is accepted only while no key assembler is out and hands one out
    (`inKey`); every other accepted call leaves none out; a refused call changes nothing, or ends the key assembler and
    leaves the state in which it was handed out, or leaves the machine marked (`tainted`) - and a marked machine only
    panics. -/
structure KeyAsm (step : σ → Op → σ × Out) (inKey tainted : σ → Bool) : Prop where
  key : ∀ {s s'}, step s .assembleKey = (s', .ok) → inKey s = false ∧ inKey s' = true
  ok : ∀ {s s' op}, step s op = (s', .ok) → op ≠ .assembleKey → inKey s' = false
  err : ∀ {s s' op c}, step s op = (s', .err c) →
    s' = s ∨ (inKey s = true ∧ inKey s' = false ∧ ∀ s0, step s0 .assembleKey = (s, .ok) → s0 = s') ∨ tainted s' = true
  stuck : ∀ {s} op, tainted s = true → step s op = (s, .panic)

theorem KeyAsm.run_tainted (M : KeyAsm step inKey tainted) {s : σ} (ht : tainted s = true) (h : List Op) :
    (run step s h).1 = s := by
  cases h with
  | nil => rfl
  | cons op ops => rw [run_cons_panic (M.stuck op ht)]

/-- `PendOk step inKey s0 pend s`: `pend` is what `eraseFrom` is holding back in state `s`, and `s0` is the state from
    which running `pend` gives `s`. -/
inductive PendOk (step : σ → Op → σ × Out) (inKey : σ → Bool) : σ → List Op → σ → Prop
  | none {s : σ} : inKey s = false → PendOk step inKey s [] s
  | key {s0 s : σ} : step s0 .assembleKey = (s, .ok) → PendOk step inKey s0 [.assembleKey] s

theorem PendOk.prepend {s0 s s' : σ} {pend l : List Op} (h : PendOk step inKey s0 pend s) (hl : Runs step s l s') :
    Runs step s0 (pend ++ l) s' := by
  cases h with
  | none _ => exact hl
  | key h0 => exact Runs.cons h0 hl

theorem eraseFrom_runs (M : KeyAsm step inKey tainted) {s0 s : σ} {pend : List Op} (h : List Op)
    (hp : PendOk step inKey s0 pend s) (hn : Out.panic ∉ (run step s h).2)
    (ht : tainted (run step s h).1 = false) :
    Runs step s0 (eraseFrom step inKey s pend h) (run step s h).1 := by
  induction h generalizing s0 s pend with
  | nil =>
    have := hp.prepend (l := []) (s' := s) rfl
    rw [List.append_nil] at this
    exact this
  | cons op ops ih =>
    cases hs : step s op with
    | mk s' o =>
      cases o with
      | ok =>
        rw [run_cons_ok hs] at hn ht ⊢
        have hn' : Out.panic ∉ (run step s' ops).2 := fun hm => hn (List.mem_cons_of_mem _ hm)
        by_cases hop : op = .assembleKey
        · subst hop
          simp only [eraseFrom, hs, if_true]
          cases hp with
          | none _ => exact ih (.key hs) hn' ht
          | key h0 => exact absurd ((M.key h0).2.symm.trans (M.key hs).1) nofun
        · simp only [eraseFrom, hs, if_neg hop]
          exact hp.prepend (Runs.cons hs (ih (.none (M.ok hs hop)) hn' ht))
      | err c =>
        rw [run_cons_err hs] at hn ht ⊢
        have hn' : Out.panic ∉ (run step s' ops).2 := fun hm => hn (List.mem_cons_of_mem _ hm)
        rcases M.err hs with h1 | ⟨hk, hk', hu⟩ | h1
        · subst h1
          simp only [eraseFrom, hs, Bool.and_not_self, Bool.false_eq_true, if_false]
          exact ih hp hn' ht
        · simp only [eraseFrom, hs, hk, hk', Bool.not_false, Bool.and_self, if_true]
          cases hp with
          | none hk0 => rw [hk] at hk0; cases hk0
          | key h0 =>
            obtain rfl := hu _ h0
            exact ih (.none hk') hn' ht
        · rw [M.run_tainted h1, h1] at ht
          cases ht
      | panic =>
        rw [run_cons_panic hs] at hn
        simp at hn

end Hist
end Ipld

/-
  A parent position is visited before its children: the invariant is the claim itself, read in the order of time.
-/
import IpldModel.Lemmas.Walk
namespace Ipld
namespace Walk
open Sel

/-- the order among siblings is not part of this; the log is kept most recent first -/
def ParentFirst (es : List Event) : Prop :=
  ∀ a b p seg m r, es.reverse = a ++ .visit (p ++ [seg]) m r :: b → ∃ m' r', .visit p m' r' ∈ a

theorem ParentFirst.cons {e : Event} {es : List Event} (hq : ParentFirst es)
    (he : ∀ p seg m r, e = .visit (p ++ [seg]) m r → ∃ m' r', .visit p m' r' ∈ es) : ParentFirst (e :: es) := by
  intro a b p seg m r h
  rw [List.reverse_cons] at h
  -- is the visit the last event (`e`) or an earlier one?
  rcases List.eq_nil_or_concat b with rfl | ⟨b', x, rfl⟩
  · obtain ⟨ha, he'⟩ := List.append_inj' h rfl
    obtain ⟨m', r', hm⟩ := he p seg m r (List.singleton_inj.1 he')
    exact ⟨m', r', ha ▸ List.mem_reverse.2 hm⟩
  · have h' : es.reverse ++ [e] = (a ++ .visit (p ++ [seg]) m r :: b') ++ [x] := by
      rw [h]; simp
    exact hq a b' p seg m r (List.append_inj' h' rfl).1

theorem walk_parentFirst (cfg : Cfg) (hs : cfg.startAt = []) (fuel : Nat) (nb lb : Option Int) (root : DM) (s : S) :
    ParentFirst (walkAdv cfg fuel false [] root s { nodeBudget := nb, linkBudget := lb }).1.events := by
  have parent : ∀ {es : List Event} {path n s'}, visitEvent path n s' ∈ es → ∃ m' r', Event.visit path m' r' ∈ es := by
    intro es path n s' h
    obtain ⟨m, r, hv⟩ := visitEvent_is_visit path n s'
    exact ⟨m, r, hv ▸ h⟩
  refine (walk_inv cfg (fun es path _ _ => path = [] ∨ ∃ m' r', Event.visit path.dropLast m' r' ∈ es) ParentFirst
    ?_ ?_ ?_ ?_ ?_ fuel).1 false [] root s _ (fun a b _ _ _ _ h => ?_) (Or.inl rfl)
  · exact fun h => h.imp_right fun ⟨m', r', h⟩ => ⟨m', r', List.mem_append_right _ h⟩
  · exact fun hq => hq.cons nofun
  · intro es path n s' hq hp
    refine hq.cons fun p seg m r he => ?_
    obtain ⟨m0, r0, hv⟩ := visitEvent_is_visit path n s'
    rw [hv] at he
    cases he
    rw [List.dropLast_concat] at hp
    exact hp.resolve_left (by simp)
  · intro es path n s' ps v sNext _ hv _ _ _
    rw [List.dropLast_concat]
    exact .inr (parent (hv hs))
  · intro es path n s' ps c blk sNext _ hv _ _ _ _
    rw [List.dropLast_concat]
    exact .inr (parent (hv hs))
  · exact absurd (congrArg List.length h) (by simp)

end Walk
end Ipld

/-
  Refinement of the heap-level builder model to the pure assembler model: the abstraction `toPure`,
  an abstract step `astep` that mirrors `hstep` on abstracted states, and its agreement with
  `Asm.step` on histories without misuse.
-/
import IpldModel.Lemmas.HeapLocal
import IpldModel.Lemmas.AsmInv
namespace Ipld
namespace Heap
open Asm

def cellEntry (h : H) (F : Nat) : Cell → Bytes × Option DM
  | .entry k v => (k, v.map (absRef h F))
  | _ => ([], none)

def absGm (h : H) (F : Nat) (g : List (Bytes × NRef)) : List (Bytes × DM) :=
  g.map fun e => (e.1, absRef h F e.2)

def absFrame (h : H) (F : Nat) : HFrame → Frame
  | .map id ph => .map ((cellsOf h id).map (cellEntry h F)) (absGm h F (gmOf h id)) ph
  | .list id ph => .list ((cellsOf h id).filterMap (itemVal h F)) ph

/-- The pure assembler state a heap-level builder state stands for (fuel `F` for reading nodes).  The heap model has no
    prototypes and no wrong-kind refusal at the root: every builder is read as basicnode's Any builder. -/
def toPure (F : Nat) (s : HSt) : St :=
  { proto := .any, frames := s.frames.map (absFrame s.h F), root := s.root.map (absRef s.h F) }

/-- the pure frame of `f` over given cells and lookup map, read in `h` -/
def frameOf (h : H) (F : Nat) (cs : List Cell) (g : List (Bytes × NRef)) : HFrame → Frame
  | .map _ ph => .map (cs.map (cellEntry h F)) (absGm h F g) ph
  | .list _ ph => .list (cs.filterMap (itemVal h F)) ph

theorem absFrame_eq (h : H) (F : Nat) (f : HFrame) :
    absFrame h F f = frameOf h F (cellsOf h f.id) (gmOf h f.id) f := by
  cases f <;> rfl

theorem cellEntry_congr {h h' : H} {F F' : Nat} {c : Cell}
    (hv : ∀ v, c.ref = some v → absRef h' F' v = absRef h F v) : cellEntry h' F' c = cellEntry h F c := by
  cases c with
  | entry k o =>
    cases o with
    | none => rfl
    | some v => simp only [cellEntry, Option.map, hv v rfl]
  | _ => rfl

theorem frameOf_congr {h h' : H} {F : Nat} {cs : List Cell} {g : List (Bytes × NRef)}
    (hc : ∀ c ∈ cs, ∀ v, c.ref = some v → absRef h' F v = absRef h F v)
    (hg : ∀ e ∈ g, absRef h' F e.2 = absRef h F e.2) (f : HFrame) :
    frameOf h' F cs g f = frameOf h F cs g f := by
  have e1 : cs.map (cellEntry h' F) = cs.map (cellEntry h F) :=
    List.map_congr_left fun c hm => cellEntry_congr (hc c hm)
  have e2 : cs.filterMap (itemVal h' F) = cs.filterMap (itemVal h F) :=
    filterMap_congr' fun c hm => itemVal_congr (hc c hm)
  have e3 : absGm h' F g = absGm h F g := by
    unfold absGm
    apply List.map_congr_left
    intro e he; rw [hg e he]
  cases f <;> simp only [frameOf, e1, e2, e3]

def AbsStable (h h' : H) (F : Nat) : Prop := ∀ v, RefOk h.finished v → absRef h' F v = absRef h F v

theorem absStable_of_same {h h' : H} (hi : HeapInv h) (hs : ∀ j ∈ h.finished, SameObj h h' j) (F : Nat) :
    AbsStable h h' F := by
  intro v hv
  refine absRef_congr_ref (· ∈ h.finished) hs hi.closed F v ?_
  intro id e; subst e; exact hv

theorem frameOf_stable {h h' : H} {F : Nat} (hst : AbsStable h h' F) {mp : Bool} {cs : List Cell}
    {g : List (Bytes × NRef)} (hc : ∀ c ∈ cs, CellGood h.finished mp c)
    (hg : ∀ e ∈ g, RefOk h.finished e.2) (f : HFrame) : frameOf h' F cs g f = frameOf h F cs g f :=
  frameOf_congr (fun c hm v hr => hst v ((hc c hm).2 v hr)) (fun e he => hst e.2 (hg e he)) f

theorem absFrames_same {h h' : H} {F : Nat} (hi : HeapInv h) (hst : AbsStable h h' F) {fr : List HFrame}
    (hs : ∀ f ∈ fr, f.id < h.objs.length ∧ SameObj h h' f.id) :
    fr.map (absFrame h' F) = fr.map (absFrame h F) := by
  apply List.map_congr_left
  intro f hf
  obtain ⟨hj, hs⟩ := hs f hf
  rw [absFrame_eq, absFrame_eq, hs.cells, hs.gm]
  exact frameOf_stable hst (hi.cells f.id hj) (hi.gm_ok f.id hj) f

theorem absRoot_same {h h' : H} {F : Nat} (hst : AbsStable h h' F) {r : Option NRef}
    (hr : ∀ v, r = some v → RefOk h.finished v) : r.map (absRef h' F) = r.map (absRef h F) := by
  cases r with
  | none => rfl
  | some v => simp only [Option.map]; rw [hst v (hr v rfl)]

theorem tableEntries_cellEntry (h : H) (F : Nat) (cs : List Cell) :
    tableEntries (cs.map (cellEntry h F)) = cs.filterMap (entryVal h F) := by
  induction cs with
  | nil => rfl
  | cons c r ih =>
    simp only [List.map_cons, List.filterMap_cons]
    have : tableEntries (cellEntry h F c :: r.map (cellEntry h F)) =
        tableEntries [cellEntry h F c] ++ tableEntries (r.map (cellEntry h F)) :=
      tableEntries_append [cellEntry h F c] _
    rw [this, ih]
    cases c with
    | entry k v =>
      cases v with
      | none => rfl
      | some v => rfl
    | _ => rfl

/-- `valuePos`, read on the pure state (`pvaluePos_toPure`) -/
def pvaluePos (p : St) : Bool :=
  match p.frames with
  | [] => p.root.isNone
  | .map _ _ .midValue :: _ => true
  | .list _ .midValue :: _ => true
  | _ => false

/-- `hstep` on abstracted states: the heap-level builder call seen through `toPure`
    (`val` reads the nodes handed in by reference). -/
def astep (p : St) (val : NRef → DM) : HOp → St
  | .reset => { p with frames := [], root := none }
  | .beginMap _ => if pvaluePos p then { p with frames := .map [] [] .init :: p.frames } else p
  | .beginList _ => if pvaluePos p then { p with frames := .list [] .init :: p.frames } else p
  | .assignScalar d => if pvaluePos p then (deliver p d).1 else p
  | .assignNode r => if pvaluePos p then (deliver p (val r)).1 else p
  | .assignNodeShortcut src =>
    if p.frames.isEmpty && p.root.isNone then { p with root := some (val (.obj src)) } else p
  | .assembleKey =>
    match p.frames with
    | .map t m .init :: rest => { p with frames := .map t m .midKey :: rest }
    | _ => p
  | .assembleEntry k =>
    match p.frames with
    | .map t m .init :: rest =>
      if mapHas m k then p else { p with frames := .map (t ++ [(k, none)]) m .midValue :: rest }
    | _ => p
  | .keyString k =>
    match p.frames with
    | .map t m .midKey :: rest =>
      if mapHas m k then { p with frames := .map t m .init :: rest }
      else { p with frames := .map (t ++ [(k, none)]) m .expectValue :: rest }
    | _ => p
  | .assembleValue =>
    match p.frames with
    | .map t m .expectValue :: rest => { p with frames := .map t m .midValue :: rest }
    | .list x .init :: rest => { p with frames := .list x .midValue :: rest }
    | _ => p
  | .finish =>
    match p.frames with
    | .map t _ .init :: rest => (deliver { p with frames := rest } (.map (DMKVs.ofList (tableEntries t)))).1
    | .list x .init :: rest => (deliver { p with frames := rest } (.list (DMs.ofList x))).1
    | _ => p

def FShape : Frame → Prop
  | .map t m ph => Shape t m ph
  | .list _ _ => True

/-- What the refinement carries of `Asm.Inv`: only which entries have values (`MapInv.shape`).  The rest of `Inv`
    speaks of duplicate keys inside the stored values, which `toPure` of a heap state gives no hold on. -/
def PInv (p : St) : Prop := ∀ f ∈ p.frames, FShape f

theorem PInv.tail {p : St} {f : Frame} {rest : List Frame} (h : PInv p) (hf : p.frames = f :: rest) :
    PInv { p with frames := rest } := by
  intro g hg; exact h g (by rw [hf]; exact List.mem_cons_of_mem _ hg)

theorem PInv.replace {p : St} {f g : Frame} {rest : List Frame} (h : PInv p) (hf : p.frames = f :: rest)
    (hg : FShape g) : PInv { p with frames := g :: rest } := by
  intro g' hg'
  rcases List.mem_cons.1 hg' with e | hm
  · subst e; exact hg
  · exact h g' (by rw [hf]; exact List.mem_cons_of_mem _ hm)

theorem PInv.push {p : St} (h : PInv p) (g : Frame) (hg : FShape g) :
    PInv { p with frames := g :: p.frames } := by
  intro g' hg'
  rcases List.mem_cons.1 hg' with e | hm
  · subst e; exact hg
  · exact h g' hm

theorem PInv.top {p : St} {f : Frame} {rest : List Frame} (h : PInv p) (hf : p.frames = f :: rest) :
    FShape f := h f (by rw [hf]; exact List.mem_cons_self ..)

theorem deliver_pinv {p : St} {v : DM} (h : PInv p) : PInv (deliver p v).1 := by
  cases p using St.posCases with
  | mapValue p t m rest rt =>
    have hs : Shape t m .midValue := h.top rfl
    obtain ⟨t0, k, rfl, hd, hk⟩ := hs
    rw [deliver_mapValue v rfl]
    exact h.replace (g := .map (t0 ++ [(k, some v)]) (mapInsert m k v) .init) rfl
      (allDone_append.2 ⟨hd, allDone_single k v⟩)
  | listValue p x rest rt =>
    simp only [deliver]
    exact h.replace (g := .list (x ++ [v]) .init) rfl trivial
  | _ => exact h

theorem astep_pinv {p : St} {val : NRef → DM} {op : HOp} (h : PInv p) : PInv (astep p val op) := by
  cases op with
  | reset => intro f hf; cases hf
  | beginMap n =>
    simp only [astep]; split
    · exact h.push (.map [] [] .init) allDone_nil
    · exact h
  | beginList n =>
    simp only [astep]; split
    · exact h.push (.list [] .init) trivial
    · exact h
  | assignScalar d =>
    simp only [astep]; split
    · exact deliver_pinv h
    · exact h
  | assignNode r =>
    simp only [astep]; split
    · exact deliver_pinv h
    · exact h
  | assignNodeShortcut src => simp only [astep]; split <;> exact h
  | assembleKey =>
    simp only [astep]; split
    · rename_i t m rest hf
      exact h.replace (g := .map t m .midKey) hf (show AllDone t from h.top hf)
    · exact h
  | assembleEntry k =>
    simp only [astep]; split
    · rename_i t m rest hf
      split
      · exact h
      · rename_i hk
        exact h.replace (g := .map (t ++ [(k, none)]) m .midValue) hf
          ⟨t, k, rfl, h.top hf, by simpa using hk⟩
    · exact h
  | keyString k =>
    simp only [astep]; split
    · rename_i t m rest hf
      split
      · exact h.replace (g := .map t m .init) hf (show AllDone t from h.top hf)
      · rename_i hk
        exact h.replace (g := .map (t ++ [(k, none)]) m .expectValue) hf
          ⟨t, k, rfl, h.top hf, by simpa using hk⟩
    · exact h
  | assembleValue =>
    simp only [astep]; split
    · rename_i t m rest hf
      exact h.replace (g := .map t m .midValue) hf (show Pending t m from h.top hf)
    · rename_i x rest hf
      exact h.replace (g := .list x .midValue) hf trivial
    · exact h
  | finish =>
    simp only [astep]; split
    · rename_i t m rest hf; exact deliver_pinv (h.tail hf)
    · rename_i x rest hf; exact deliver_pinv (h.tail hf)
    · exact h

theorem mapHas_absGm (h : H) (F : Nat) (g : List (Bytes × NRef)) (k : Bytes) :
    mapHas (absGm h F g) k = g.any fun e => e.1 = k := by
  induction g with
  | nil => rfl
  | cons e r ih =>
    obtain ⟨a, b⟩ := e
    have : absGm h F ((a, b) :: r) = (a, absRef h F b) :: absGm h F r := rfl
    rw [this]
    unfold mapHas at ih ⊢
    rw [mapLookup_cons]
    by_cases e : a = k
    · simp [e]
    · simp [e, ih]

theorem pvaluePos_toPure (F : Nat) (s : HSt) : pvaluePos (toPure F s) = valuePos s := by
  cases s using HSt.posCases <;> rfl

theorem Mod.absStable {h h' : H} {id : Nat} (hm : Mod h h' id) (hi : HeapInv h) (hnf : id ∉ h.finished)
    (F : Nat) : AbsStable h h' F := by
  apply absStable_of_same hi
  intro j hj
  exact hm.other j (hi.fin_lt j hj) (fun e => hnf (e ▸ hj))

theorem Ext.absStable {h h' : H} {o : Obj} (he : Ext h h' o) (hi : HeapInv h) (F : Nat) :
    AbsStable h h' F := by
  apply absStable_of_same hi
  intro j hj
  exact he.same hi (hi.fin_lt j hj)

/-- After a change confined to the object of the innermost frame, the other frames and the root
    abstract to the same pure values, and the innermost frame is read off the new cells and lookup
    map with the nodes they refer to read in the old heap. -/
theorem toPure_mod {others : List Nat} {s : HSt} {h' : H} {f0 f' : HFrame} {rest : List HFrame}
    {w' : List Loc} (F : Nat) (hi : HInvO others s) (hf : s.frames = f0 :: rest)
    (hm : Mod s.h h' f0.id) (hk : f'.id = f0.id) :
    toPure F { s with h := h', frames := f' :: rest, written := w' } =
      { toPure F s with frames := frameOf s.h F (cellsOf h' f0.id) (gmOf h' f0.id) f' ::
                                    rest.map (absFrame s.h F) } := by
  obtain ⟨_, hlt, hnf, _⟩ := hi.top hf
  have hst := hm.absStable hi.heap hnf F
  have hnd := hi.ids_nodup
  rw [hf] at hnd
  have hnd : f0.id ∉ frameIds rest ++ others := (List.nodup_cons.1 hnd).1
  have hrest : rest.map (absFrame h' F) = rest.map (absFrame s.h F) := by
    apply absFrames_same hi.heap hst
    intro f hfm
    have hlt' := hi.frame_lt (f := f) (by rw [hf]; exact List.mem_cons_of_mem _ hfm)
    refine ⟨hlt', hm.other f.id hlt' ?_⟩
    intro e; apply hnd; rw [← e]
    exact List.mem_append_left _ (List.mem_map.2 ⟨f, hfm, rfl⟩)
  have htop : absFrame h' F f' = frameOf s.h F (cellsOf h' f0.id) (gmOf h' f0.id) f' := by
    rw [absFrame_eq, hk]; exact frameOf_stable hst hm.cells hm.gm_ok f'
  simp only [toPure, List.map_cons, hrest, htop, absRoot_same hst hi.root]

theorem toPure_appendTop {others : List Nat} {s : HSt} (f f' : HFrame) {rest : List HFrame} {c : Cell}
    (F : Nat) (hi : HInvO others s) (hf : s.frames = f :: rest) (hc : CellGood s.h.finished f.isMap c)
    (hk : f'.id = f.id) :
    toPure F (appendTop s f.id c f' rest) =
      { toPure F s with frames := frameOf s.h F (cellsOf s.h f.id ++ [c]) (gmOf s.h f.id) f' ::
                                    rest.map (absFrame s.h F) } := by
  obtain ⟨_, hlt, _, _⟩ := hi.top hf
  unfold appendTop
  rw [toPure_mod F hi hf (hi.mod_append hf hc) hk, cellsOf_hAppend_self c hi.heap hlt,
    gmOf_hAppend_self c hlt]

theorem toPure_addEntry {others : List Nat} {s : HSt} {id : Nat} {rest : List HFrame} {ph0 ph : MPhase}
    (F : Nat) (k : Bytes) (hi : HInvO others s) (hf : s.frames = .map id ph0 :: rest) :
    toPure F (addEntry s id k ph rest) =
      { toPure F s with frames := (Frame.map ((cellsOf s.h id).map (cellEntry s.h F) ++ [(k, none)])
          (absGm s.h F (gmOf s.h id)) ph :: rest.map (absFrame s.h F)) } := by
  refine (toPure_appendTop (.map id ph0) (.map id ph) F hi hf (.entry_none k) rfl).trans ?_
  simp only [frameOf, HFrame.id, List.map_append, List.map_cons, List.map_nil, cellEntry, Option.map_none]

/-- the cell `deliver` looks at and the view of the map object after it has stored the value there -/
theorem hSetLast_cells {h : H} {id : Nat} {t : Slice} {m : Nat} {cs0 : List Cell} {c : Cell} (k : Bytes)
    (v : NRef) (hi : HeapInv h) (hlt : id < h.objs.length) (ho : objAt h id = .map t m)
    (hcs : cellsOf h id = cs0 ++ [c]) :
    (arrAt h t.arr).getD (t.len - 1) .empty = c ∧
      cellsOf (hSetLast h t m k v) id = cs0 ++ [.entry k (some v)] := by
  obtain ⟨h1, h2, h3⟩ : SliceWf h t := by have := hi.wf id hlt; rwa [ho] at this
  have hcs' : (arrAt h t.arr).take t.len = cs0 ++ [c] := by rw [← hcs, cellsOf, ho]; rfl
  -- the visible cells are the first `t.len` of the array, so `c` sits at index `t.len - 1 = cs0.length`
  have hl : t.len = cs0.length + 1 := by
    have := congrArg List.length hcs'
    rw [List.length_take, List.length_append, List.length_singleton] at this; omega
  have hoj : objAt (hSetLast h t m k v) id = .map t m := ho
  constructor
  · have := congrArg (·[cs0.length]?) hcs'
    simp only [List.getElem?_take, List.getElem?_append_right (Nat.le_refl _), Nat.sub_self] at this
    rw [if_pos (by omega)] at this
    rw [List.getD_eq_getElem?_getD, hl, Nat.add_sub_cancel, this]; rfl
  · -- writing that cell replaces the last visible one and no other
    rw [cellsOf, hoj]
    show ((arrAt (hSetLast h t m k v) t.arr).take t.len) = _
    rw [hSetLast, arrAt_gomapInsert, arrAt_writeCell_self h1, setAt_eq_set, List.take_set, hcs', hl,
      Nat.add_sub_cancel, List.set_append, if_neg (Nat.lt_irrefl _), Nat.sub_self]
    rfl

theorem gmOf_hSetLast {h : H} {id : Nat} {t : Slice} {m : Nat} {k : Bytes} {v : NRef}
    (hi : HeapInv h) (hlt : id < h.objs.length) (ho : objAt h id = .map t m) :
    gmOf (hSetLast h t m k v) id = ((gmOf h id).filter fun e => e.1 ≠ k) ++ [(k, v)] := by
  have hoj : objAt (hSetLast h t m k v) id = objAt h id := rfl
  have hm := hi.gm_lt id m hlt (by rw [ho]; rfl)
  unfold gmOf
  rw [hoj, ho]
  simp only [Obj.gm, hSetLast]
  rw [gmAt_gomapInsert, if_pos ⟨rfl, by simpa using hm⟩]
  rfl

theorem cells_pending {h : H} {F : Nat} {cs : List Cell} {t0 : List (Bytes × Option DM)} {k : Bytes}
    (ht : cs.map (cellEntry h F) = t0 ++ [(k, none)]) (hk : ∀ c ∈ cs, CellKind true c) :
    ∃ cs0, cs = cs0 ++ [.entry k none] ∧ cs0.map (cellEntry h F) = t0 := by
  obtain ⟨cs0, l, rfl, h0, hl⟩ := List.map_eq_append_iff.1 ht
  obtain ⟨c, rfl, hc⟩ := List.map_eq_singleton_iff.1 hl
  refine ⟨cs0, ?_, h0⟩
  have := hk c (List.mem_append_right _ (List.mem_singleton_self c))
  cases c with
  | entry k' o =>
    cases o with
    | none => cases hc; rfl
    | some x => cases hc
  | empty => cases this
  | item x => cases this

theorem toPure_hdeliver {others : List Nat} {s : HSt} {v : NRef} (F : Nat) (hi : HInvO others s)
    (hv : RefOk s.h.finished v) (hp : PInv (toPure F s)) :
    toPure F (hdeliver s v) = (deliver (toPure F s) (absRef s.h F v)).1 := by
  cases hfr : s.frames with
  | nil => obtain ⟨h, fr, rt, w⟩ := s; cases hfr; rfl
  | cons f rest =>
    cases f with
    | map id ph =>
      cases ph with
      | midValue =>
        have hlt : id < s.h.objs.length := (hi.top hfr).2.1
        obtain ⟨t, m, ho⟩ := hi.top_map hfr
        have hpf : (toPure F s).frames = .map ((cellsOf s.h id).map (cellEntry s.h F))
            (absGm s.h F (gmOf s.h id)) .midValue :: rest.map (absFrame s.h F) := by
          rw [toPure, hfr]; rfl
        -- the abstract frame is waiting for a value, so the table ends in the cell of a waiting entry
        obtain ⟨t0, k, ht, hd, hmk⟩ : Pending ((cellsOf s.h id).map (cellEntry s.h F))
            (absGm s.h F (gmOf s.h id)) := hp.top hpf
        obtain ⟨cs0, hcs, ht0⟩ := cells_pending ht
          (fun c hc => by have := (hi.heap.cells id hlt c hc).1; rwa [ho] at this)
        obtain ⟨hlast, hcells⟩ := hSetLast_cells k v hi.heap hlt ho hcs
        have hfil : ((gmOf s.h id).filter fun e => e.1 ≠ k) = gmOf s.h id :=
          filter_ne_of_not_any (by rw [← mapHas_absGm s.h F]; exact hmk)
        -- so `hdeliver` finds that cell, completes it and records the key, which is new, in the lookup map
        rw [hdeliver_map v hfr]
        simp only [ho, hlast]
        refine (toPure_mod (f' := .map id .init) F hi hfr (hi.mod_setLast k hfr ho hv) rfl).trans ?_
        simp only [HFrame.id]
        rw [hcells, gmOf_hSetLast hi.heap hlt ho, hfil]
        rw [deliver_mapValue _ (ht ▸ hpf), mapInsert_of_not_has _ hmk]
        simp only [frameOf, absGm, List.map_append, List.map_cons, List.map_nil, cellEntry, Option.map, ht0]
      | init => obtain ⟨h, fr, rt, w⟩ := s; cases hfr; rfl
      | midKey => obtain ⟨h, fr, rt, w⟩ := s; cases hfr; rfl
      | expectValue => obtain ⟨h, fr, rt, w⟩ := s; cases hfr; rfl
    | list id ph =>
      cases ph with
      | init => obtain ⟨h, fr, rt, w⟩ := s; cases hfr; rfl
      | midValue =>
        obtain ⟨x, ho⟩ := hi.top_list hfr
        rw [hdeliver_list v hfr]
        simp only [ho]
        refine (toPure_appendTop (.list id .midValue) (.list id .init) F hi hfr (.item hv) rfl).trans ?_
        simp only [deliver, toPure, hfr, List.map_cons, absFrame, frameOf, List.filterMap_append,
          List.filterMap_cons, List.filterMap_nil, itemVal, HFrame.id]

theorem toPure_markFin (F : Nat) (s : HSt) (id : Nat) (rest : List HFrame) :
    toPure F (markFin s id rest) = { toPure F s with frames := rest.map (absFrame s.h F) } := by
  simp only [toPure, markFin]
  congr 1
  · apply List.map_congr_left; intro f _
    rw [absFrame_eq, absFrame_eq]
    exact frameOf_congr (fun _ _ v _ => absRef_hFinish s.h id F v) (fun e _ => absRef_hFinish s.h id F e.2) f
  · cases s.root with
    | none => rfl
    | some v => simp [absRef_hFinish]

/-- With enough fuel, the value of a finished map/list object is built from the values of its cells
    read with the same fuel.  Reading the object itself takes one unit more than reading what its cells
    refer to (`absRef_fuel` needs `finished.length ≤` fuel for those), hence the strict bound, here and
    in every statement about a step that may finish an object. -/
theorem absRef_obj_full {h : H} (hi : HeapInv h) {id : Nat} (hlt : id < h.objs.length) {F : Nat}
    (hF : h.finished.length < F) :
    absRef h F (.obj id) =
      if (objAt h id).isMap then .map (DMKVs.ofList (tableEntries ((cellsOf h id).map (cellEntry h F))))
      else .list (DMs.ofList ((cellsOf h id).filterMap (itemVal h F))) := by
  obtain ⟨F', rfl⟩ : ∃ F', F = F' + 1 := ⟨F - 1, by omega⟩
  have hv : ∀ c ∈ cellsOf h id, ∀ v, c.ref = some v → absRef h F' v = absRef h (F' + 1) v :=
    fun c hc v hr => hi.absRef_fuel ((hi.cells id hlt c hc).2 v hr) (by omega) (by omega)
  rw [absRef_succ, tableEntries_cellEntry, filterMap_congr' fun c hc => entryVal_congr (hv c hc),
    filterMap_congr' fun c hc => itemVal_congr (hv c hc)]

theorem absRef_hCopy {h : H} (hi : HeapInv h) {src : Nat} (hs : src ∈ h.finished) (F : Nat) :
    absRef (hCopy h src) F (.obj h.objs.length) = absRef h F (.obj src) := by
  have e := hCopy_ext h src
  have hsl := hi.fin_lt src hs
  cases F with
  | zero => rfl
  | succ F' =>
    refine absRef_succ_congr (by rw [e.objAt_new]) (cellsOf_hCopy_new hi hsl) ?_
    intro c hc v hr
    exact e.absStable hi F' v ((hi.cells src hsl c hc).2 v hr)

theorem toPure_push {others : List Nat} {s : HSt} {h' : H} {o : Obj} (f : HFrame) (F : Nat)
    (hi : HInvO others s) (he : Ext s.h h' o) (hid : f.id = s.h.objs.length) (hlen : o.slice.len = 0)
    (hg : gmOf h' s.h.objs.length = []) :
    toPure F { s with h := h', frames := f :: s.frames } =
      { toPure F s with frames := frameOf s.h F [] [] f :: (toPure F s).frames } := by
  have hst := he.absStable hi.heap F
  have e1 : s.frames.map (absFrame h' F) = s.frames.map (absFrame s.h F) :=
    absFrames_same hi.heap hst fun f hfm => ⟨hi.frame_lt hfm, he.same hi.heap (hi.frame_lt hfm)⟩
  have hnew : absFrame h' F f = frameOf s.h F [] [] f := by
    rw [absFrame_eq, hid, he.cellsOf_new_nil hlen, hg]; cases f <;> rfl
  simp only [toPure, List.map_cons, hnew, e1, absRoot_same hst hi.root]

theorem gomapHas_eq {h : H} {id : Nat} {t : Slice} {m : Nat} (F : Nat) (k : Bytes)
    (ho : objAt h id = .map t m) : mapHas (absGm h F (gmOf h id)) k = gomapHas h m k := by
  rw [mapHas_absGm]
  unfold gmOf gomapHas; rw [ho]; rfl

theorem toPure_finish {others : List Nat} {s : HSt} (f : HFrame) {rest : List HFrame} (F : Nat)
    (hi : HInvO others s) (hf : s.frames = f :: rest) (hp : PInv (toPure F s))
    (hF : s.h.finished.length < F) :
    toPure F (hdeliver (markFin s f.id rest) (.obj f.id)) =
      (deliver { toPure F s with frames := rest.map (absFrame s.h F) }
        (if f.isMap then .map (DMKVs.ofList (tableEntries ((cellsOf s.h f.id).map (cellEntry s.h F))))
         else .list (DMs.ofList ((cellsOf s.h f.id).filterMap (itemVal s.h F))))).1 := by
  obtain ⟨_, hlt, _, hk⟩ := hi.top hf
  have hp' : PInv (toPure F (markFin s f.id rest)) := by
    rw [toPure_markFin]
    exact hp.tail (f := absFrame s.h F f) (by rw [toPure, hf]; rfl)
  rw [toPure_hdeliver F (markFin_inv hi hf) (List.mem_cons_self ..) hp', toPure_markFin]
  simp only [markFin, absRef_hFinish]
  rw [absRef_obj_full hi.heap hlt hF, hk]

/-- What the refinement needs of a state: the invariant, well-shaped map frames in the pure state it stands for, and
    fuel exceeding the number of finished nodes, so that no read is truncated. -/
structure Readable (F : Nat) (others : List Nat) (s : HSt) : Prop where
  inv : HInvO others s
  shape : PInv (toPure F s)
  fuel : s.h.finished.length < F

theorem toPure_hstep {others : List Nat} {s : HSt} {op : HOp} {F : Nat} (r : Readable F others s)
    (hw : OpWf s op) : toPure F (hstep s op) = astep (toPure F s) (absRef s.h F) op := by
  obtain ⟨hi, hp, hF⟩ := r
  cases op with
  | reset => rfl
  | beginMap hint =>
    rw [hstep_beginMap]; simp only [astep, pvaluePos_toPure]
    split
    · exact toPure_push (.map s.h.objs.length .init) F hi (hNewMap_ext _ _) rfl rfl (gmOf_hNewMap _ _)
    · rfl
  | beginList hint =>
    rw [hstep_beginList]; simp only [astep, pvaluePos_toPure]
    split
    · exact toPure_push (.list s.h.objs.length .init) F hi (hNewList_ext _ _) rfl rfl (gmOf_hNewList _ _)
    · rfl
  | assignScalar d =>
    rw [hstep_assignScalar]; simp only [astep, pvaluePos_toPure]
    split
    · rw [toPure_hdeliver (v := .scalar d) F hi trivial hp, absRef_scalar]
    · rfl
  | assignNode r =>
    rw [hstep_assignNode]; simp only [astep, pvaluePos_toPure]
    split
    · refine toPure_hdeliver F hi ?_ hp
      cases r with
      | scalar d => trivial
      | obj id => exact hw
    · rfl
  | assignNodeShortcut src =>
    rw [hstep_shortcut]
    simp only [astep, toPure, List.isEmpty_map, Option.isNone_map]
    split
    · rename_i hc
      simp only [doShortcut, List.isEmpty_iff.1 (Bool.and_eq_true_iff.1 hc).1, List.map_nil, Option.map,
        absRef_hCopy hi.heap hw]
    · rfl
  | assembleKey => cases s using HSt.posCases <;> rfl
  | assembleValue => cases s using HSt.posCases <;> rfl
  | assembleEntry k =>
    cases s using HSt.posCases with
    | mapInit h id rest rt w =>
      obtain ⟨t, m, ho⟩ := hi.top_map rfl
      rw [hstep_assembleEntry k rfl]
      simp only [ho, astep, toPure, List.map_cons, absFrame, gomapHas_eq F k ho]
      split
      · rfl
      · exact toPure_addEntry F k hi rfl
    | _ => rfl
  | keyString k =>
    cases s using HSt.posCases with
    | mapKey h id rest rt w =>
      obtain ⟨t, m, ho⟩ := hi.top_map rfl
      rw [hstep_keyString k rfl]
      simp only [ho, astep, toPure, List.map_cons, absFrame, gomapHas_eq F k ho]
      split
      · rfl
      · exact toPure_addEntry F k hi rfl
    | _ => rfl
  | finish =>
    cases s using HSt.posCases with
    | mapInit h id rest rt w => exact (toPure_finish (.map id .init) F hi rfl hp hF).trans rfl
    | listInit h id rest rt w => exact (toPure_finish (.list id .init) F hi rfl hp hF).trans rfl
    | _ => rfl

/-- the pure call a heap-level call stands for (`reset` and the shortcut have none) -/
def trOp (val : NRef → DM) : HOp → Option Op
  | .beginMap n => some (.beginMap n)
  | .beginList n => some (.beginList n)
  | .assembleKey => some .assembleKey
  | .assembleValue => some .assembleValue
  | .assembleEntry k => some (.assembleEntry k)
  | .keyString k => some (.assign (.str k))
  | .assignScalar d => some (.assign d)
  | .assignNode r => some (.assignNode (val r))
  | .finish => some .finish
  | .reset => none
  | .assignNodeShortcut _ => none

/-- `NoMisuse`, read on the pure state a heap-level state stands for: `keyString` is the key
    assembler's call and only that; `assignScalar` takes scalars -/
def PNoMisuse (p : St) : HOp → Prop
  | .reset => False
  | .assignNodeShortcut _ => False
  | .keyString _ => inKey p = true
  | .assignScalar d => isScalar d = true ∧ inKey p = false
  | .assignNode _ => inKey p = false
  | _ => True

theorem astep_eq_step {p : St} {val : NRef → DM} {op : HOp} {o : Op} (hpr : p.proto = .any)
    (ht : trOp val op = some o) (hm : PNoMisuse p op) : astep p val op = (step p o).1 := by
  cases op with
  | reset => cases ht
  | assignNodeShortcut src => cases ht
  | beginMap n => cases ht; cases p using St.posCases <;> cases hpr <;> rfl
  | beginList n => cases ht; cases p using St.posCases <;> cases hpr <;> rfl
  | assembleKey => cases ht; cases p using St.posCases <;> rfl
  | assembleValue => cases ht; cases p using St.posCases <;> rfl
  | finish => cases ht; cases p using St.posCases <;> rfl
  | assembleEntry k =>
    cases ht
    cases p using St.posCases with
    | mapInit p t m rest rt => simp only [astep, step]; split <;> rfl
    | _ => rfl
  | keyString k =>
    cases ht
    cases p using St.posCases with
    | mapKey p t m rest rt => simp only [astep, step, supplyKey]; split <;> rfl
    | _ => cases hm
  | assignScalar d =>
    cases ht
    obtain ⟨hs, hk⟩ := hm
    cases p using St.posCases with
    | mapKey p t m rest rt => cases hk
    | _ => cases hpr; simp [astep, step, valueCall, pvaluePos, Proto.accepts, hs]
  | assignNode r =>
    cases ht
    cases p using St.posCases with
    | mapKey p t m rest rt => cases hm
    | _ => cases hpr; rfl

/-- `Asm.inKey`, read on the heap-level state (`inKey_toPure`) -/
def midKeyH (s : HSt) : Bool :=
  match s.frames with
  | .map _ .midKey :: _ => true
  | _ => false

/-- calls that mean the same at heap level and in the pure model: no `reset`, no shortcut, `keyString`
    exactly for the key assembler, `assignScalar` with a scalar -/
def NoMisuse (s : HSt) : HOp → Prop
  | .reset => False
  | .assignNodeShortcut _ => False
  | .keyString _ => midKeyH s = true
  | .assignScalar d => isScalar d = true ∧ midKeyH s = false
  | .assignNode _ => midKeyH s = false
  | _ => True

theorem inKey_toPure (F : Nat) (s : HSt) : inKey (toPure F s) = midKeyH s := by
  cases s using HSt.posCases <;> rfl

theorem step_refines {others : List Nat} {s : HSt} {op : HOp} {o : Op} {F : Nat} (r : Readable F others s)
    (hw : OpWf s op) (hm : NoMisuse s op) (ht : trOp (absRef s.h F) op = some o) :
    toPure F (hstep s op) = (step (toPure F s) o).1 := by
  rw [toPure_hstep r hw]
  refine astep_eq_step rfl ht ?_
  cases op <;> simp only [NoMisuse, PNoMisuse, inKey_toPure] at hm ⊢ <;> exact hm

/-- the pure history a heap-level history stands for (nodes handed in by reference are read in the
    heap of the moment) -/
def pureOps (F : Nat) : HSt → List HOp → List Op
  | _, [] => []
  | s, op :: ops => (trOp (absRef s.h F) op).toList ++ pureOps F (hstep s op) ops

def HistOk : HSt → List HOp → Prop
  | _, [] => True
  | s, op :: ops => NoMisuse s op ∧ HistOk (hstep s op) ops

def steps (p : St) (os : List Op) : St := os.foldl (fun p o => (step p o).1) p

theorem toPure_proto (F : Nat) (s : HSt) : (toPure F s).proto = .any := rfl

theorem fuel_of_hrun {s : HSt} {ops : List HOp} {F : Nat} (hF : (hrun s ops).h.finished.length < F) :
    s.h.finished.length < F := by
  obtain ⟨l, e, _⟩ := hrun_finished s ops
  rw [e, List.length_append] at hF
  exact Nat.lt_of_le_of_lt (Nat.le_add_left _ _) hF

theorem Readable.step {others : List Nat} {s : HSt} {op : HOp} {ops : List HOp} {F : Nat} (r : Readable F others s)
    (hw : OpWf s op) (hF : (hrun s (op :: ops)).h.finished.length < F) : Readable F others (hstep s op) :=
  ⟨hstep_inv r.inv hw, by rw [toPure_hstep r hw]; exact astep_pinv r.shape, fuel_of_hrun (ops := ops) hF⟩

theorem run_refines {others : List Nat} {s : HSt} {ops : List HOp} (F : Nat) (hi : HInvO others s)
    (hw : HistWf s ops) (hok : HistOk s ops) (hp : PInv (toPure F s))
    (hF : (hrun s ops).h.finished.length < F) :
    toPure F (hrun s ops) = steps (toPure F s) (pureOps F s ops) := by
  induction ops generalizing s with
  | nil => rfl
  | cons op ops ih =>
    have r : Readable F others s := ⟨hi, hp, fuel_of_hrun hF⟩
    have r1 := r.step hw.1 hF
    simp only [hrun, pureOps]
    rw [ih r1.inv hw.2 hok.2 r1.shape hF]
    cases ht : trOp (absRef s.h F) op with
    | none =>
      have := hok.1
      cases op <;> simp [trOp] at ht <;> simp [NoMisuse] at this
    | some o =>
      rw [step_refines r hw.1 hok.1 ht]
      simp [steps]

theorem run_no_panic {p : St} {os : List Op} (h : Out.panic ∉ (run p os).2) : (run p os).1 = steps p os := by
  rw [run_eq_hist] at h ⊢
  exact Hist.run_fst_of_no_panic os p h

/-- `Build()` at heap level: the abstraction of the root once the builder is done -/
def hbuild (F : Nat) (s : HSt) : Option DM :=
  if s.frames.isEmpty then s.root.map (absRef s.h F) else none

theorem build_toPure (F : Nat) (s : HSt) : build (toPure F s) = hbuild F s := by
  simp [build, hbuild, toPure]

theorem pinv_init (F : Nat) {h : H} : PInv (toPure F { h := h }) := by
  intro f hf; cases hf

end Heap
end Ipld

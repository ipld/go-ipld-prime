/-
  `children` and `childList` against the spec's `ownSegs` / `segsAt` / `childAt`: the loop runs over the segments the
  spec tries, in its order, and finds what `lookupBySegment` finds — for nodes without duplicate map keys.
-/
import IpldModel.Spec.SelectorDenote
import IpldModel.Lemmas.WalkEq
import IpldModel.Lemmas.Children
namespace Ipld
namespace Walk
open Sel Spec

theorem deref_nonlink {store : Store} {v : DM} (h : ∀ c, v ≠ .link c) : deref store v = some v := by
  cases v <;> first | rfl | exact absurd rfl (h _)

theorem deref_link {store : Store} {c : Bytes} {blk : DM} (h : storeGet store c = some blk) :
    deref store (.link c) = some blk := by
  rw [← h, storeGet_eq_lookup]; rfl

theorem ownSegs_nodup {n : DM} (hn : n.NoDup) : (ownSegs n).Nodup := by
  cases n with
  | map es =>
    simp only [DM.NoDup] at hn
    exact nodup_map_inj Seg.str (fun a b h => by cases h; rfl) hn.1
  | list xs => exact nodup_map_inj Seg.idx (fun a b h => by cases h; rfl) List.nodup_range
  | _ => exact List.nodup_nil

theorem children_segs (n : DM) : (children n).map (·.1) = ownSegs n := by
  cases n with
  | map es => simp only [children, ownSegs, DMKVs.keys, List.map_map]; rfl
  | list xs =>
    simp only [children, ownSegs, DMs.length, List.map_map]
    rw [show (fun x : Seg × DM => x.1) ∘ (fun e : DM × Nat => (Seg.idx e.2, e.1)) = Seg.idx ∘ Prod.snd from rfl,
      ← List.map_map, List.zipIdx_map_snd, List.range_eq_range']
  | _ => rfl

theorem filterMap_fst_sublist (n : DM) : (segs : List Seg) →
    ((segs.filterMap fun ps => (lookupBySegment n ps).map fun v => (ps, v)).map (·.1)).Sublist segs
  | [] => List.Sublist.slnil
  | ps :: segs => by
    rw [List.filterMap_cons]
    cases lookupBySegment n ps with
    | none => exact (filterMap_fst_sublist n segs).cons _
    | some v => exact (filterMap_fst_sublist n segs).cons_cons _

theorem childList_segs_sublist (n : DM) (s : S) : ((childList n s).map (·.1)).Sublist (segsAt n s) := by
  unfold childList segsAt
  cases interests s with
  | none => exact children_segs n ▸ List.Sublist.refl _
  | some l => exact filterMap_fst_sublist n l

/-- "No segment twice" in its three forms: the spec's `SegsNodup` asks this of `segsAt` at every selected position;
    the loop's segments are a sublist of `segsAt` (`childList_segs_nodup`); and the hypothesis of `grow_all` asks it
    only of the children the selector explores, a sublist again. -/
theorem segsAt_nodup {n : DM} {s : S} (hn : n.NoDup) (hs : ∀ l, interests s = some l → l.Nodup) :
    (segsAt n s).Nodup := by
  unfold segsAt
  cases hi : interests s with
  | none => exact ownSegs_nodup hn
  | some l => exact hs l hi

theorem childList_segs_nodup {n : DM} {s : S} (hn : n.NoDup) (hs : ∀ l, interests s = some l → l.Nodup) :
    ((childList n s).map (·.1)).Nodup :=
  (segsAt_nodup hn hs).sublist (childList_segs_sublist n s)

theorem children_eq_lookup {n : DM} (hn : n.NoDup) :
    children n = (ownSegs n).filterMap fun seg => (lookupBySegment n seg).map fun v => (seg, v) := by
  cases n with
  | map es =>
    simp only [DM.NoDup, DMKVs.keys] at hn
    simp only [children, ownSegs, DMKVs.keys, List.filterMap_map]
    symm
    apply filterMap_eq_map_of
    intro e he
    simp only [Function.comp, lookupBySegment, Seg.toString, find?_key_of_mem (·.1) hn.1 e he, Option.map_some]
  | list xs =>
    simp only [children, ownSegs, List.filterMap_map, DMs.length]
    have h := congrArg (List.map fun e : Nat × DM => (Seg.idx e.1, e.2)) (zipIdx_as_range xs.toList)
    rw [List.map_map, List.map_filterMap] at h
    rw [show (fun e : DM × Nat => (Seg.idx e.2, e.1)) = ((fun e : Nat × DM => (Seg.idx e.1, e.2)) ∘ fun e => (e.2, e.1))
      from rfl, h]
    apply filterMap_congr'
    intro i _
    simp only [Function.comp, lookup_list_idx, Option.map_map]
    rfl
  | _ => rfl

theorem childList_eq_lookup {n : DM} (hn : n.NoDup) (s : S) :
    childList n s = (segsAt n s).filterMap fun seg => (childAt n s seg).map fun v => (seg, v) := by
  have hc : ∀ l : List Seg, (∀ x ∈ l, x ∈ segsAt n s) →
      (l.filterMap fun seg => (lookupBySegment n seg).map fun v => (seg, v)) =
        l.filterMap fun seg => (childAt n s seg).map fun v => (seg, v) := by
    intro l hl
    apply filterMap_congr'
    intro x hx
    simp only [childAt, hl x hx, if_true]
  unfold childList
  cases hi : interests s with
  | none =>
    have : segsAt n s = ownSegs n := by simp [segsAt, hi]
    simp only
    rw [children_eq_lookup hn, ← this]
    exact hc _ (fun x hx => hx)
  | some segs =>
    have : segsAt n s = segs := by simp [segsAt, hi]
    simp only
    rw [this]
    exact hc _ (fun x hx => by rw [this]; exact hx)

theorem childList_mem_iff {n : DM} (hn : n.NoDup) {s : S} {seg : Seg} {v : DM} :
    (seg, v) ∈ childList n s ↔ seg ∈ segsAt n s ∧ lookupBySegment n seg = some v := by
  rw [childList_eq_lookup hn, List.mem_filterMap]
  constructor
  · rintro ⟨seg', hm, h⟩
    simp only [childAt, hm, if_true, Option.map_eq_some_iff, Prod.mk.injEq] at h
    obtain ⟨v', hv, rfl, rfl⟩ := h
    exact ⟨hm, hv⟩
  · rintro ⟨hm, hv⟩
    exact ⟨seg, hm, by simp [childAt, hm, hv]⟩

theorem childList_nonrec {n : DM} (h : isRecursive n = false) (s : S) : childList n s = [] := by
  unfold childList
  cases n <;> simp [isRecursive] at h <;> cases interests s <;> simp [children, lookupBySegment]

end Walk
end Ipld

/-
  CBOR heads and big-endian bytes, model against Spec; the two key orders through one three-way comparison `cmp3`.
-/
import IpldModel.Model.Cbor
import IpldModel.Spec.CanonCbor
namespace Ipld
namespace Cbor

@[simp] theorem DMs.length_nil : DMs.length .nil = 0 := rfl
@[simp] theorem DMs.length_cons (x : DM) (xs : DMs) : (DMs.cons x xs).length = xs.length + 1 := by
  simp [DMs.length, DMs.toList]
@[simp] theorem DMKVs.length_nil : DMKVs.length .nil = 0 := rfl
@[simp] theorem DMKVs.length_cons (k : Bytes) (v : DM) (es : DMKVs) : (DMKVs.cons k v es).length = es.length + 1 := by
  simp [DMKVs.length, DMKVs.toList]
@[simp] theorem DMKVs.keys_nil : DMKVs.keys .nil = [] := rfl
@[simp] theorem DMKVs.keys_cons (k : Bytes) (v : DM) (es : DMKVs) : (DMKVs.cons k v es).keys = k :: es.keys := by
  simp [DMKVs.keys, DMKVs.toList]

theorem beBytes_length (w n : Nat) : (beBytes w n).length = w := by
  induction w with
  | zero => rfl
  | succ w ih => simp [beBytes, ih]

theorem head_length (m n : Nat) : (head m n).length = uintLength n := by
  unfold head uintLength
  simp only [apply_ite List.length, List.length_cons, List.length_nil, beBytes_length]

theorem spec_be_eq (w n : Nat) : Spec.be w n = beBytes w n := by
  induction w with
  | zero => rfl
  | succ w ih => simp [Spec.be, beBytes, ih]

theorem head_eq_shortest (m n : Nat) : head m n = Spec.shortestHead m n := by
  unfold head Spec.shortestHead
  rw [Nat.mul_comm m 32]
  by_cases h1 : n < 24
  · rw [if_pos h1, if_pos h1]
  rw [if_neg h1, if_neg h1]
  by_cases h2 : n < 256
  · rw [if_pos h2, if_pos h2]
    simp only [Spec.be, Nat.pow_zero, Nat.div_one, Nat.mod_eq_of_lt h2]
  rw [if_neg h2, if_neg h2]
  simp only [spec_be_eq]

/-- Comparing first by a number and breaking ties by `p`: the shape of both `lexLE` on two
    non-empty strings and `cborLE`. -/
def cmp3 (x y : Nat) (p : Bool) : Bool := if x < y then true else if y < x then false else p

theorem cmp3_total {x y : Nat} {p q : Bool} (h : (p || q) = true) : (cmp3 x y p || cmp3 y x q) = true := by
  unfold cmp3
  by_cases h1 : x < y
  · rw [if_pos h1]; rfl
  · by_cases h2 : y < x
    · rw [if_neg h1, if_pos h2, if_pos h2]; rfl
    · rw [if_neg h1, if_neg h2, if_neg h2, if_neg h1]; exact h

theorem cmp3_trans {x y z : Nat} {p q r : Bool} (h : p = true → q = true → r = true)
    (h1 : cmp3 x y p = true) (h2 : cmp3 y z q = true) : cmp3 x z r = true := by
  unfold cmp3 at *
  by_cases a1 : x < y
  · by_cases b1 : y < z
    · rw [if_pos (Nat.lt_trans a1 b1)]
    · by_cases b2 : z < y
      · rw [if_neg b1, if_pos b2] at h2; cases h2
      · rw [if_pos (by omega)]
  · by_cases a2 : y < x
    · rw [if_neg a1, if_pos a2] at h1; cases h1
    · rw [if_neg a1, if_neg a2] at h1
      by_cases b1 : y < z
      · rw [if_pos (by omega)]
      · by_cases b2 : z < y
        · rw [if_neg b1, if_pos b2] at h2; cases h2
        · rw [if_neg b1, if_neg b2] at h2
          rw [if_neg (by omega), if_neg (by omega)]
          exact h h1 h2

theorem cmp3_antisymm {x y : Nat} {p q : Bool} (h1 : cmp3 x y p = true) (h2 : cmp3 y x q = true) :
    x = y ∧ p = true ∧ q = true := by
  unfold cmp3 at *
  by_cases a1 : x < y
  · rw [if_neg (by omega), if_pos a1] at h2; cases h2
  · by_cases a2 : y < x
    · rw [if_neg a1, if_pos a2] at h1; cases h1
    · rw [if_neg a1, if_neg a2] at h1
      rw [if_neg a2, if_neg a1] at h2
      exact ⟨by omega, h1, h2⟩

theorem lexLE_cons (x y : UInt8) (xs ys : Bytes) : lexLE (x :: xs) (y :: ys) = cmp3 x.toNat y.toNat (lexLE xs ys) := rfl
theorem cborLE_eq (a b : Bytes) : cborLE a b = cmp3 a.length b.length (lexLE a b) := rfl

theorem lexLE_refl : (a : Bytes) → lexLE a a = true
  | [] => rfl
  | x :: xs => by simp [lexLE, lexLE_refl xs]

theorem lexLE_total : (a b : Bytes) → (lexLE a b || lexLE b a) = true
  | [], _ => by simp [lexLE]
  | _ :: _, [] => by simp [lexLE]
  | x :: xs, y :: ys => by rw [lexLE_cons, lexLE_cons]; exact cmp3_total (lexLE_total xs ys)

theorem lexLE_trans : (a b c : Bytes) → lexLE a b = true → lexLE b c = true → lexLE a c = true
  | [], _, _, _, _ => by simp [lexLE]
  | _ :: _, [], _, h, _ => by simp [lexLE] at h
  | _ :: _, _ :: _, [], _, h => by simp [lexLE] at h
  | x :: xs, y :: ys, z :: zs, h1, h2 => by
    rw [lexLE_cons] at h1 h2 ⊢
    exact cmp3_trans (lexLE_trans xs ys zs) h1 h2

theorem lexLE_antisymm : (a b : Bytes) → lexLE a b = true → lexLE b a = true → a = b
  | [], [], _, _ => rfl
  | [], _ :: _, _, h => by simp [lexLE] at h
  | _ :: _, [], h, _ => by simp [lexLE] at h
  | x :: xs, y :: ys, h1, h2 => by
    rw [lexLE_cons] at h1 h2
    obtain ⟨e, p, q⟩ := cmp3_antisymm h1 h2
    rw [UInt8.toNat_inj.mp e, lexLE_antisymm xs ys p q]

theorem cborLE_total (a b : Bytes) : (cborLE a b || cborLE b a) = true := by
  rw [cborLE_eq, cborLE_eq]; exact cmp3_total (lexLE_total a b)

theorem cborLE_trans (a b c : Bytes) : cborLE a b = true → cborLE b c = true → cborLE a c = true := by
  intro h1 h2
  rw [cborLE_eq] at h1 h2 ⊢; exact cmp3_trans (lexLE_trans a b c) h1 h2

theorem cborLE_antisymm (a b : Bytes) : cborLE a b = true → cborLE b a = true → a = b := by
  intro h1 h2
  rw [cborLE_eq] at h1 h2
  exact lexLE_antisymm a b (cmp3_antisymm h1 h2).2.1 (cmp3_antisymm h1 h2).2.2

theorem spec_bytewiseLE_eq : (a b : Bytes) → Spec.bytewiseLE a b = lexLE a b
  | [], _ => by simp [Spec.bytewiseLE, lexLE]
  | _ :: _, [] => by simp [Spec.bytewiseLE, lexLE]
  | x :: xs, y :: ys => by simp [Spec.bytewiseLE, lexLE, spec_bytewiseLE_eq xs ys]

theorem spec_keyLE_eq (a b : Bytes) : Spec.keyLE a b = cborLE a b := by
  unfold Spec.keyLE cborLE
  rw [spec_bytewiseLE_eq]
  by_cases h1 : a.length < b.length
  · have : a.length ≠ b.length := by omega
    simp [h1, this]
  · by_cases h2 : b.length < a.length
    · have : a.length ≠ b.length := by omega
      simp [h1, h2, this]
    · have : a.length = b.length := by omega
      simp [this]

end Cbor
end Ipld

/-
  Which conforming typed values have a representation: exactly those of canonical shape (struct
  entries = the fields, in declaration order) in which no tuple-represented struct has an absent
  field before a present one.
-/
import IpldModel.Lemmas.SchemaConf
namespace Ipld
namespace Schema

theorem stringy_repr {ty v d} (hs : Ty.stringy ty = true) (h : toRepr ty false v = some d) :
    ∃ s, d = .str s := by
  unfold Ty.stringy at hs
  split at hs
  · cases v with
    | str s => exact ⟨s, (Option.some.inj h).symm⟩
    | _ => contradiction
  · cases v with
    | str s =>
      rw [toRepr_enum] at h
      split at h
      · exact ⟨_, (Option.some.inj h).symm⟩
      · contradiction
    | _ => contradiction
  · cases v with
    | map es =>
      rw [toRepr_struct_stringjoin] at h
      split at h
      · contradiction
      · split at h
        · contradiction
        · obtain ⟨ss, _, rfl⟩ := Option.map_eq_some_iff.1 h
          exact ⟨_, rfl⟩
    | _ => contradiction
  · cases v with
    | map es =>
      rcases es with _ | ⟨k, v, _ | _⟩
      · contradiction
      · rw [toRepr_union] at h
        split at h
        · contradiction
        · split at h
          · contradiction
          · dsimp only at h
            split at h
            · exact ⟨_, (Option.some.inj h).symm⟩
            · contradiction
      · contradiction
    | _ => contradiction
  · contradiction

theorem join_vals {fs : List Field} : ∀ {es vals}, reprFields fs es = some vals →
    (∀ f ∈ fs, f.opt = false ∧ f.nullable = false ∧ f.ty.stringy = true) →
    ∃ ds ss, allSome vals = some ds ∧ allStr ds = some ss := by
  induction fs with
  | nil =>
    intro es vals h _
    obtain ⟨_, rfl⟩ := reprFields_nil_inv h
    exact ⟨[], [], rfl, rfl⟩
  | cons f fs ih =>
    intro es vals h hf
    cases es with
    | nil => rw [reprFields_cons_nil] at h; contradiction
    | cons k v es =>
      obtain ⟨_, vals', hv', h2⟩ := reprFields_cons_inv h
      obtain ⟨ds, ss, hds, hss⟩ := ih hv' (fun f' hf' => hf f' (List.mem_cons_of_mem f hf'))
      have hff := hf f List.mem_cons_self
      rcases h2 with ⟨_, ho, _⟩ | ⟨_, d, hd, rfl⟩
      · rw [hff.1] at ho; contradiction
      · rw [hff.2.1] at hd
        obtain ⟨s, rfl⟩ := stringy_repr hff.2.2 hd
        exact ⟨_, _, (congrArg (Option.map _) hds :), (congrArg (Option.map _) hss :)⟩

/-- no `none` before a `some` -/
def denseOpt {α : Type} : List (Option α) → Bool
  | [] => true
  | none :: l => l.all Option.isNone
  | some _ :: l => denseOpt l

theorem reprFields_dense {fs : List Field} : ∀ {es vals}, reprFields fs es = some vals →
    tupleDense es = denseOpt vals ∧ tupleDense.allAbsent es = vals.all Option.isNone := by
  induction fs with
  | nil =>
    intro es vals h
    obtain ⟨rfl, rfl⟩ := reprFields_nil_inv h
    exact ⟨rfl, rfl⟩
  | cons f fs ih =>
    intro es vals h
    cases es with
    | nil => rw [reprFields_cons_nil] at h; contradiction
    | cons k v es =>
      obtain ⟨_, vals', hv', h2⟩ := reprFields_cons_inv h
      have ih := ih hv'
      rcases h2 with ⟨rfl, _, rfl⟩ | ⟨hne, d, _, rfl⟩
      · exact ⟨ih.2, ih.2⟩
      · simp only [tupleDense, tupleDense.allAbsent, denseOpt, if_neg hne, beq_eq_false_iff_ne.2 hne, ih.1,
          List.all_cons, Option.isNone_some, Bool.false_and]
        exact ⟨trivial, trivial⟩

theorem denseOpt_iff {α : Type} (l : List (Option α)) :
    denseOpt l = true ↔ ∃ ds n, l = List.map some ds ++ List.replicate n none := by
  constructor
  · induction l with
    | nil => exact fun _ => ⟨[], 0, rfl⟩
    | cons x l ih =>
      intro h
      cases x with
      | none =>
        have := eq_replicate_none l (List.all_eq_true.1 h)
        exact ⟨[], l.length + 1, by rw [List.replicate_succ, ← this]; rfl⟩
      | some a =>
        obtain ⟨ds, n, hl⟩ := ih h
        exact ⟨a :: ds, n, by rw [hl]; rfl⟩
  · rintro ⟨ds, n, rfl⟩
    induction ds with
    | nil =>
      cases n with
      | zero => rfl
      | succ n => exact List.all_eq_true.2 fun x hx => List.eq_of_mem_replicate hx ▸ rfl
    | cons a ds ih => exact ih

/-- Of a map's entries the fact is also kept for the first value (a union value conforms through it). -/
theorem has_repr_all :
    (∀ v ty nul, ty.wf = true → conforms ty nul v = true → shapeOK ty v = true → ∃ d, toRepr ty nul v = some d) ∧
    (∀ xs ety enul, ety.wf = true → conformsList ety enul xs = true → shapeOKList ety xs = true →
      ∃ ys, reprList ety enul xs = some ys) ∧
    ∀ es, (∀ vty vnul, vty.wf = true → ∀ seen, conformsMap vty vnul seen es = true → shapeOKMap vty es = true →
        ∃ ys, reprMap vty vnul es = some ys) ∧
      (∀ F, (∀ f ∈ F, f.ty.wf = true) → (F.map (·.name)).Nodup → ∀ suf, (∀ f ∈ suf, f ∈ F) → ∀ seen,
        conformsStruct F seen es = true → shapeOKFields suf es = true → ∃ vals, reprFields suf es = some vals) ∧
      ∀ {k v}, es = .cons k v .nil → ∀ ty nul, ty.wf = true → conforms ty nul v = true →
        shapeOK ty v = true → ∃ d, toRepr ty nul v = some d := by
  apply TL.value_induct
  · exact nofun
  · exact fun _ _ _ hc _ => ⟨_, if_pos hc⟩
  case str =>
    intro s ty nul _ hc _
    rcases conforms_str_cases hc with rfl | rfl | ⟨ms, r, rfl, ha⟩
    · exact ⟨_, rfl⟩
    · exact ⟨_, rfl⟩
    · rw [← List.isSome_find?] at ha
      obtain ⟨m, hm⟩ := Option.isSome_iff_exists.1 ha
      simp only [toRepr_enum, hm]
      split
      all_goals exact ⟨_, rfl⟩
  iterate 5
    intro _ ty nul _ hc _
    unfold conforms at hc
    split at hc
    · exact ⟨_, rfl⟩
    · exact ⟨_, rfl⟩
    · contradiction
  · intro xs ih ty nul hwf hc hs
    rcases conforms_list_cases hc with ⟨ety, enul, rfl, hc⟩ | ⟨rfl, hc⟩
    · obtain ⟨ys, hys⟩ := ih ety enul hwf hc hs
      exact ⟨_, (congrArg (Option.map _) hys :)⟩
    · exact toDM_of_anyOK hc
  · intro es ih ty nul hwf hc hs
    rcases conforms_map_cases hc with ⟨vty, vnul, rfl, hc⟩ | ⟨fs, sr, rfl, hc⟩ |
      ⟨ms, ur, k, v, m, rfl, rfl, hm, hc⟩ | ⟨rfl, hc⟩
    · obtain ⟨ys, hys⟩ := ih.1 vty vnul hwf [] hc hs
      exact ⟨_, (congrArg (Option.map _) hys :)⟩
    · have hw := wf_struct hwf
      unfold shapeOK at hs
      rw [Bool.and_eq_true] at hs
      obtain ⟨vals, hv⟩ := ih.2.1 fs.toList hw.1 hw.2.1 fs.toList (fun _ h => h) [] hc hs.1
      cases sr with
      | map => exact ⟨_, by rw [toRepr_struct_map, hv]; rfl⟩
      | listpairs => exact ⟨_, by rw [toRepr_struct_listpairs, hv]; rfl⟩
      | tuple =>
        obtain ⟨ds, n, rfl⟩ := (denseOpt_iff vals).1 ((reprFields_dense hv).1 ▸ hs.2)
        exact ⟨_, by rw [toRepr_struct_tuple, hv]; simp only [dropTrailingNone_split, allSome_map_some]; rfl⟩
      | stringjoin delim =>
        obtain ⟨ds, ss, hds, hss⟩ := join_vals hv (wf_stringjoin hwf).2
        exact ⟨_, by rw [toRepr_struct_stringjoin, hv]; simp only [hds, hss]; rfl⟩
    · unfold shapeOK at hs
      simp only [hm] at hs
      obtain ⟨d0, hd0⟩ := ih.2.2 rfl m.ty false
        ((wf_union hwf).1 m (List.mem_of_find?_eq_some hm)) hc hs
      rw [toRepr_union]
      simp only [hm, hd0]
      cases ur with
      | keyed | kinded => exact ⟨_, rfl⟩
      | stringprefix delim =>
        obtain ⟨s, rfl⟩ :=
          stringy_repr ((wf_stringprefix hwf).2 m (List.mem_of_find?_eq_some hm)) hd0
        exact ⟨_, rfl⟩
    · exact toDM_of_anyOK hc
  · exact fun _ _ _ _ _ => ⟨[], rfl⟩
  · intro x xs ihx ihxs ety enul hwf hc hs
    simp only [conformsList, Bool.and_eq_true] at hc
    simp only [shapeOKList, Bool.and_eq_true] at hs
    obtain ⟨d, hd⟩ := ihx ety enul hwf hc.1 hs.1
    obtain ⟨ds, hds⟩ := ihxs ety enul hwf hc.2 hs.2
    exact ⟨d :: ds, by simp only [reprList, hd, hds]⟩
  · refine ⟨fun _ _ _ _ _ _ => ⟨[], rfl⟩, fun F _ _ suf _ _ _ hs => ?_, nofun⟩
    cases suf with
    | nil => exact ⟨[], rfl⟩
    | cons _ _ => contradiction
  · intro k v es ihv ih
    refine ⟨fun vty vnul hwf seen hc hs => ?_, fun F hwf hnd suf hsub seen hc hs => ?_,
      fun h => by cases h; exact ihv⟩
    · simp only [conformsMap, Bool.and_eq_true] at hc
      simp only [shapeOKMap, Bool.and_eq_true] at hs
      obtain ⟨d, hd⟩ := ihv vty vnul hwf hc.1.2 hs.1
      obtain ⟨ds, hds⟩ := ih.1 vty vnul hwf (k :: seen) hc.2 hs.2
      exact ⟨(k, d) :: ds, by simp only [reprMap, hd, hds]⟩
    · cases suf with
      | nil => contradiction
      | cons f suf =>
        rw [shapeOKFields_cons, Bool.and_eq_true, Bool.and_eq_true] at hs
        obtain ⟨⟨hk, hsv⟩, hsr⟩ := hs
        obtain rfl := eq_of_beq hk
        have hfF := hsub f List.mem_cons_self
        obtain ⟨hfv, hc'⟩ := conformsStruct_cons_inv hnd hfF hc
        obtain ⟨vals', hv'⟩ := ih.2.1 F hwf hnd suf (fun f' hf' => hsub f' (List.mem_cons_of_mem f hf')) _ hc' hsr
        by_cases hva : v = .absent
        · subst hva
          exact ⟨_, by rw [reprFields_cons_absent f suf es hfv, hv']; rfl⟩
        · rw [fieldValOK_ne_absent f hva] at hfv
          obtain ⟨d, hd⟩ := ihv f.ty f.nullable (hwf f hfF) hfv hsv
          exact ⟨_, reprFields_cons_present f suf v es d vals' hva hd hv'⟩

theorem has_repr {v : TL} {ty : Ty} {nul : Bool} : ty.wf = true → conforms ty nul v = true →
    shapeOK ty v = true → ∃ d, toRepr ty nul v = some d := has_repr_all.1 v ty nul
theorem totalList : (xs : TLs) → (ety : Ty) → (enul : Bool) → ety.wf = true →
    conformsList ety enul xs = true → shapeOKList ety xs = true → ∃ ys, reprList ety enul xs = some ys :=
  has_repr_all.2.1
theorem totalMap : (es : TLKVs) → (vty : Ty) → (vnul : Bool) → vty.wf = true → (seen : List Bytes) →
    conformsMap vty vnul seen es = true → shapeOKMap vty es = true → ∃ ys, reprMap vty vnul es = some ys :=
  fun es => (has_repr_all.2.2 es).1
theorem totalFields : (es : TLKVs) → (F : List Field) → (∀ f ∈ F, f.ty.wf = true) →
    (F.map (·.name)).Nodup → (suf : List Field) → (∀ f ∈ suf, f ∈ F) → (seen : List Bytes) →
    conformsStruct F seen es = true → shapeOKFields suf es = true →
    ∃ vals, reprFields suf es = some vals := fun es => (has_repr_all.2.2 es).2.1

theorem shape_all :
    (∀ v ty nul d, toRepr ty nul v = some d → shapeOK ty v = true) ∧
    (∀ xs ety enul ys, reprList ety enul xs = some ys → shapeOKList ety xs = true) ∧
    ∀ es, (∀ vty vnul ys, reprMap vty vnul es = some ys → shapeOKMap vty es = true) ∧
      (∀ fs vals, reprFields fs es = some vals → shapeOKFields fs es = true) ∧
      ∀ {k v}, es = .cons k v .nil → ∀ ty nul d, toRepr ty nul v = some d → shapeOK ty v = true := by
  apply TL.value_induct
  iterate 8 (intros; rfl)
  · intro xs ih ty nul d h
    unfold toRepr at h
    split at h
    · obtain ⟨ys, hys, _⟩ := Option.map_eq_some_iff.1 h
      exact ih _ _ ys hys
    · rfl
    · contradiction
  · intro es ih ty nul d h
    unfold toRepr at h
    split at h
    · obtain ⟨ys, hys, _⟩ := Option.map_eq_some_iff.1 h
      exact ih.1 _ _ ys hys
    · next fs sr =>
      split at h
      · contradiction
      · next vals hv =>
        simp only [shapeOK, ih.2.1 fs.toList vals hv, Bool.true_and]
        cases sr with
        | tuple =>
          obtain ⟨ds, hds, _⟩ := Option.map_eq_some_iff.1 h
          obtain ⟨n, rfl⟩ := tuple_vals hds
          exact ((reprFields_dense hv).1).trans ((denseOpt_iff _).2 ⟨ds, n, rfl⟩)
        | _ => rfl
    · split at h
      · split at h
        · contradiction
        · next hm =>
          split at h
          · contradiction
          · next hd0 =>
            simp only [shapeOK, hm]
            exact ih.2.2 rfl _ _ _ hd0
      · contradiction
    · rfl
    · contradiction
  · exact fun _ _ _ _ => rfl
  · intro x xs ihx ihxs ety enul ys h
    simp only [reprList] at h
    split at h
    · next d ds hd hds =>
      simp only [shapeOKList, Bool.and_eq_true]
      exact ⟨ihx ety enul d hd, ihxs ety enul ds hds⟩
    · contradiction
  · refine ⟨fun _ _ _ _ => rfl, fun fs vals h => ?_, nofun⟩
    cases fs with
    | nil => rfl
    | cons _ _ => contradiction
  · intro k v es ihv ih
    refine ⟨fun vty vnul ys h => ?_, fun fs vals h => ?_, fun h => by cases h; exact ihv⟩
    · simp only [reprMap] at h
      split at h
      · next d ds hd hds =>
        simp only [shapeOKMap, Bool.and_eq_true]
        exact ⟨ihv vty vnul d hd, ih.1 vty vnul ds hds⟩
      · contradiction
    · cases fs with
      | nil => contradiction
      | cons f fs =>
        obtain ⟨hk, vals', hv', h2⟩ := reprFields_cons_inv h
        rw [shapeOKFields_cons, ih.2.1 fs vals' hv', hk, beq_self_eq_true]
        rcases h2 with ⟨rfl, _, _⟩ | ⟨_, d, hd, _⟩
        · rfl
        · rw [ihv f.ty f.nullable d hd]
          rfl

theorem shape_of_repr : (v : TL) → (ty : Ty) → (nul : Bool) → (d : DM) → toRepr ty nul v = some d →
    shapeOK ty v = true := shape_all.1
theorem shapeList_of_repr : (xs : TLs) → (ety : Ty) → (enul : Bool) → (ys : List DM) →
    reprList ety enul xs = some ys → shapeOKList ety xs = true := shape_all.2.1
theorem shapeMap_of_repr : (es : TLKVs) → (vty : Ty) → (vnul : Bool) → (ys : List (Bytes × DM)) →
    reprMap vty vnul es = some ys → shapeOKMap vty es = true := fun es => (shape_all.2.2 es).1
theorem shapeFields_of_repr : (es : TLKVs) → (fs : List Field) → (vals : List (Option DM)) →
    reprFields fs es = some vals → shapeOKFields fs es = true := fun es => (shape_all.2.2 es).2.1

theorem build_repr_has_repr (ty : Ty) (nul : Bool) (d : DM) (v : TL) (hwf : ty.wf = true)
    (h : build Engine.ideal .repr ty nul none d = .ok v) : ∃ d', toRepr ty nul v = some d' :=
  has_repr hwf (build_conforms hwf h) (build_shape hwf h)

end Schema
end Ipld

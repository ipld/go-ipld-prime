/-
  The builders' equations at a `cons`, in the form proofs rewrite with: a sub-builder's outcome is continued
  by `Outcome.bind`; `dispatch`, `listBody`, `mapBody` name the parts of `build`'s list and map cases.
  An equation named `_off` takes as hypothesis that the engine flag which would change it is off.
-/
import IpldModel.Model.Schema
import IpldModel.Lemmas.BytesEq
namespace Ipld
namespace Schema

@[simp] theorem Outcome.map_ok {α β : Type} (f : α → β) (a : α) : (Outcome.ok a).map f = .ok (f a) := rfl
@[simp] theorem Outcome.map_reject {α β : Type} (f : α → β) : (Outcome.reject : Outcome α).map f = .reject := rfl
@[simp] theorem Outcome.map_panic {α β : Type} (f : α → β) : (Outcome.panic : Outcome α).map f = .panic := rfl
@[simp] theorem Outcome.isOk_ok {α : Type} (a : α) : (Outcome.ok a).isOk = true := rfl
@[simp] theorem Outcome.isOk_reject {α : Type} : (Outcome.reject : Outcome α).isOk = false := rfl
@[simp] theorem Outcome.isOk_panic {α : Type} : (Outcome.panic : Outcome α).isOk = false := rfl

theorem Outcome.map_eq_ok {α β : Type} {f : α → β} {o : Outcome α} {b : β} :
    o.map f = .ok b ↔ ∃ a, o = .ok a ∧ f a = b := by
  cases o <;> simp

theorem Outcome.map_eq_panic {α β : Type} (f : α → β) {o : Outcome α} :
    o.map f = .panic ↔ o = .panic := by
  cases o <;> simp [Outcome.map]

theorem Outcome.map_ne_panic {α β : Type} {f : α → β} {o : Outcome α} (h : o ≠ .panic) :
    o.map f ≠ .panic :=
  fun hp => h ((Outcome.map_eq_panic f).1 hp)

@[simp] theorem Outcome.isOk_map {α β : Type} {f : α → β} {o : Outcome α} : (o.map f).isOk = o.isOk := by
  cases o <;> rfl

theorem Outcome.isOk_iff {α : Type} {o : Outcome α} : o.isOk = true ↔ ∃ a, o = .ok a := by
  cases o <;> simp

def Outcome.bind {α β : Type} (o : Outcome α) (f : α → Outcome β) : Outcome β :=
  match o with
  | .ok a => f a
  | .reject => .reject
  | .panic => .panic

@[simp] theorem Outcome.bind_ok {α β : Type} (a : α) (f : α → Outcome β) : (Outcome.ok a).bind f = f a := rfl

theorem Outcome.bind_eq_ok {α β : Type} {o : Outcome α} {f : α → Outcome β} {b : β} :
    o.bind f = .ok b ↔ ∃ a, o = .ok a ∧ f a = .ok b := by
  cases o <;> simp [Outcome.bind]

theorem Outcome.bind_map_mono {α β γ : Type} {o : Outcome α} {f f' : α → Outcome β} {g : α → β → γ} {v : γ}
    (hf : ∀ a w, f a = .ok w → f' a = .ok w) (h : (o.bind fun a => (f a).map (g a)) = .ok v) :
    (o.bind fun a => (f' a).map (g a)) = .ok v := by
  obtain ⟨a, ha, h⟩ := Outcome.bind_eq_ok.1 h
  obtain ⟨w, hw, hv⟩ := Outcome.map_eq_ok.1 h
  exact Outcome.bind_eq_ok.2 ⟨a, ha, Outcome.map_eq_ok.2 ⟨w, hf a w hw, hv⟩⟩

theorem Outcome.bind_ne_panic {α β : Type} {o : Outcome α} {f : α → Outcome β} (h : o ≠ .panic)
    (hf : ∀ a, f a ≠ .panic) : o.bind f ≠ .panic := by
  cases o with
  | ok a => exact hf a
  | reject => exact fun hp => by cases hp
  | panic => exact absurd rfl h

theorem Outcome.map_map {α β γ : Type} (f : α → β) (g : β → γ) (o : Outcome α) :
    (o.map f).map g = o.map (fun a => g (f a)) := by cases o <;> rfl

theorem Outcome.map_ite_ok {α β : Type} (c : Prop) [Decidable c] (f : α → β) (a : α) :
    (if c then Outcome.ok a else .reject).map f = if c then .ok (f a) else .reject := by
  split <;> rfl

theorem Outcome.ite_ok_bind {α β : Type} (c : Prop) [Decidable c] (a : α) (f : α → Outcome β) :
    (if c then Outcome.ok a else .reject).bind f = if c then f a else .reject := by
  split <;> rfl

theorem Outcome.ite_ite_ok {α : Type} (a b : Bool) (v : α) :
    (if a = true then (if b = true then Outcome.ok v else .reject) else .reject) =
      if (a && b) = true then .ok v else .reject := by
  cases a <;> rfl

theorem Outcome.isOk_bind_and {α β : Type} {o : Outcome α} {f : α → Outcome β} {b : Bool}
    (hf : ∀ a, (f a).isOk = b) : (o.bind f).isOk = (o.isOk && b) := by
  cases o with
  | ok a => exact hf a
  | reject => rfl
  | panic => rfl

theorem Outcome.isOk_ite_ok {α : Type} {c : Bool} {a : α} :
    (if c = true then Outcome.ok a else .reject).isOk = c := by
  cases c <;> rfl

theorem Outcome.isOk_guard_bind {α β : Type} {done : Bool} {o : Outcome α} {f : α → Outcome β} {b : Bool}
    (hf : done = false → ∀ a, (f a).isOk = b) :
    (if done = true then Outcome.reject else o.bind f).isOk = (!done && o.isOk && b) := by
  cases done with
  | true => rfl
  | false => exact Outcome.isOk_bind_and (hf rfl)

/-- The type a list or map input is assembled into, with the member names to wrap around the result:
    at representation level a kinded union passes the input on to its member of that kind. -/
def dispatch (e : Engine) (lvl : Level) (nul : Bool) (k : Kind) (ty : Ty) : Outcome (Ty × List Bytes) :=
  match lvl with
  | .repr => resolveKinded e nul k ty
  | .type => .ok (ty, [])

def listBody (e : Engine) (lvl : Level) (ty' : Ty) (cur' : Option TL) (xs : DMs) : Outcome TL :=
  match ty' with
  | .list ety enul =>
    (buildList e lvl ety enul (curList cur') xs).map fun ys => .list (TLs.ofList ys)
  | .struct fs sr =>
    match lvl, sr with
    | .repr, .tuple => buildTuple e fs.toList (SSt.init fs.toList cur') 0 xs
    | .repr, .listpairs => buildPairs e fs.toList (SSt.init fs.toList cur') xs
    | _, _ => .reject
  | .any => if (DM.list xs).noDupKeys then .ok (TL.ofDM (.list xs)) else .reject
  | _ => .reject

/-- what `build` does with a map once `dispatch` has addressed `ty'` (no `assignNodeSkipsBegin` under `viaNode`) -/
def mapBody (e : Engine) (lvl : Level) (ty' : Ty) (cur' : Option TL) (es : DMKVs) : Outcome TL :=
  match ty' with
  | .map vty vnul =>
    (buildMap e lvl vty vnul (curMap cur') es).map fun ys => .map (TLKVs.ofList ys)
  | .struct fs sr =>
    match lvl, sr with
    | .type, _ => buildStruct e lvl fs.toList (SSt.init fs.toList cur') es
    | .repr, .map => buildStruct e lvl fs.toList (SSt.init fs.toList cur') es
    | .repr, _ => .reject
  | .union ms ur =>
    match lvl, ur with
    | .type, _ => buildUnion e lvl ms.toList cur' 0 es
    | .repr, .keyed => buildUnion e lvl ms.toList cur' 0 es
    | .repr, _ => .reject
  | .any => if (DM.map es).noDupKeys then .ok (TL.ofDM (.map es)) else .reject
  | _ => .reject

theorem build_list_eq (e : Engine) (lvl : Level) (ty : Ty) (nul : Bool) (cur : Option TL) (xs : DMs) :
    build e lvl ty nul cur (.list xs) =
      (dispatch e lvl nul .list ty).bind fun r =>
        (listBody e lvl r.1 (if r.2.isEmpty then cur else none) xs).map (wrapPath r.2) := by
  unfold build dispatch
  cases lvl
  · rfl
  · cases resolveKinded e nul .list ty with
    | ok r => cases r; rfl
    | reject => rfl
    | panic => rfl

theorem nilSlotAssign_off {e : Engine} (h : (e.viaNode && e.assignNodeSkipsBegin) = false)
    (lvl : Level) (m : Bool) (ty : Ty) (d : DM) : nilSlotAssign e lvl m ty d = none := by
  unfold nilSlotAssign
  rw [h, Bool.false_and]
  rfl

theorem build_map_eq {e : Engine} (h : (e.viaNode && e.assignNodeSkipsBegin) = false) (lvl : Level)
    (ty : Ty) (nul : Bool) (cur : Option TL) (es : DMKVs) :
    build e lvl ty nul cur (.map es) =
      (dispatch e lvl nul .map ty).bind fun r =>
        (mapBody e lvl r.1 (if r.2.isEmpty then cur else none) es).map (wrapPath r.2) := by
  unfold build dispatch
  simp only [h, Bool.false_and, Bool.false_eq_true, if_false]
  cases lvl
  · rfl
  · cases resolveKinded e nul .map ty with
    | ok r => cases r; rfl
    | reject => rfl
    | panic => rfl

theorem build_list_none (e : Engine) (lvl : Level) (ty : Ty) (nul : Bool) (xs : DMs) :
    build e lvl ty nul none (.list xs) =
      (dispatch e lvl nul .list ty).bind fun r => (listBody e lvl r.1 none xs).map (wrapPath r.2) := by
  rw [build_list_eq]
  simp only [ite_self]

theorem build_map_none {e : Engine} (h : (e.viaNode && e.assignNodeSkipsBegin) = false) (lvl : Level)
    (ty : Ty) (nul : Bool) (es : DMKVs) :
    build e lvl ty nul none (.map es) =
      (dispatch e lvl nul .map ty).bind fun r => (mapBody e lvl r.1 none es).map (wrapPath r.2) := by
  rw [build_map_eq h]
  simp only [ite_self]

theorem build_null_off {e : Engine} (h : e.kindedNullRejected = false) (lvl : Level) (ty : Ty) (nul : Bool)
    (cur : Option TL) : build e lvl ty nul cur .null = if nul then .ok .null else .reject := by
  unfold build
  simp [h]

theorem build_type_list (e : Engine) (ty : Ty) (nul : Bool) (cur : Option TL) (xs : DMs) :
    build e .type ty nul cur (.list xs) = listBody e .type ty cur xs := by
  rw [build_list_eq]
  show (listBody e .type ty cur xs).map (wrapPath []) = _
  cases listBody e .type ty cur xs <;> rfl

theorem build_type_map {e : Engine} (h : (e.viaNode && e.assignNodeSkipsBegin) = false) (ty : Ty)
    (nul : Bool) (cur : Option TL) (es : DMKVs) :
    build e .type ty nul cur (.map es) = mapBody e .type ty cur es := by
  rw [build_map_eq h]
  show (mapBody e .type ty cur es).map (wrapPath []) = _
  cases mapBody e .type ty cur es <;> rfl

theorem buildList_cons_off {e : Engine} (h : (e.viaNode && e.assignNodeSkipsBegin) = false)
    (lvl : Level) (ety : Ty) (enul : Bool) (acc : List TL) (x : DM) (xs : DMs) :
    buildList e lvl ety enul acc (.cons x xs) =
      (build e lvl ety enul none x).bind fun v => buildList e lvl ety enul (acc ++ [v]) xs := by
  rw [buildList, nilSlotAssign_off h]
  cases build e lvl ety enul none x <;> rfl

theorem buildMap_cons_off {e : Engine} (h : (e.viaNode && e.assignNodeSkipsBegin) = false)
    (lvl : Level) (vty : Ty) (vnul : Bool) (acc : List (Bytes × TL)) (k : Bytes) (v : DM) (es : DMKVs) :
    buildMap e lvl vty vnul acc (.cons k v es) =
      if acc.any (fun p => p.1 == k) && !e.dupMapKey && !(e.keyAsmDupMapKey && e.viaKeys) then .reject
      else (build e lvl vty vnul none v).bind fun tv =>
        buildMap e lvl vty vnul (if e.dupMapKey then mapAppend acc k tv else acc ++ [(k, tv)]) es := by
  rw [buildMap, nilSlotAssign_off h]
  cases build e lvl vty vnul none v <;> rfl

theorem buildStruct_cons_off {e : Engine} (h : (e.viaNode && e.assignNodeSkipsBegin) = false)
    (lvl : Level) (fs : List Field) (st : SSt) (k : Bytes) (v : DM) (es : DMKVs) :
    buildStruct e lvl fs st (.cons k v es) =
      match fieldByKey e lvl fs k with
      | none => .reject
      | some (i, f) =>
        if st.isDone i && !e.dupStructField then .reject
        else (build e lvl f.ty f.nullable (st.curOf e i f) v).bind fun tv =>
          buildStruct e lvl fs (st.assign i tv) es := by
  rw [buildStruct]
  simp only [nilSlotAssign_off h]
  cases fieldByKey e lvl fs k with
  | none => rfl
  | some r =>
    obtain ⟨i, f⟩ := r
    simp only []
    cases build e lvl f.ty f.nullable (st.curOf e i f) v <;> rfl

theorem buildTuple_cons_off {e : Engine} (h : (e.viaNode && e.assignNodeSkipsBegin) = false)
    (fs : List Field) (st : SSt) (i : Nat) (x : DM) (xs : DMs) :
    buildTuple e fs st i (.cons x xs) =
      match fs[i]? with
      | none => .reject
      | some f => (build e .repr f.ty f.nullable (st.curOf e i f) x).bind fun tv =>
        buildTuple e fs (st.assign i tv) (i + 1) xs := by
  rw [buildTuple]
  simp only [nilSlotAssign_off h]
  cases fs[i]? with
  | none => rfl
  | some f =>
    simp only []
    cases build e .repr f.ty f.nullable (st.curOf e i f) x <;> rfl

theorem buildTuple_nil_off {e : Engine} (h : e.tupleShortAccepted = false) (fs : List Field) (st : SSt) (i : Nat) :
    buildTuple e fs st i .nil = st.finish fs := by
  rw [buildTuple]
  simp [h]

theorem buildPairs_pair (e : Engine) (fs : List Field) (st : SSt) (k : Bytes) (v : DM) (rest ps : DMs) :
    buildPairs e fs st (.cons (.list (.cons (.str k) (.cons v rest))) ps) =
      match findIdx (fun f => f.name == k) fs with
      | none => if e.lpUnknownKeyPanic then .panic else .reject
      | some (i, f) =>
        if st.isDone i && !e.dupStructField then .reject
        else (build e .repr f.ty f.nullable (st.curOf e i f) v).bind fun tv =>
          match rest with
          | .nil => buildPairs e fs (st.assign i tv) ps
          | .cons _ _ => .reject := by
  rw [buildPairs]
  cases findIdx (fun f => f.name == k) fs with
  | none => rfl
  | some r =>
    obtain ⟨i, f⟩ := r
    simp only []
    cases build e .repr f.ty f.nullable (st.curOf e i f) v <;> rfl

theorem buildUnion_cons (e : Engine) (lvl : Level) (ms : List Member) (cur : Option TL) (n : Nat)
    (k : Bytes) (v : DM) (es : DMKVs) :
    buildUnion e lvl ms cur n (.cons k v es) =
      if n ≥ 1 && !e.unionMulti then .reject
      else match memberByKey e lvl ms k with
        | none => .reject
        | some m => (build e lvl m.ty false none v).bind fun tv =>
          buildUnion e lvl ms (some (.map (.cons m.name tv .nil))) (n + 1) es := by
  rw [buildUnion]
  cases memberByKey e lvl ms k with
  | none => rfl
  | some m =>
    simp only []
    cases build e lvl m.ty false none v <;> rfl

theorem buildScalar_struct (e : Engine) (lvl : Level) (nul : Bool) (d : DM) (fs : Fields) (r : StructRepr) :
    buildScalar e lvl nul d (.struct fs r) =
      match lvl, r, d with
      | .repr, .stringjoin delim, .str s =>
        if (splitAll delim s).length != fs.toList.length then .reject
        else (buildJoin e fs (splitAll delim s)).map fun es => .map (TLKVs.ofList es)
      | _, _, _ => .reject := by
  unfold buildScalar
  split
  · next delim s =>
    simp only []
    cases buildJoin e fs (splitAll delim s) <;> rfl
  · next hne =>
    split
    · next delim s => exact (hne delim s rfl rfl rfl).elim
    · rfl

theorem buildScalar_union_off {e : Engine} (h : e.prefixEmptyDelimSplit = false) (lvl : Level) (nul : Bool)
    (d : DM) (ms : Members) (r : UnionRepr) :
    buildScalar e lvl nul d (.union ms r) =
      match lvl, r with
      | .repr, .kinded => buildKinded e nul d ms
      | .repr, .stringprefix delim =>
        match d with
        | .str s =>
          if delim.isEmpty then buildPrefixNoDelim e nul s ms
          else match splitFirst delim s with
            | none => .reject
            | some (p, rest) => buildPrefix e nul p rest ms
        | _ => .reject
      | _, _ => .reject := by
  unfold buildScalar
  simp only [h, Bool.false_eq_true, if_false]
  rfl

theorem buildJoin_cons (e : Engine) (n rn : Bytes) (o nu : Bool) (t : Ty) (rest : Fields) (p : Bytes)
    (ps : List Bytes) :
    buildJoin e (.cons n rn o nu t rest) (p :: ps) =
      (buildScalar e .repr false (.str p) t).bind fun v =>
        (buildJoin e rest ps).map fun es => (n, v) :: es := by
  rw [buildJoin]
  cases buildScalar e .repr false (.str p) t with
  | ok v => cases buildJoin e rest ps <;> rfl
  | reject => rfl
  | panic => rfl

/-- The step of the four member walks at the member taken: without `nullableUnionPanic` it is the member's own
    outcome, mapped. -/
theorem memberStep_off {α β : Type} {e : Engine} (h : e.nullableUnionPanic = false) (nul : Bool) (o : Outcome α)
    (f : α → β) : (if (nul && e.nullableUnionPanic) = true then Outcome.panic else o.map f) = o.map f := by
  rw [h, Bool.and_false]
  rfl

theorem buildKinded_cons (e : Engine) (nul : Bool) (d : DM) (n dc : Bytes) (k : Kind) (t : Ty) (rest : Members) :
    buildKinded e nul d (.cons n dc k t rest) =
      if k == d.kind then
        if nul && e.nullableUnionPanic then .panic
        else (buildScalar e .repr false d t).map fun v => .map (.cons n v .nil)
      else buildKinded e nul d rest := by
  rw [buildKinded]

theorem buildPrefix_cons (e : Engine) (nul : Bool) (p r n dc : Bytes) (k : Kind) (t : Ty) (rest : Members) :
    buildPrefix e nul p r (.cons n dc k t rest) =
      if dc == p then
        if nul && e.nullableUnionPanic then .panic
        else (buildScalar e .repr false (.str r) t).map fun v => .map (.cons n v .nil)
      else buildPrefix e nul p r rest := by
  rw [buildPrefix]

theorem buildPrefixNoDelim_cons (e : Engine) (nul : Bool) (s n dc : Bytes) (k : Kind) (t : Ty) (rest : Members) :
    buildPrefixNoDelim e nul s (.cons n dc k t rest) =
      if isPrefix dc s then
        if nul && e.nullableUnionPanic then .panic
        else (buildScalar e .repr false (.str (s.drop dc.length)) t).map fun v => .map (.cons n v .nil)
      else buildPrefixNoDelim e nul s rest := by
  rw [buildPrefixNoDelim]

theorem resolveMembers_cons (e : Engine) (nul : Bool) (k : Kind) (n d : Bytes) (k' : Kind) (t : Ty)
    (rest : Members) :
    resolveMembers e nul k (.cons n d k' t rest) =
      if k' == k then
        if nul && e.nullableUnionPanic then .panic
        else (resolveKinded e false k t).map fun r => (r.1, n :: r.2)
      else resolveMembers e nul k rest := by
  rw [resolveMembers]
  cases resolveKinded e false k t with
  | ok r => cases r; rfl
  | reject => rfl
  | panic => rfl

theorem build_of_isScalar {e : Engine} {lvl : Level} {ty : Ty} {nul : Bool} {cur : Option TL} {d : DM}
    (hs : isScalar d = true) (hn : d ≠ .null) : build e lvl ty nul cur d = buildScalar e lvl nul d ty := by
  cases d <;> first | rfl | exact absurd rfl hn | cases hs

theorem resolveKinded_of_not_kinded (e : Engine) (nul : Bool) (k : Kind) {t : Ty}
    (h : ∀ ms, t ≠ .union ms .kinded) : resolveKinded e nul k t = .ok (t, []) := by
  cases t <;> try rfl
  rename_i ms r
  cases r <;> first | rfl | exact absurd rfl (h ms)

theorem resolveKinded_nonKinded (e : Engine) (nul : Bool) (k : Kind) (ty : Ty)
    (h : ∀ ms, ty ≠ .union ms .kinded) : resolveKinded e nul k ty = .ok (ty, []) :=
  resolveKinded_of_not_kinded e nul k h

end Schema
end Ipld

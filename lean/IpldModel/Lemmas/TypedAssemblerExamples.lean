/-
  Typed assemblers: the example types and histories of the non-vacuity examples of Props/C12typed.lean.
-/
import IpldModel.Lemmas.TypedAssemblerInv
import IpldModel.Lemmas.TypedAssemblerErase
namespace Ipld
namespace TAsm
open Ipld.Asm (Op Out ErrClass)
open Ipld.Schema (Ty Fields Field TL TLs TLKVs canonFields conforms conformsStruct)

/-- `{String : Int}` -/
def exMapTy : Ty := .map .int false

/-- `struct { a Int; b optional nullable [String] }` -/
def exStructTy : Ty :=
  .struct (.cons [97] [97] false false .int (.cons [98] [98] true true (.list .str false) .nil)) .map

/-- builds `{"a": 1, "b": 2}` in a `{String:Int}` with seven refused calls on the way: `AssembleEntry "a"` a second time,
    a key assembler given `"a"` again (as a node), a key assembler given an integer before it is given `"b"`, and a
    value assembler given a string, `BeginList`, the node `[1]` and a null before it is given `2` -/
def exMapHistory : List Op :=
  [.beginMap 2, .assembleEntry [97], .assign (.int 1),
   .assembleEntry [97],
   .assembleKey, .assignNode (.str [97]),
   .assembleKey, .assign (.int 7), .assign (.str [98]), .assembleValue,
   .assign (.str [120]), .beginList 0, .assignNode (.list (.cons (.int 1) .nil)), .assign .null,
   .assign (.int 2), .finish]

/-- builds `{"a": 5, "b": ["x"]}` in the struct, fields out of order, with four refused calls: the node `["x", 1]` for
    `b` (refused at its second element), `Finish` while `a` is missing, `AssembleEntry "a"` a second time and `"b"`
    through the key assembler a second time -/
def exStructHistory : List Op :=
  [.beginMap 0, .assembleEntry [98],
   .assignNode (.list (.cons (.str [120]) (.cons (.int 1) .nil))),
   .beginList 1, .assembleValue, .assign (.str [120]), .finish,
   .finish,
   .assembleEntry [97], .assign (.int 5),
   .assembleEntry [97],
   .assembleKey, .assign (.str [98]),
   .finish]

def exStructBuilt : TL :=
  .map (.cons [97] (.int 5) (.cons [98] (.list (.cons (.str [120]) .nil)) .nil))

/-- `a` alone: `b` is optional and shows as `absent` -/
def exStructShort : List Op := [.beginMap 0, .assembleEntry [97], .assign (.int 5), .finish]

/-- `{"a": 1}` begun, `"a"` handed to the key assembler -/
def exDupViaKeyAsm : List Op :=
  [.beginMap 1, .assembleEntry [97], .assign (.int 1), .assembleKey, .assign (.str [97])]

/-- a name that is no field -/
def exUnknownField : List Op :=
  [.beginMap 0, .assembleEntry [122], .assign (.int 1), .beginList 0, .assignNode (.str [120])]

/-- a list of Int is handed the node `[1, "x"]`, then built call by call as `[5]` -/
def exRefusedNode : List Op :=
  [.assignNode (.list (.cons (.int 1) (.cons (.str [120]) .nil))),
   .beginList 1, .assembleValue, .assign (.int 5), .finish]

end TAsm
end Ipld

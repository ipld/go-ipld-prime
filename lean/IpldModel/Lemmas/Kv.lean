/-
  The write-once key-value specification `Kv` (C17): what a key holds after one put, and after a history of puts
  (what it held before, else the content of the first put that names it); for the files-by-path map `Files`, when
  a path holds something.
-/
import IpldModel.Model.Store
namespace Ipld.Store

theorem Kv.get_put (s : Kv) (k v k' : Bytes) :
    (s.put k v).get k' =
      if k' = k then (match s.get k with | some old => some old | none => some v) else s.get k' := by
  unfold Kv.put
  cases h : s.get k with
  | some old =>
    by_cases hk : k' = k
    · subst hk; simp [h]
    · simp [hk]
  | none =>
    by_cases hk : k' = k
    · subst hk; simp [Kv.get]
    · have : ¬ k = k' := fun e => hk e.symm
      simp [Kv.get, hk, this]

def Kv.puts (s : Kv) (h : List (Bytes × Bytes)) : Kv := h.foldl (fun s e => s.put e.1 e.2) s

/-- "one content per key": whenever two puts of a history name the same key they carry the same content -/
def OneContentPerKey (h : List (Bytes × Bytes)) : Prop :=
  ∀ e₁ ∈ h, ∀ e₂ ∈ h, e₁.1 = e₂.1 → e₁.2 = e₂.2

theorem Kv.get_puts (h : List (Bytes × Bytes)) (s : Kv) (k : Bytes) :
    (s.puts h).get k =
      match s.get k with
      | some v => some v
      | none => (h.find? (fun e => e.1 = k)).map (·.2) := by
  induction h generalizing s with
  | nil => simp [Kv.puts]; cases s.get k <;> rfl
  | cons e r ih =>
    have : s.puts (e :: r) = (s.put e.1 e.2).puts r := rfl
    rw [this, ih, Kv.get_put]
    by_cases hk : k = e.1
    · subst hk
      cases hs : s.get e.1 with
      | some v => simp
      | none => simp
    · have : ¬ e.1 = k := fun x => hk x.symm
      simp [hk, this]

theorem Files.read_cons (q : List Bytes) (v : Bytes) (r : Files) (p : List Bytes) :
    Files.read ((q, v) :: r) p = if q = p then some v else Files.read r p := rfl

theorem Files.read_isSome (fs : Files) (p : List Bytes) : (fs.read p).isSome = fs.any (·.1 == p) := by
  haveI : LawfulBEq (List Bytes) := inferInstance  -- this instance search is slow: one search serves the rewrites below
  induction fs with
  | nil => rfl
  | cons e r ih =>
    rw [Files.read_cons, List.any_cons, ← ih]
    by_cases h : e.1 = p
    · rw [if_pos h, beq_iff_eq.2 h]; rfl
    · rw [if_neg h, beq_eq_false_iff_ne.2 h]; rfl

end Ipld.Store

/-
  Equations and case lemmas for the functions of `Model/WalkTransform.lean`, each proved once and used by the
  invariant, soundness and simulation proofs.
-/
import IpldModel.Spec.WalkTransformSpec
import IpldModel.Lemmas.Walk
namespace Ipld
namespace WalkT
open Sel Walk Spec

theorem loadStep_eq (cfg : Cfg) (c : Bytes) (st : St) : loadStep cfg c st = linkStep cfg c st := rfl

def callSt (path : Path) (n : DM) (st : St) : St := { st with events := callEvent path n :: st.events }

theorem walkT_zero (cfg : Cfg) (fn : TFn) (path : Path) (n : DM) (s : S) (st : St) :
    walkT cfg fn 0 path n s st = (st, .error (.walk .fuel)) := rfl

theorem walkT_succ (cfg : Cfg) (fn : TFn) (fuel : Nat) (path : Path) (n : DM) (s : S) (st : St) :
    walkT cfg fn (fuel + 1) path n s st =
      match checkNode st with
      | .error e => (st, .error (.walk e))
      | .ok st1 => tBody cfg fn (walkT cfg fn fuel) path n s st1 := rfl

section
variable (cfg : Cfg) (fn : TFn) (rec : Path → DM → S → St → TR) (path : Path) (n : DM) (s : S) (st1 : St)

theorem tBody_eq :
    tBody cfg fn rec path n s st1 =
      if needsAdl s then (st1, .error (.walk .reify)) else
      if decideNode s n then
        match fn path n with
        | .fail => (callSt path n st1, .error .callback)
        | .replace d => (callSt path n st1, .ok d)
        | .same => descend cfg rec path n s (callSt path n st1)
      else descend cfg rec path n s st1 := by
  cases s <;> rfl

theorem tBody_cases :
    tBody cfg fn rec path n s st1 = (st1, .error (.walk .reify)) ∨
    (∃ d, fn path n = .replace d ∧ tBody cfg fn rec path n s st1 = (callSt path n st1, .ok d)) ∨
    tBody cfg fn rec path n s st1 = (callSt path n st1, .error .callback) ∨
    (fn path n = .same ∧ tBody cfg fn rec path n s st1 = descend cfg rec path n s (callSt path n st1)) ∨
    tBody cfg fn rec path n s st1 = descend cfg rec path n s st1 := by
  rw [tBody_eq]
  by_cases hi : needsAdl s = true
  · exact Or.inl (if_pos hi)
  · rw [if_neg hi]
    by_cases hd : decideNode s n = true
    · rw [if_pos hd]
      cases hfn : fn path n with
      | same => exact Or.inr (Or.inr (Or.inr (Or.inl ⟨rfl, rfl⟩)))
      | replace d => exact Or.inr (Or.inl ⟨d, rfl, rfl⟩)
      | fail => exact Or.inr (Or.inr (Or.inl rfl))
    · exact Or.inr (Or.inr (Or.inr (Or.inr (if_neg hd))))

end

def bindT {α β : Type} (r : St × Except TErr α) (f : St → α → St × Except TErr β) : St × Except TErr β :=
  match r with
  | (st', .error e) => (st', .error e)
  | (st', .ok a) => f st' a

def mapT {α β : Type} (g : α → β) (r : St × Except TErr α) : St × Except TErr β :=
  match r with
  | (st', .error e) => (st', .error e)
  | (st', .ok a) => (st', .ok (g a))

section
variable {α β : Type} {r : St × Except TErr α} {f : St → α → St × Except TErr β} {g : α → β} {st' : St} {b : β}

theorem bindT_ok (h : bindT r f = (st', .ok b)) : ∃ st1 a, r = (st1, .ok a) ∧ f st1 a = (st', .ok b) := by
  obtain ⟨st1, e | a⟩ := r
  · cases h
  · exact ⟨st1, a, rfl, h⟩

theorem mapT_ok (h : mapT g r = (st', .ok b)) : ∃ a, r = (st', .ok a) ∧ g a = b := by
  obtain ⟨st1, e | a⟩ := r
  · cases h
  · cases h; exact ⟨a, rfl, rfl⟩

theorem mapT_fst (g : α → β) (r : St × Except TErr α) : (mapT g r).1 = r.1 := by
  obtain ⟨st1, e | a⟩ := r <;> rfl

theorem bindT_fst {Q : St → Prop} (h1 : Q r.1) (h2 : ∀ st a, Q st → Q (f st a).1) : Q (bindT r f).1 := by
  obtain ⟨st1, e | a⟩ := r
  · exact h1
  · exact h2 st1 a h1

end

theorem iterate_nil (step : Seg → DM → St → TR) (st : St) : iterate step [] st = (st, .ok []) := rfl

theorem iterate_cons (step : Seg → DM → St → TR) (ps : Seg) (v : DM) (rest : List (Seg × DM)) (st : St) :
    iterate step ((ps, v) :: rest) st =
      bindT (step ps v st) fun st' v' => mapT (fun out => (ps, v') :: out) (iterate step rest st') := by
  rw [iterate]
  obtain ⟨st1, e | v'⟩ := step ps v st
  · rfl
  · simp only [bindT, mapT]
    obtain ⟨st2, e | out⟩ := iterate step rest st1 <;> rfl

theorem iterateNode_eq (cfg : Cfg) (rec : Path → DM → S → St → TR) (path : Path) (n : DM) (s : S) (st : St) :
    iterateNode cfg rec path n s st =
      mapT (rebuild n) (iterate (tChild cfg rec path n s (interests s)) (children n) st) := by
  rw [iterateNode]
  obtain ⟨st1, e | out⟩ := iterate (tChild cfg rec path n s (interests s)) (children n) st <;> rfl

section
variable {cfg : Cfg} {rec : Path → DM → S → St → TR} {path : Path} {n : DM} {s : S} {attn : Option (List Seg)}
  {ps : Seg} {v : DM} {st : St} {sNext : S}

theorem tChild_pass (h : attended attn ps = false ∨ explore s n ps = .ok none) :
    tChild cfg rec path n s attn ps v st = (st, .ok v) := by
  unfold tChild
  rcases h with h | h
  · rw [h]; rfl
  · rw [h]; split <;> rfl

theorem tChild_error (ha : attended attn ps = true) {e : XErr} :
    explore s n ps = .error e → tChild cfg rec path n s attn ps v st =
      (st, .error (.walk (match e with | .panic => .panic | .error => .selector))) := by
  intro hx
  unfold tChild
  rw [if_pos ha, hx]
  cases e <;> rfl

theorem tChild_link {c : Bytes} (ha : attended attn ps = true) (hx : explore s n ps = .ok (some sNext)) :
    tChild cfg rec path n s attn ps (.link c) st =
      match linkStep cfg c st with
      | (st', .error e) => (st', .error (.walk e))
      | (st', .ok none) => (st', .ok (.link c))
      | (st', .ok (some blk)) => rec (path ++ [ps]) blk sNext st' := by
  unfold tChild
  rw [if_pos ha, hx]
  rfl

theorem tChild_child (ha : attended attn ps = true) (hx : explore s n ps = .ok (some sNext))
    (hv : ∀ c, v ≠ .link c) : tChild cfg rec path n s attn ps v st = rec (path ++ [ps]) v sNext st := by
  unfold tChild
  rw [if_pos ha, hx]
  cases v <;> first | rfl | exact absurd rfl (hv _)

variable (cfg rec path n s attn ps v st) in
theorem tChild_cases :
    tChild cfg rec path n s attn ps v st = (st, .ok v) ∨
    (∃ e, (e = .panic ∨ e = .selector) ∧ tChild cfg rec path n s attn ps v st = (st, .error (.walk e))) ∨
    (∃ sNext c, v = .link c ∧ tChild cfg rec path n s attn ps v st =
      match linkStep cfg c st with
      | (st', .error e) => (st', .error (.walk e))
      | (st', .ok none) => (st', .ok (.link c))
      | (st', .ok (some blk)) => rec (path ++ [ps]) blk sNext st') ∨
    (∃ sNext, (∀ c, v ≠ .link c) ∧ tChild cfg rec path n s attn ps v st = rec (path ++ [ps]) v sNext st) := by
  by_cases ha : attended attn ps = true
  · cases hx : explore s n ps with
    | error e =>
      refine Or.inr (Or.inl ⟨_, ?_, tChild_error ha hx⟩)
      cases e
      · exact Or.inr rfl
      · exact Or.inl rfl
    | ok o =>
      cases o with
      | none => exact Or.inl (tChild_pass (Or.inr hx))
      | some sNext =>
        by_cases hl : ∃ c, v = .link c
        · obtain ⟨c, rfl⟩ := hl
          exact Or.inr (Or.inr (Or.inl ⟨sNext, c, rfl, tChild_link ha hx⟩))
        · have hnl : ∀ c, v ≠ .link c := fun c hc => hl ⟨c, hc⟩
          exact Or.inr (Or.inr (Or.inr ⟨sNext, hnl, tChild_child ha hx hnl⟩))
  · exact Or.inl (tChild_pass (Or.inl (Bool.eq_false_iff.2 ha)))

end

theorem rebuild_children {n : DM} (h : isRecursive n = true) : rebuild n (children n) = n := by
  cases n with
  | list xs =>
    simp only [rebuild, children, List.map_map]
    congr 1
    have h2 : ((fun x : Seg × DM => x.2) ∘ fun e : DM × Nat => (Seg.idx e.2, e.1)) = Prod.fst := by
      funext e; rfl
    rw [h2, List.zipIdx_map_fst, DMs.ofList_toList]
  | map es =>
    simp only [rebuild, children, List.map_map]
    congr 1
    have h2 : ((fun x : Seg × DM => (x.1.toString, x.2)) ∘ fun e : Bytes × DM => (Seg.str e.1, e.2)) = id := by
      funext e; rfl
    rw [h2, List.map_id, DMKVs.ofList_toList]
  | _ => cases h

end WalkT
end Ipld

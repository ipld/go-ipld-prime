/-
  Plans (`Ipld.Asm.Plan`): the call sequences that, by the contract, build a given value - size hints arbitrary, any
  subtree handed over whole, every entry opened in one call or in three - run without a refusal from any value
  position (`ValuePos`) and deliver that value (`Plan.runs`).
-/
import IpldModel.Lemmas.AsmInv
import IpldModel.Lemmas.AsmPlanDefs
namespace Ipld
namespace Asm

/-- The current object is a value assembler that can take a value of kind `k`: the empty root
    builder (whose prototype accepts `k`), a map value assembler, or a list value assembler.  The table of a map
    value assembler is not empty (`t ≠ []`): `deliver` stores the value at its last entry and panics if there is none. -/
inductive ValuePos : St → Kind → Prop
  | root {s : St} {k : Kind} : s.frames = [] → s.root = none → s.proto.accepts k = true → ValuePos s k
  | mapValue {s : St} {k : Kind} {t m rest} :
      s.frames = .map t m .midValue :: rest → t ≠ [] → ValuePos s k
  | listValue {s : St} {k : Kind} {x rest} : s.frames = .list x .midValue :: rest → ValuePos s k

theorem ValuePos.of_inv_map {s : St} (hi : Inv s) {t m rest} (k : Kind)
    (hf : s.frames = .map t m .midValue :: rest) : ValuePos s k := by
  refine ValuePos.mapValue hf ?_
  have hm : MapInv t m .midValue :=
    hi.frames (.map t m .midValue) (by rw [hf]; exact List.mem_cons_self ..)
  obtain ⟨t0, k0, rfl, _, _⟩ := hm.shape
  simp

theorem step_valuePos {s : St} {k : Kind} (h : ValuePos s k) (op : Op) :
    step s op = valueCall s s.frames.isEmpty op ∧
      (s.frames.isEmpty && !s.proto.accepts k) = false := by
  obtain ⟨p, fr, rt⟩ := s
  cases h with
  | root h1 h2 h3 => simp only at h1 h2 h3; subst h1; subst h2; exact ⟨rfl, by simp [h3]⟩
  | mapValue h1 h2 => simp only at h1; subst h1; exact ⟨rfl, rfl⟩
  | listValue h1 => simp only at h1; subst h1; exact ⟨rfl, rfl⟩

theorem step_assign_valuePos {s : St} {v : DM} (h : ValuePos s v.kind) (hs : isScalar v = true) :
    step s (.assign v) = deliver s v := by
  obtain ⟨e, ha⟩ := step_valuePos h (.assign v)
  rw [e, valueCall, hs, ha]; rfl

theorem step_assignNode_valuePos {s : St} {v : DM} (h : ValuePos s v.kind) :
    step s (.assignNode v) = deliver s v := by
  obtain ⟨e, ha⟩ := step_valuePos h (.assignNode v)
  rw [e, valueCall, ha]; rfl

theorem step_beginMap_valuePos {s : St} (h : ValuePos s .map) (n : Int) :
    step s (.beginMap n) = ({ s with frames := .map [] [] .init :: s.frames }, .ok) := by
  obtain ⟨e, ha⟩ := step_valuePos h (.beginMap n)
  rw [e, valueCall, ha]; rfl

theorem step_beginList_valuePos {s : St} (h : ValuePos s .list) (n : Int) :
    step s (.beginList n) = ({ s with frames := .list [] .init :: s.frames }, .ok) := by
  obtain ⟨e, ha⟩ := step_valuePos h (.beginList n)
  rw [e, valueCall, ha]; rfl

theorem deliver_ok {s : St} {k : Kind} (h : ValuePos s k) {v : DM} : deliver s v = ((deliver s v).1, .ok) := by
  obtain ⟨p, fr, rt⟩ := s
  cases h with
  | root h1 h2 h3 => simp only at h1; subst h1; rfl
  | mapValue h1 h2 =>
    simp only at h1; subst h1
    obtain ⟨k, hk⟩ := lastKey_ne_nil h2
    simp only [deliver, hk]
  | listValue h1 => simp only at h1; subst h1; rfl

theorem deliver_valuePos_eq {s s0 : St} {k : Kind} (h : ValuePos s k) {v : DM} {s1 : St}
    (hd : (deliver s v).1 = s1) (hs : s0 = s) : deliver s0 v = (s1, .ok) := by
  subst hs; subst hd
  exact deliver_ok h

/-- Running the three-call form of opening an entry is the same as `AssembleEntry`. -/
theorem runs_open_entry {s : St} {t m rest} {k : Bytes} (h : s.frames = .map t m .init :: rest)
    (hk : mapHas m k = false) {keyOp : Op} (hko : keyOp = .assign (.str k) ∨ keyOp = .assignNode (.str k)) :
    Runs s [.assembleKey, keyOp, .assembleValue]
      { s with frames := .map (t ++ [(k, none)]) m .midValue :: rest } := by
  refine Runs.cons (step_assembleKey h) (Runs.cons (s1 := { s with frames := .map (t ++ [(k, none)]) m .expectValue :: rest }) ?_ (Runs.single ?_))
  · rcases hko with rfl | rfl
    · exact step_key_assign rfl hk
    · exact step_key_assignNode rfl hk
  · exact step_assembleValue_map rfl

theorem plan_node_runs {d : DM} {s : St} (hv : ValuePos s d.kind) :
    Runs s [.assignNode d] (deliver s d).1 :=
  Runs.single (by rw [step_assignNode_valuePos hv]; exact deliver_ok hv)

/-- One entry of a plan: the calls `pre` that open it, however that is done, then the plan of its value, then the plans
    of the other entries. -/
theorem entry_runs {k : Bytes} {v : DM} {es : DMKVs} {pre o1 o2 : List Op} {s : St} {t m rest}
    (r1 : v.NoDup → ∀ s : St, ValuePos s v.kind → Runs s o1 (deliver s v).1)
    (r2 : es.keys.Nodup → es.NoDupVals → ∀ (s : St) t m rest, s.frames = .map t m .init :: rest →
      (∀ k ∈ es.keys, mapHas m k = false) →
      Runs s o2 { s with frames := .map (t ++ doneEntries es.toList) (insertAll m es.toList) .init :: rest })
    (hk : (DMKVs.cons k v es).keys.Nodup) (hn : (DMKVs.cons k v es).NoDupVals)
    (hm : ∀ k' ∈ (DMKVs.cons k v es).keys, mapHas m k' = false)
    (hpre : mapHas m k = false → Runs s pre { s with frames := .map (t ++ [(k, none)]) m .midValue :: rest }) :
    Runs s (pre ++ (o1 ++ o2))
      { s with frames := .map (t ++ doneEntries (DMKVs.cons k v es).toList)
                              (insertAll m (DMKVs.cons k v es).toList) .init :: rest } := by
  have hkeys : (DMKVs.cons k v es).keys = k :: es.keys := rfl
  have hk' : k ∉ es.keys ∧ es.keys.Nodup := List.nodup_cons.1 (hkeys ▸ hk)
  have hm' : ∀ k' ∈ es.keys, mapHas (mapInsert m k v) k' = false := by
    intro k' hk''
    have : k ≠ k' := fun e => hk'.1 (e ▸ hk'')
    rw [mapHas_mapInsert, hm k' (hkeys ▸ List.mem_cons_of_mem _ hk''), decide_eq_false this]
    rfl
  have r1 := r1 hn.1 { s with frames := .map (t ++ [(k, none)]) m .midValue :: rest } (ValuePos.mapValue rfl (by simp))
  rw [deliver_mapValue v rfl] at r1
  have := Runs.append r1 (r2 hk'.2 hn.2 { s with frames := .map (t ++ [(k, some v)]) (mapInsert m k v) .init :: rest }
    (t ++ [(k, some v)]) (mapInsert m k v) rest rfl hm')
  rw [List.append_assoc] at this
  exact Runs.append (hpre (hm k (hkeys ▸ List.mem_cons_self ..))) this

theorem plans_run :
    (∀ d ops, Plan d ops → d.NoDup → ∀ s : St, ValuePos s d.kind → Runs s ops (deliver s d).1) ∧
    (∀ xs ops, PlanList xs ops → xs.NoDup → ∀ (s : St) (acc : List DM) (rest : List Frame),
      s.frames = .list acc .init :: rest →
      Runs s ops { s with frames := .list (acc ++ xs.toList) .init :: rest }) ∧
    ∀ es ops, PlanKVs es ops → es.keys.Nodup → es.NoDupVals →
      ∀ (s : St) (t : List (Bytes × Option DM)) (m : List (Bytes × DM)) (rest : List Frame),
      s.frames = .map t m .init :: rest → (∀ k ∈ es.keys, mapHas m k = false) →
      Runs s ops { s with frames := .map (t ++ doneEntries es.toList) (insertAll m es.toList) .init :: rest } := by
  apply Plan.induct
  case scalar =>
    intro d hs _ s hv
    exact Runs.single (by rw [step_assign_valuePos hv hs]; exact deliver_ok hv)
  case node => intro d _ s hv; exact plan_node_runs hv
  case list =>
    intro n xs ops ih hn s hv
    refine Runs.cons (step_beginList_valuePos hv n)
      (Runs.append (ih hn { s with frames := .list [] .init :: s.frames } [] s.frames rfl) (Runs.single ?_))
    rw [step_finish_list rfl]
    simp only [List.nil_append, DMs.ofList_toList]
    exact deliver_ok hv
  case map =>
    intro n es ops ih hn s hv
    refine Runs.cons (step_beginMap_valuePos hv n) (Runs.append
      (ih hn.1 hn.2 { s with frames := .map [] [] .init :: s.frames } [] [] s.frames rfl (fun _ _ => rfl))
      (Runs.single ?_))
    rw [step_finish_map rfl]
    simp only [List.nil_append, tableEntries_doneEntries, DMKVs.ofList_toList]
    exact deliver_ok hv
  case nil =>
    intro _ s acc rest hf
    obtain ⟨p, fr, rt⟩ := s
    cases hf
    simp only [DMs.toList, List.append_nil]
    exact Runs.nil _
  case cons =>
    intro x xs o1 o2 ih1 ih2 hn s acc rest hf
    have r1 := ih1 hn.1 { s with frames := .list acc .midValue :: rest } (ValuePos.listValue rfl)
    rw [deliver_listValue x rfl] at r1
    have := Runs.cons (step_assembleValue_list hf) (Runs.append r1
      (ih2 hn.2 { s with frames := .list (acc ++ [x]) .init :: rest } (acc ++ [x]) rest rfl))
    rw [List.append_assoc] at this
    exact this
  case mnil =>
    intro _ _ s t m rest hf _
    obtain ⟨p, fr, rt⟩ := s
    cases hf
    simp only [DMKVs.toList, doneEntries, insertAll, List.map_nil, List.append_nil, List.foldl_nil]
    exact Runs.nil _
  case entry =>
    intro k v es o1 o2 ih1 ih2 hk hn s t m rest hf hm
    exact entry_runs ih1 ih2 hk hn hm fun h => Runs.single (step_assembleEntry hf h)
  case keyAssign =>
    intro k v es o1 o2 ih1 ih2 hk hn s t m rest hf hm
    exact entry_runs ih1 ih2 hk hn hm fun h => runs_open_entry hf h (Or.inl rfl)
  case keyNode =>
    intro k v es o1 o2 ih1 ih2 hk hn s t m rest hf hm
    exact entry_runs ih1 ih2 hk hn hm fun h => runs_open_entry hf h (Or.inr rfl)

theorem Plan.runs : (d : DM) → (ops : List Op) → Plan d ops → d.NoDup → (s : St) →
    ValuePos s d.kind → Runs s ops (deliver s d).1 :=
  plans_run.1

theorem PlanList.runs : (xs : DMs) → (ops : List Op) → PlanList xs ops → xs.NoDup → (s : St) →
    (acc : List DM) → (rest : List Frame) → s.frames = .list acc .init :: rest →
    Runs s ops { s with frames := .list (acc ++ xs.toList) .init :: rest } :=
  plans_run.2.1

theorem PlanKVs.runs : (es : DMKVs) → (ops : List Op) → PlanKVs es ops → es.keys.Nodup →
    es.NoDupVals → (s : St) → (t : List (Bytes × Option DM)) → (m : List (Bytes × DM)) →
    (rest : List Frame) → s.frames = .map t m .init :: rest →
    (∀ k ∈ es.keys, mapHas m k = false) →
    Runs s ops
      { s with frames := .map (t ++ doneEntries es.toList) (insertAll m es.toList) .init :: rest } :=
  plans_run.2.2

end Asm
end Ipld

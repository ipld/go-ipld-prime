/-
  Representation-level assemblers: histories with `Reset()` (`RAsm.runC`), an instance of Lemmas/ResetHistory.lean.
-/
import IpldModel.Lemmas.ResetHistory
import IpldModel.Lemmas.ReprAssemblerInv
namespace Ipld
namespace RAsm
open Ipld.Asm (Op Out ErrClass)
open Ipld.TAsm (Call hasReset tailOps)
open Ipld.Schema (Ty Fields Field TL TLs TLKVs)

theorem runC_eq_hist (e : Engine) : runC e = Hist.runC (step e) (fun s => init s.ty) := by
  funext b s h
  induction h generalizing b s with
  | nil => cases b <;> rfl
  | cons c cs ih =>
    rcases c with o | _ <;> cases b <;> simp only [runC, Hist.runC, ih]
    rcases step e s o with ⟨s', _ | _ | _⟩ <;> rfl

theorem runC_ty (e : Engine) (b : Bool) (s : St) (h : List Call) : (runC e b s h).1.ty = s.ty := by
  rw [runC_eq_hist]
  exact Hist.runC_state (reset := fun s => init s.ty) (P := fun s' => s'.ty = s.ty)
    (hstep := fun s1 op h1 => (step_hdr e s1 op).1.trans h1) (hreset := fun _ h1 => h1) b s h rfl

theorem runC_inv {e : Engine} (he : e.keyAsmDupMapKey = false) (b : Bool) (s : St) (h : List Call) (hi : Inv s) :
    Inv (runC e b s h).1 := by
  rw [runC_eq_hist]
  exact Hist.runC_state (step_inv he) (fun _ h => init_inv h.wf) b s h hi

end RAsm
end Ipld

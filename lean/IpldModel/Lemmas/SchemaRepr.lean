/-
  The ideal representation-level builder accepts exactly the trees that conform at
  representation level.
-/
import IpldModel.Lemmas.SchemaConf
import IpldModel.Lemmas.SchemaMembers
namespace Ipld
namespace Schema

theorem conformsJoin_length : (fs : Fields) → (ps : List Bytes) → conformsJoin fs ps = true →
    ps.length = fs.toList.length
  | .nil, [], _ => rfl
  | .nil, _ :: _, h => nomatch h
  | .cons _ _ _ _ _ _, [], h => nomatch h
  | .cons _ _ _ _ _ rest, _ :: ps, h =>
    congrArg (· + 1) (conformsJoin_length rest ps (Bool.and_eq_true_iff.1 h).2)

theorem member_isOk (nul : Bool) {o : Outcome TL} {f : TL → TL} :
    (if (nul && Engine.ideal.nullableUnionPanic) = true then Outcome.panic else o.map f).isOk = o.isOk :=
  (congrArg Outcome.isOk (memberStep_off rfl nul o f)).trans Outcome.isOk_map

/-- the scalars `conformsAtom` judges (`conformsStr` has the strings) -/
def isAtom : DM → Bool
  | .bool _ => true
  | .int _ => true
  | .float _ => true
  | .bytes _ => true
  | .link _ => true
  | _ => false

theorem atomCases {motive : (d : DM) → isAtom d = true → Prop}
    (bool : ∀ b, motive (.bool b) rfl) (int : ∀ i, motive (.int i) rfl) (float : ∀ f, motive (.float f) rfl)
    (bytes : ∀ b, motive (.bytes b) rfl) (link : ∀ c, motive (.link c) rfl) (d : DM) (hd : isAtom d = true) :
    motive d hd := by
  cases d with
  | bool b => exact bool b
  | int i => exact int i
  | float f => exact float f
  | bytes b => exact bytes b
  | link c => exact link c
  | _ => cases hd

theorem scalars_repr_isOk :
    (∀ ty, (∀ nul s, (buildScalar Engine.ideal .repr nul (.str s) ty).isOk = conformsStr s ty) ∧
      ∀ nul d, isAtom d = true → (buildScalar Engine.ideal .repr nul d ty).isOk = conformsAtom d ty) ∧
    (∀ fs ps, (buildJoin Engine.ideal fs ps).isOk = conformsJoin fs ps) ∧
    ∀ ms, (∀ nul s, (buildKinded Engine.ideal nul (.str s) ms).isOk = conformsKindedStr s ms) ∧
      (∀ nul p r, (buildPrefix Engine.ideal nul p r ms).isOk = conformsPrefix p r ms) ∧
      (∀ nul s, (buildPrefixNoDelim Engine.ideal nul s ms).isOk = conformsPrefixNoDelim s ms) ∧
      ∀ nul d, isAtom d = true → (buildKinded Engine.ideal nul d ms).isOk = conformsKindedAtom d ms := by
  refine Ty.builder_induct ?_ ?_ ?_ ?_ ?_ ?_ ?_ ?_ ?_ ?_ ?_ ?_ ?_ ?_ ?_ ?_
  iterate 7 exact ⟨fun _ _ => rfl, fun _ d hd => by cases d, hd using atomCases <;> eq_refl⟩
  iterate 2 exact fun _ _ => ⟨fun _ _ => rfl, fun _ _ _ => rfl⟩
  · intro fs r hj
    refine ⟨fun nul s => ?_, fun nul d hd => ?_⟩
    · cases r with
      | stringjoin delim =>
        rw [buildScalar_struct, conformsStr]
        dsimp only
        split
        · next hl =>
          cases hc : conformsJoin fs (splitAll delim s) with
          | false => rfl
          | true => exact absurd (conformsJoin_length fs _ hc) (bne_iff_ne.1 hl)
        · exact Outcome.isOk_map.trans (hj _)
      | _ => rfl
    · rw [buildScalar_struct]
      split
      · cases hd
      · rfl
  · rintro ms r ⟨hk, hp, hn, ha⟩
    refine ⟨fun nul s => ?_, fun nul d hd => ?_⟩
    · cases r with
      | keyed => rfl
      | kinded => exact hk nul s
      | stringprefix delim =>
        rw [buildScalar_union_off rfl, conformsStr]
        dsimp only
        cases delim.isEmpty with
        | true => exact hn nul s
        | false =>
          cases splitFirst delim s with
          | none => rfl
          | some r => exact hp nul r.1 r.2
    · cases r with
      | keyed => rfl
      | kinded => exact ha nul d hd
      | stringprefix _ => cases d, hd using atomCases <;> eq_refl
  · intro ms r
    refine ⟨fun nul s => ?_, fun nul d hd => ?_⟩
    · cases r with
      | str =>
        rw [buildScalar, conformsStr, ← List.isSome_find?]
        cases ms.find? (fun m => m.rstr == s) <;> rfl
      | int => rfl
    · cases r with
      | str => cases d, hd using atomCases <;> eq_refl
      | int =>
        cases d, hd using atomCases with
        | int i =>
          rw [buildScalar, conformsAtom, ← List.isSome_find?]
          cases ms.find? (fun m => m.rint == i) <;> rfl
        | _ => rfl
  · intro ps; cases ps <;> rfl
  · intro n rn o nu t rest ht hj ps
    cases ps with
    | nil => rfl
    | cons p ps =>
      rw [buildJoin_cons, conformsJoin, ← ht.1 false p]
      exact Outcome.isOk_bind_and fun _ => Outcome.isOk_map.trans (hj ps)
  · exact ⟨fun _ _ => rfl, fun _ _ _ => rfl, fun _ _ => rfl, fun _ _ _ => rfl⟩
  · rintro n disc k t rest ht ⟨hk, hp, hn, ha⟩
    refine ⟨fun nul s => ?_, fun nul p r => ?_, fun nul s => ?_, fun nul d hd => ?_⟩
    · rw [buildKinded, conformsKindedStr]
      show Outcome.isOk (if (k == Kind.str) = true then _ else _) = _
      cases k == Kind.str with
      | true => exact (member_isOk nul).trans (ht.1 false s)
      | false => exact hk nul s
    · rw [buildPrefix, conformsPrefix]
      cases disc == p with
      | true => exact (member_isOk nul).trans (ht.1 false r)
      | false => exact hp nul p r
    · rw [buildPrefixNoDelim, conformsPrefixNoDelim]
      cases isPrefix disc s with
      | true => exact (member_isOk nul).trans (ht.1 false _)
      | false => exact hn nul s
    · rw [buildKinded, conformsKindedAtom]
      cases k == d.kind with
      | true => exact (member_isOk nul).trans (ht.2 false d hd)
      | false => exact ha nul d hd

theorem buildJoin_isOk : (fs : Fields) → (ps : List Bytes) →
    (buildJoin Engine.ideal fs ps).isOk = conformsJoin fs ps :=
  scalars_repr_isOk.2.1
theorem buildKinded_str_isOk (nul : Bool) (s : Bytes) : (ms : Members) →
    (buildKinded Engine.ideal nul (.str s) ms).isOk = conformsKindedStr s ms :=
  fun ms => (scalars_repr_isOk.2.2 ms).1 nul s
theorem buildPrefix_isOk (nul : Bool) (p r : Bytes) : (ms : Members) →
    (buildPrefix Engine.ideal nul p r ms).isOk = conformsPrefix p r ms :=
  fun ms => (scalars_repr_isOk.2.2 ms).2.1 nul p r
theorem buildPrefixNoDelim_isOk (nul : Bool) (s : Bytes) : (ms : Members) →
    (buildPrefixNoDelim Engine.ideal nul s ms).isOk = conformsPrefixNoDelim s ms :=
  fun ms => (scalars_repr_isOk.2.2 ms).2.2.1 nul s
theorem buildKinded_atom_isOk (nul : Bool) (d : DM) (hd : isAtom d = true) : (ms : Members) →
    (buildKinded Engine.ideal nul d ms).isOk = conformsKindedAtom d ms :=
  fun ms => (scalars_repr_isOk.2.2 ms).2.2.2 nul d hd

theorem resolveKinded_ideal_nul (nul : Bool) (k : Kind) (ty : Ty) :
    resolveKinded Engine.ideal nul k ty = resolveKinded Engine.ideal false k ty := by
  unfold resolveKinded
  split
  · exact (resolveMembers_find nul k _).trans (resolveMembers_find false k _).symm
  · rfl

theorem finish_isOk (fs : List Field) (g : Bytes → Option TL) :
    ((SSt.ofFn fs g).finish fs).isOk = fs.all (fun f => f.opt || (g f.name).isSome) := by
  rw [SSt.ofFn_finish]
  exact Outcome.isOk_ite_ok

theorem kindedTarget_wf {k : Kind} {ty ty' : Ty} (hwf : ty.wf = true) (h : kindedTarget k ty = some ty') :
    ty'.wf = true := by
  unfold kindedTarget at h
  split at h
  · next hres => cases h; exact (addr_good (resolveKinded_addr hres) hwf).1
  · cases h

theorem dispatch_isOk (nul : Bool) (k : Kind) (ty : Ty) (f : Ty → Outcome TL) :
    ((dispatch Engine.ideal .repr nul k ty).bind fun r => (f r.1).map (wrapPath r.2)).isOk =
      match kindedTarget k ty with
      | some ty' => (f ty').isOk
      | none => false := by
  unfold kindedTarget dispatch
  rw [resolveKinded_ideal_nul]
  cases resolveKinded Engine.ideal false k ty with
  | ok r => exact Outcome.isOk_map
  | reject => rfl
  | panic => rfl

theorem builders_repr_isOk :
    (∀ d ty nul, ty.wf = true → (build Engine.ideal .repr ty nul none d).isOk = conformsRepr ty nul d) ∧
    (∀ xs,
      (∀ ety enul, ety.wf = true → ∀ acc,
        (buildList Engine.ideal .repr ety enul acc xs).isOk = conformsReprList ety enul xs) ∧
      (∀ fs, (∀ f ∈ fs, f.ty.wf = true) → (fs.map (·.name)).Nodup → ∀ pre suf, fs = pre ++ suf →
        ∀ g, (∀ f ∈ pre, (g f.name).isSome = true) → (∀ f ∈ suf, g f.name = none) →
        (buildTuple Engine.ideal fs (SSt.ofFn fs g) pre.length xs).isOk = conformsReprTuple suf xs) ∧
      ∀ fs, (∀ f ∈ fs, f.ty.wf = true) → (fs.map (·.name)).Nodup → ∀ g seen,
        (∀ k, seen.contains k = (g k).isSome) →
        (buildPairs Engine.ideal fs (SSt.ofFn fs g) xs).isOk = conformsReprPairs fs seen xs) ∧
    ∀ es,
      (∀ vty vnul, vty.wf = true → ∀ acc seen,
        (∀ k, seen.contains k = acc.any (fun p => p.1 == k)) →
        (buildMap Engine.ideal .repr vty vnul acc es).isOk = conformsReprMap vty vnul seen es) ∧
      (∀ fs, (∀ f ∈ fs, f.ty.wf = true) → (fs.map (·.name)).Nodup → (fs.map (·.rename)).Nodup →
        ∀ g seen, (∀ f ∈ fs, seen.contains f.rename = (g f.name).isSome) →
        (buildStruct Engine.ideal .repr fs (SSt.ofFn fs g) es).isOk = conformsReprStruct fs seen es) ∧
      ∀ ms, (∀ m ∈ ms, m.ty.wf = true) →
        (buildUnion Engine.ideal .repr ms none 0 es).isOk =
          match es with
          | .cons k v .nil =>
            match ms.find? (fun m => m.disc == k) with
            | some m => conformsRepr m.ty false v
            | none => false
          | _ => false := by
  refine DM.builder_induct ?_ ?_ ?_ ?_ ?_ ?_ ?_ ?_
  · intro ty nul _
    rw [build_null_ideal]
    exact Outcome.isOk_ite_ok
  · intro d hs hn ty nul _
    cases d with
    | null => exact absurd rfl hn
    | list _ => cases hs
    | map _ => cases hs
    | str s => exact (scalars_repr_isOk.1 ty).1 nul s
    | _ => exact (scalars_repr_isOk.1 ty).2 nul _ rfl
  · rintro xs ⟨hl, ht, hp⟩ ty nul hwf
    rw [build_list_none, dispatch_isOk nul .list ty fun t => listBody Engine.ideal .repr t none xs, conformsRepr]
    cases hk : kindedTarget .list ty with
    | none => rfl
    | some ty' =>
      have hwf' := kindedTarget_wf hwf hk
      cases ty' with
      | list ety enul => exact Outcome.isOk_map.trans (hl ety enul hwf' [])
      | struct fs sr =>
        have hw := wf_struct hwf'
        cases sr with
        | tuple =>
          -- the fresh state `SSt.init _ none` unfolds to `SSt.ofFn _ fun _ => none`
          exact ht fs.toList hw.1 hw.2.1 [] fs.toList rfl (fun _ => none) nofun fun _ _ => rfl
        | listpairs => exact hp fs.toList hw.1 hw.2.1 (fun _ => none) [] fun _ => rfl
        | _ => rfl
      | any => exact Outcome.isOk_ite_ok
      | _ => rfl
  · rintro es ⟨hm, hs, hu⟩ ty nul hwf
    rw [build_map_none ideal_nodeOff, dispatch_isOk nul .map ty fun t => mapBody Engine.ideal .repr t none es,
      conformsRepr]
    cases hk : kindedTarget .map ty with
    | none => rfl
    | some ty' =>
      have hwf' := kindedTarget_wf hwf hk
      cases ty' with
      | map vty vnul => exact Outcome.isOk_map.trans (hm vty vnul hwf' [] [] fun _ => rfl)
      | struct fs sr =>
        have hw := wf_struct hwf'
        cases sr with
        | map => exact hs fs.toList hw.1 hw.2.1 hw.2.2 (fun _ => none) [] fun _ _ => rfl
        | _ => rfl
      | union ms ur =>
        cases ur with
        | keyed => exact hu ms.toList (wf_union hwf').1
        | _ => rfl
      | any => exact Outcome.isOk_ite_ok
      | _ => rfl
  · refine ⟨fun _ _ _ _ => rfl, fun fs _ _ pre suf hfs g hpre hsuf => ?_, fun fs _ _ g seen hseen => ?_⟩
    · rw [buildTuple_nil_ideal]
      show _ = suf.all fun f => f.opt
      rw [finish_isOk, hfs, List.all_append]
      have h1 : pre.all (fun f => f.opt || (g f.name).isSome) = true :=
        List.all_eq_true.2 fun f hf => by rw [hpre f hf, Bool.or_true]
      rw [h1, Bool.true_and]
      exact all_congr_mem fun f hf => by rw [hsuf f hf]; exact Bool.or_false _
    · exact (finish_isOk fs g).trans (all_congr_mem fun f _ => by rw [hseen f.name])
  · rintro x xs hx hsub ⟨hl, ht, hp⟩
    refine ⟨fun ety enul hwf acc => ?_, fun fs hwf hnd pre suf hfs g hpre hsuf => ?_,
      fun fs hwf hnd g seen hseen => ?_⟩
    · rw [buildList_ideal_cons, conformsReprList, ← hx ety enul hwf]
      exact Outcome.isOk_bind_and fun _ => hl ety enul hwf _
    · rw [buildTuple_ideal_cons hnd]
      cases suf with
      | nil =>
        rw [hfs, List.append_nil, List.getElem?_eq_none (Nat.le_refl _)]
        rfl
      | cons f suf =>
        have hi : fs[pre.length]? = some f := by
          rw [hfs, List.getElem?_append_right (Nat.le_refl _), Nat.sub_self]; rfl
        rw [hi, conformsReprTuple]
        dsimp only
        rw [← hx f.ty f.nullable (hwf f (List.mem_of_getElem? hi))]
        refine Outcome.isOk_bind_and fun tv => ?_
        have hsnd : ((f :: suf).map (·.name)).Nodup := by
          rw [hfs, List.map_append] at hnd
          exact (List.nodup_append.1 hnd).2.1
        have ih := ht fs hwf hnd (pre ++ [f]) suf (by rw [hfs, List.append_assoc]; rfl)
          (setFn g f.name tv) (set_upto f tv hpre) (unset_after hsnd hsuf)
        rw [List.length_append] at ih
        exact ih
    · rcases DM.pair_cases x with rfl | ⟨k, rfl⟩ | ⟨k, v, rest, rfl⟩ | hbad
      · rfl
      · rfl
      · rw [buildPairs_ideal_pair hnd]
        cases rest with
        | nil =>
          rw [conformsReprPairs]
          cases hf : fs.find? (fun f => f.name == k) with
          | none => rfl
          | some f =>
            obtain ⟨hmem, hname⟩ := find?_mem_key hf
            dsimp only
            rw [hname, ← hseen k,
              ← hsub _ rfl v (List.mem_cons_of_mem _ List.mem_cons_self) f.ty f.nullable (hwf f hmem)]
            exact Outcome.isOk_guard_bind fun _ tv => hp fs hwf hnd _ (k :: seen) (seen_setFn hseen k tv)
        | cons y rest =>
          show _ = false
          cases fs.find? (fun f => f.name == k) with
          | none => rfl
          | some f => exact (Outcome.isOk_guard_bind fun _ _ => rfl).trans (Bool.and_false _)
      · rw [hbad, conformsReprPairs]
        · rfl
        · rintro k v rfl
          -- `hbad` speaks of every engine: one that panics on an unknown key does not refuse `[k, v]`
          exact absurd (hbad { lpUnknownKeyPanic := true } [] (SSt.ofFn [] g) xs) nofun
  · exact ⟨fun _ _ _ _ _ _ => rfl,
      fun fs _ _ _ g seen hseen =>
        (finish_isOk fs g).trans (all_congr_mem fun f hf => by rw [hseen f hf]),
      fun _ _ => rfl⟩
  · rintro k x es hx ⟨hm, hs, hu⟩
    refine ⟨fun vty vnul hwf acc seen hseen => ?_, fun fs hwf hnd hndr g seen hseen => ?_, fun ms hwf => ?_⟩
    · rw [buildMap_ideal_cons, conformsReprMap, hseen k, ← hx vty vnul hwf]
      exact Outcome.isOk_guard_bind fun _ tv => hm vty vnul hwf _ (k :: seen) (seen_append hseen k tv)
    · rw [buildStruct_ideal_cons hnd, conformsReprStruct]
      show (match fs.find? (fun f => f.rename == k) with | none => _ | some f => _ : Outcome TL).isOk = _
      cases hf : fs.find? (fun f => f.rename == k) with
      | none => rfl
      | some f =>
        obtain ⟨hmem, hname⟩ := find?_mem_key hf
        dsimp only
        rw [← hseen f hmem, hname, ← hx f.ty f.nullable (hwf f hmem)]
        refine Outcome.isOk_guard_bind fun _ tv => hs fs hwf hnd hndr _ (k :: seen) fun f' hf' => ?_
        rw [List.contains_cons, hseen f' hf', ← hname]
        unfold setFn
        by_cases h : f' = f
        · subst h; rw [beq_self_eq_true, beq_self_eq_true]; rfl
        · rw [beq_eq_false_iff_ne.2 fun e => h (eq_of_key_eq (·.rename) hndr hf' hmem e),
            beq_eq_false_iff_ne.2 fun e => h (eq_of_key_eq (·.name) hnd hf' hmem e)]
          rfl
    · rw [buildUnion_ideal_cons, if_neg (by decide)]
      show (match ms.find? (fun m => m.disc == k) with | none => _ | some m => _ : Outcome TL).isOk = _
      cases es with
      | nil =>
        dsimp only
        cases hm' : ms.find? (fun m => m.disc == k) with
        | none => rfl
        | some m =>
          exact ((Outcome.isOk_bind_and (b := true) fun _ => rfl).trans (Bool.and_true _)).trans
            (hx m.ty false (hwf m (List.mem_of_find?_eq_some hm')))
      | cons _ _ _ =>
        cases ms.find? (fun m => m.disc == k) with
        | none => rfl
        | some m => exact (Outcome.isOk_bind_and (b := false) fun _ => rfl).trans (Bool.and_false _)

theorem build_repr_isOk : (d : DM) → (ty : Ty) → (nul : Bool) → ty.wf = true →
    (build Engine.ideal .repr ty nul none d).isOk = conformsRepr ty nul d :=
  builders_repr_isOk.1
theorem buildList_isOk : (xs : DMs) → (ety : Ty) → (enul : Bool) → ety.wf = true → (acc : List TL) →
    (buildList Engine.ideal .repr ety enul acc xs).isOk = conformsReprList ety enul xs :=
  fun xs => (builders_repr_isOk.2.1 xs).1
theorem buildMap_isOk : (es : DMKVs) → (vty : Ty) → (vnul : Bool) → vty.wf = true →
    (acc : List (Bytes × TL)) → (seen : List Bytes) →
    (∀ k, seen.contains k = acc.any (fun p => p.1 == k)) →
    (buildMap Engine.ideal .repr vty vnul acc es).isOk = conformsReprMap vty vnul seen es :=
  fun es => (builders_repr_isOk.2.2 es).1
theorem buildStruct_isOk : (es : DMKVs) → (fs : List Field) → (∀ f ∈ fs, f.ty.wf = true) →
    (fs.map (·.name)).Nodup → (fs.map (·.rename)).Nodup → (g : Bytes → Option TL) →
    (seen : List Bytes) → (∀ f ∈ fs, seen.contains f.rename = (g f.name).isSome) →
    (buildStruct Engine.ideal .repr fs (SSt.ofFn fs g) es).isOk = conformsReprStruct fs seen es :=
  fun es => (builders_repr_isOk.2.2 es).2.1
theorem buildTuple_isOk : (xs : DMs) → (fs : List Field) → (∀ f ∈ fs, f.ty.wf = true) →
    (fs.map (·.name)).Nodup → (pre suf : List Field) → fs = pre ++ suf → (g : Bytes → Option TL) →
    (∀ f ∈ pre, (g f.name).isSome = true) → (∀ f ∈ suf, g f.name = none) →
    (buildTuple Engine.ideal fs (SSt.ofFn fs g) pre.length xs).isOk = conformsReprTuple suf xs :=
  fun xs => (builders_repr_isOk.2.1 xs).2.1
theorem buildPairs_isOk : (ps : DMs) → (fs : List Field) → (∀ f ∈ fs, f.ty.wf = true) →
    (fs.map (·.name)).Nodup → (g : Bytes → Option TL) → (seen : List Bytes) →
    (∀ k, seen.contains k = (g k).isSome) →
    (buildPairs Engine.ideal fs (SSt.ofFn fs g) ps).isOk = conformsReprPairs fs seen ps :=
  fun ps => (builders_repr_isOk.2.1 ps).2.2

end Schema
end Ipld

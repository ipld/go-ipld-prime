/-
  `Spec.canon` and `Spec.canonLex` are one insertion sort under two key orders (`CanonBy`): it permutes, keeps
  sorted, lists entries as `sortPairs` does and leaves `OrderBlind` quantities alone.
-/
import IpldModel.Lemmas.CborSort
import IpldModel.Spec.CanonJson
namespace Ipld
namespace Cbor

/-- A canonical form by insertion: `ins` puts an entry before the first strictly greater key in the order of
    sort mode `m` (a mode that sorts), and `c`/`cL`/`cK` rebuild a value, a list, the entries of a map with it: the
    four defining equations. -/
structure CanonBy (m : SortMode) (ins : Bytes → DM → DMKVs → DMKVs) (c : DM → DM) (cL : DMs → DMs)
    (cK : DMKVs → DMKVs) : Prop where
  mode : m ≠ .none
  ins_eq : ∀ k v es, ins k v es = match es with
    | .nil => .cons k v .nil
    | .cons k' v' es => if keyLE m k k' then .cons k v (.cons k' v' es) else .cons k' v' (ins k v es)
  c_eq : ∀ d, c d = match d with
    | .list xs => .list (cL xs)
    | .map es => .map (cK es)
    | d => d
  cL_eq : ∀ xs, cL xs = match xs with
    | .nil => .nil
    | .cons x xs => .cons (c x) (cL xs)
  cK_eq : ∀ es, cK es = match es with
    | .nil => .nil
    | .cons k v es => ins k (c v) (cK es)

theorem canonCbor : CanonBy .rfc7049 Spec.insertKV Spec.canon Spec.canonList Spec.canonKVs where
  mode := by decide
  ins_eq k v es := by cases es <;> first | rfl | (rw [Spec.insertKV, spec_keyLE_eq]; rfl)
  c_eq d := by cases d <;> rfl
  cL_eq xs := by cases xs <;> rfl
  cK_eq es := by cases es <;> rfl

theorem canonJson : CanonBy .lexical Spec.insertKVLex Spec.canonLex Spec.canonLexList Spec.canonLexKVs where
  mode := by decide
  ins_eq k v es := by cases es <;> first | rfl | (rw [Spec.insertKVLex, spec_bytewiseLE_eq]; rfl)
  c_eq d := by cases d <;> rfl
  cL_eq xs := by cases xs <;> rfl
  cK_eq es := by cases es <;> rfl

namespace CanonBy
variable {m : SortMode} {ins : Bytes → DM → DMKVs → DMKVs} {c : DM → DM} {cL : DMs → DMs} {cK : DMKVs → DMKVs}

theorem ins_perm (h : CanonBy m ins c cL cK) (k : Bytes) (v : DM) : (es : DMKVs) →
    (ins k v es).toList.Perm ((k, v) :: es.toList)
  | .nil => by rw [h.ins_eq]; exact List.Perm.refl _
  | .cons k' v' es => by
    rw [h.ins_eq]
    dsimp only
    split
    · exact List.Perm.refl _
    · exact (List.Perm.cons _ (h.ins_perm k v es)).trans (List.Perm.swap _ _ _)

theorem ins_sorted (h : CanonBy m ins c cL cK) (k : Bytes) (v : DM) : (es : DMKVs) →
    es.toList.Pairwise (fun a b => keyLE m a.1 b.1 = true) →
    (ins k v es).toList.Pairwise (fun a b => keyLE m a.1 b.1 = true)
  | .nil, _ => by rw [h.ins_eq]; exact List.pairwise_singleton _ _
  | .cons k' v' es, s => by
    obtain ⟨hx, hxs⟩ := List.pairwise_cons.mp s
    rw [h.ins_eq]
    dsimp only
    split
    · rename_i hle
      refine List.pairwise_cons.mpr ⟨fun b hb => ?_, s⟩
      rcases List.mem_cons.mp hb with rfl | hb
      · exact hle
      · exact keyLE_trans _ _ _ hle (hx b hb)
    · rename_i hnle
      have hle' : keyLE m k' k = true := (Bool.or_eq_true _ _ ▸ keyLE_total k k').resolve_left hnle
      refine List.pairwise_cons.mpr ⟨fun b hb => ?_, h.ins_sorted k v es hxs⟩
      rcases List.mem_cons.mp ((h.ins_perm k v es).subset hb) with rfl | hb
      · exact hle'
      · exact hx b hb

theorem perm (h : CanonBy m ins c cL cK) : (es : DMKVs) →
    (cK es).toList.Perm (es.toList.map fun e => (e.1, c e.2))
  | .nil => by rw [h.cK_eq]; exact List.Perm.refl _
  | .cons k v es => by rw [h.cK_eq]; exact (h.ins_perm k (c v) _).trans (List.Perm.cons _ (h.perm es))

theorem sorted (h : CanonBy m ins c cL cK) : (es : DMKVs) →
    (cK es).toList.Pairwise (fun a b => keyLE m a.1 b.1 = true)
  | .nil => by rw [h.cK_eq]; exact List.Pairwise.nil
  | .cons k v es => by rw [h.cK_eq]; exact h.ins_sorted k (c v) _ (h.sorted es)

theorem keys_perm (h : CanonBy m ins c cL cK) (es : DMKVs) : (cK es).keys.Perm es.keys := by
  have := (h.perm es).map (·.1)
  rwa [List.map_map] at this

theorem toList (h : CanonBy m ins c cL cK) (es : DMKVs) (nd : es.keys.Nodup) :
    (cK es).toList = sortPairs m (es.toList.map fun e => (e.1, c e.2)) :=
  sorted_perm_unique (keyLE m) (keyLE_antisymm h.mode) ((h.keys_perm es).nodup_iff.mpr nd) (h.sorted es)
    (sortPairs_sorted m h.mode _) ((h.perm es).trans (sortPairs_perm m _).symm)

theorem perm_top (h : CanonBy m ins c cL cK) {es es' : DMKVs} (nd : es.keys.Nodup)
    (p : es.toList.Perm es'.toList) : c (.map es) = c (.map es') := by
  have nd' : es'.keys.Nodup := (p.map (fun e : Bytes × DM => e.1)).nodup_iff.mp nd
  rw [h.c_eq, h.c_eq]
  refine congrArg DM.map ?_
  rw [← DMKVs.ofList_toList (cK es), ← DMKVs.ofList_toList (cK es'), h.toList es nd, h.toList es' nd',
    sortPairs_perm_invariant m h.mode (by rw [List.map_map]; exact nd) (p.map _)]

theorem cK_length (h : CanonBy m ins c cL cK) (es : DMKVs) : (cK es).length = es.length := by
  simp only [DMKVs.length]
  rw [(h.perm es).length_eq, List.length_map]

theorem cL_length (h : CanonBy m ins c cL cK) : (xs : DMs) → (cL xs).length = xs.length
  | .nil => by rw [h.cL_eq]
  | .cons x xs => by
    have := h.cL_length xs
    rw [h.cL_eq]
    simp only [DMs.length, DMs.toList, List.length_cons] at this ⊢
    rw [this]

theorem ins_blind {α : Type} (h : CanonBy m ins c cL cK) {fK : DMKVs → α}
    (cons : ∀ k v {es es'}, fK es = fK es' → fK (.cons k v es) = fK (.cons k v es'))
    (swap : ∀ k v k' v' es, fK (.cons k v (.cons k' v' es)) = fK (.cons k' v' (.cons k v es)))
    (k : Bytes) (v : DM) : (es : DMKVs) → fK (ins k v es) = fK (.cons k v es)
  | .nil => by rw [h.ins_eq]
  | .cons k' v' es => by
    rw [h.ins_eq]
    dsimp only
    split
    · rfl
    · exact (cons k' v' (h.ins_blind cons swap k v es)).trans (swap k' v' k v es)

end CanonBy

/-- A quantity computed over a value (`f`), a list (`fL`) and the entries of a map (`fK`) that does not look at the
    order of the entries: each is determined by the quantities of the parts (and, for a list or a map, its length and
    its keys up to order), and two adjacent entries may be exchanged. -/
structure OrderBlind {α : Type} (f : DM → α) (fL : DMs → α) (fK : DMKVs → α) : Prop where
  list : ∀ {xs ys}, fL xs = fL ys → xs.length = ys.length → f (.list xs) = f (.list ys)
  map : ∀ {es es'}, fK es = fK es' → es.keys.Perm es'.keys → f (.map es) = f (.map es')
  consL : ∀ {x y xs ys}, f x = f y → fL xs = fL ys → fL (.cons x xs) = fL (.cons y ys)
  consK : ∀ {k v v' es es'}, f v = f v' → fK es = fK es' → fK (.cons k v es) = fK (.cons k v' es')
  swap : ∀ k v k' v' es, fK (.cons k v (.cons k' v' es)) = fK (.cons k' v' (.cons k v es))

namespace OrderBlind
variable {α : Type} {f : DM → α} {fL : DMs → α} {fK : DMKVs → α}
variable {m : SortMode} {ins : Bytes → DM → DMKVs → DMKVs} {c : DM → DM} {cL : DMs → DMs} {cK : DMKVs → DMKVs}

mutual
/-- A canonical form only reorders map entries, so it leaves every order-blind quantity as it is. -/
theorem canonBy (h : OrderBlind f fL fK) (hc : CanonBy m ins c cL cK) : (v : DM) → f (c v) = f v
  | .null | .bool _ | .int _ | .float _ | .str _ | .bytes _ | .link _ => by rw [hc.c_eq]
  | .list xs => by rw [hc.c_eq]; exact h.list (h.canonListBy hc xs) (hc.cL_length xs)
  | .map es => by rw [hc.c_eq]; exact h.map (h.canonKVsBy hc es) (hc.keys_perm es)
theorem canonListBy (h : OrderBlind f fL fK) (hc : CanonBy m ins c cL cK) : (xs : DMs) → fL (cL xs) = fL xs
  | .nil => by rw [hc.cL_eq]
  | .cons x xs => by rw [hc.cL_eq]; exact h.consL (h.canonBy hc x) (h.canonListBy hc xs)
theorem canonKVsBy (h : OrderBlind f fL fK) (hc : CanonBy m ins c cL cK) : (es : DMKVs) → fK (cK es) = fK es
  | .nil => by rw [hc.cK_eq]
  | .cons k v es => by
    rw [hc.cK_eq]
    exact (hc.ins_blind (fun _ _ => h.consK rfl) h.swap k _ _).trans (h.consK (h.canonBy hc v) (h.canonKVsBy hc es))
end

end OrderBlind

/-- The usual case: `f` of a list or a map is one function `g` of `fL`, `fK`, and these fold the parts with a
    left-commutative operation. -/
theorem OrderBlind.ofFold {α : Type} {f : DM → α} {fL : DMs → α} {fK : DMKVs → α} (g : α → α) (op : α → α → α)
    (comm : ∀ a b c, op a (op b c) = op b (op a c))
    (list : ∀ xs, f (.list xs) = g (fL xs)) (map : ∀ es, f (.map es) = g (fK es))
    (consL : ∀ x xs, fL (.cons x xs) = op (f x) (fL xs))
    (consK : ∀ k v es, fK (.cons k v es) = op (f v) (fK es)) : OrderBlind f fL fK where
  list h _ := by rw [list, list, h]
  map h _ := by rw [map, map, h]
  consL h₁ h₂ := by rw [consL, consL, h₁, h₂]
  consK h₁ h₂ := by rw [consK, consK, h₁, h₂]
  swap _ _ _ _ _ := by rw [consK, consK, consK, consK, comm]

theorem noDup_orderBlind : OrderBlind DM.NoDup DMs.NoDup DMKVs.NoDupVals where
  list h _ := by simp only [DM.NoDup, h]
  map h hp := by simp only [DM.NoDup, h, hp.nodup_iff]
  consL h₁ h₂ := by simp only [DMs.NoDup, h₁, h₂]
  consK h₁ h₂ := by simp only [DMKVs.NoDupVals, h₁, h₂]
  swap _ _ _ _ _ := propext and_left_comm

theorem depth_orderBlind : OrderBlind DM.depth DMs.depth DMKVs.depth :=
  .ofFold (· + 1) max Nat.max_left_comm (fun _ => rfl) (fun _ => rfl) (fun _ _ => rfl) (fun _ _ _ => rfl)

end Cbor
end Ipld

/-
  The token-level DAG-JSON decoder never returns a value nested deeper than
  `maxDepth`, in the DAG-JSON sense of depth (`Spec.jsonDepth`: a link or a byte string is written as
  a map and counts one level) and hence in the data-model sense (`DM.depth`).
-/
import IpldModel.Lemmas.JsonTok
import IpldModel.Spec.CanonJson
namespace Ipld
namespace Json
open Spec

mutual
theorem depth_le_jsonDepth : (v : DM) → v.depth ≤ jsonDepth v
  | .null => Nat.zero_le _
  | .bool _ => Nat.zero_le _
  | .int _ => Nat.zero_le _
  | .float _ => Nat.zero_le _
  | .str _ => Nat.zero_le _
  | .bytes _ => Nat.zero_le _
  | .link _ => Nat.zero_le _
  | .list xs => Nat.succ_le_succ (depthList_le_jsonDepth xs)
  | .map es => Nat.succ_le_succ (depthKVs_le_jsonDepth es)
theorem depthList_le_jsonDepth : (xs : DMs) → xs.depth ≤ jsonDepthList xs
  | .nil => Nat.le_refl 0
  | .cons x xs => Nat.max_le.mpr ⟨Nat.le_trans (depth_le_jsonDepth x) (Nat.le_max_left ..),
      Nat.le_trans (depthList_le_jsonDepth xs) (Nat.le_max_right ..)⟩
theorem depthKVs_le_jsonDepth : (es : DMKVs) → es.depth ≤ jsonDepthKVs es
  | .nil => Nat.le_refl 0
  | .cons _ v es => Nat.max_le.mpr ⟨Nat.le_trans (depth_le_jsonDepth v) (Nat.le_max_left ..),
      Nat.le_trans (depthKVs_le_jsonDepth es) (Nat.le_max_right ..)⟩
end

mutual
theorem jsonDepth_le : (v : DM) → jsonDepth v ≤ v.depth + 1
  | .list xs => Nat.succ_le_succ (jsonDepthList_le xs)
  | .map es => Nat.succ_le_succ (jsonDepthKVs_le es)
  | .bytes _ | .link _ => Nat.le_refl _
  | .null | .bool _ | .int _ | .float _ | .str _ => Nat.zero_le _
theorem jsonDepthList_le : (xs : DMs) → jsonDepthList xs ≤ xs.depth + 1
  | .nil => Nat.zero_le _
  | .cons x xs => Nat.max_le.mpr
      ⟨Nat.le_trans (jsonDepth_le x) (Nat.succ_le_succ (Nat.le_max_left _ _)),
       Nat.le_trans (jsonDepthList_le xs) (Nat.succ_le_succ (Nat.le_max_right _ _))⟩
theorem jsonDepthKVs_le : (es : DMKVs) → jsonDepthKVs es ≤ es.depth + 1
  | .nil => Nat.zero_le _
  | .cons _ v es => Nat.max_le.mpr
      ⟨Nat.le_trans (jsonDepth_le v) (Nat.succ_le_succ (Nat.le_max_left _ _)),
       Nat.le_trans (jsonDepthKVs_le es) (Nat.succ_le_succ (Nat.le_max_right _ _))⟩
end

def ItemDepth (D : Nat) (item : List JTok → JR (DM × List JTok)) : Prop :=
  ∀ toks v r, item toks = .ok (v, r) → jsonDepth v ≤ D

theorem unListLoop_depth {D : Nat} {item : List JTok → JR (DM × List JTok)} (hi : ItemDepth D item) :
    ∀ {lf : Nat} {toks : List JTok} {xs : List DM} {rest : List JTok},
    unListLoop item lf toks = .ok (xs, rest) → jsonDepthList (DMs.ofList xs) ≤ D
  | 0, _, _, _, h => by cases h
  | lf + 1, toks, xs, rest, h => by
    rcases unListLoop_ok h with ⟨_, rfl⟩ | ⟨v, r', xs', hit, hl, rfl⟩
    · exact Nat.zero_le D
    · exact Nat.max_le.mpr ⟨hi _ _ _ hit, unListLoop_depth hi hl⟩

theorem unMapLoop_depth {D : Nat} {item : List JTok → JR (DM × List JTok)} (hi : ItemDepth D item) :
    ∀ {lf : Nat} {seen : List Bytes} {toks : List JTok} {es : List (Bytes × DM)} {rest : List JTok},
    unMapLoop item lf seen toks = .ok (es, rest) → jsonDepthKVs (DMKVs.ofList es) ≤ D
  | 0, _, _, _, _, h => by cases h
  | lf + 1, seen, toks, es, rest, h => by
    rcases unMapLoop_ok h with ⟨_, rfl⟩ | ⟨k, r, v, r', es', _, hit, hl, rfl⟩
    · exact Nat.zero_le D
    · exact Nat.max_le.mpr ⟨hi _ _ _ hit, unMapLoop_depth hi hl⟩

/-- A value decoded at nesting `depth ≤ maxDepth` has `depth + jsonDepth v ≤ maxDepth`: containers and
    the two reserved map forms are refused when `depth ≥ maxDepth`. -/
theorem unTok_depth (cfg : DecCfg) : ∀ {fuel depth : Nat} {toks : List JTok} {v : DM} {r : List JTok},
    depth ≤ cfg.maxDepth → unTok cfg fuel depth toks = .ok (v, r) → depth + jsonDepth v ≤ cfg.maxDepth
  | 0, _, _, _, _, _, h => by cases h
  | fuel + 1, depth, toks, v, r, hd, h => by
    have hi (hlt : depth < cfg.maxDepth) : ItemDepth (cfg.maxDepth - (depth + 1)) (unTok cfg fuel (depth + 1)) :=
      fun toks v r hh => by have := unTok_depth cfg hlt hh; omega
    rcases toks with _ | ⟨t, rest⟩
    · cases h
    cases t
    case mapOpen =>
      obtain ⟨hlt, ⟨_, _, _, rfl⟩ | ⟨_, _, _, rfl⟩ | ⟨es, hl, rfl⟩⟩ := unTok_mapOpen_ok h
      · exact hlt
      · exact hlt
      · have := unMapLoop_depth (hi hlt) hl
        simp only [jsonDepth]; omega
    case arrOpen =>
      obtain ⟨hlt, xs, hl, rfl⟩ := unTok_arrOpen_ok h
      have := unListLoop_depth (hi hlt) hl
      simp only [jsonDepth]; omega
    case mapClose => cases h
    case arrClose => cases h
    all_goals
      cases h
      exact hd

theorem decodeToks_jsonDepth {cfg : DecCfg} {toks : List JTok} {v : DM} (h : decodeToks cfg toks = .ok v) :
    jsonDepth v ≤ cfg.maxDepth := by
  obtain ⟨r, hu, _⟩ := decodeToks_eq_ok.mp h
  have := unTok_depth cfg (Nat.zero_le _) hu
  omega

end Json
end Ipld

/-
  This file DEFINES the reference the C16 theorems are stated against — `getPlain` (resolve a path without crossing a
  link), `setEntry`, `setChild`, `updateAt` (the functional update, by recursion on the path, independent of the
  model's control flow), `SegDiffers`, `OffPath` — and proves `focused` (the model of Go's `focusedTransform`) against
  it.  The model's step at a path segment is opened in `focused_cons` (maps, lists, scalars: through `slot`)
  and `focused_link`; `focused_nil`, `focused_none` and the fuel-0 case in `focused_linkfree` hold by `rfl`; everything else goes
  through these.
-/
import IpldModel.Model.Transform
import IpldModel.Lemmas.Children
import IpldModel.Lemmas.BytesEq
namespace Ipld
namespace Transform
open Sel Walk

/-- Resolve `path` from `n` by `LookupBySegment` alone.  A link on the way (anywhere but at the very
    end) makes it `none`, as does a missing key / index: so `getPlain root path = some target` says
    "the target exists and no link is crossed to reach it".  The target itself may be a link. -/
def getPlain : DM → Path → Option DM
  | n, [] => some n
  | n, seg :: rest =>
    match lookupBySegment n seg with
    | none => none
    | some c => getPlain c rest

/-- Replace (`some v`) or remove (`none`) the first entry with key `k`; every other entry is kept, in
    order.  A missing key changes nothing. -/
def setEntry : List (Bytes × DM) → Bytes → Option DM → List (Bytes × DM)
  | [], _, _ => []
  | (k', v') :: es, k, r =>
    if k' = k then (match r with | some v => (k', v) :: es | none => es)
    else (k', v') :: setEntry es k r

def setChild (n : DM) (seg : Seg) (r : Option DM) : DM :=
  match n with
  | .map es => .map (DMKVs.ofList (setEntry es.toList seg.toString r))
  | .list xs =>
    match seg.index with
    | some i => .list (DMs.ofList (xs.toList.take i.toNat ++ r.toList ++ xs.toList.drop (i.toNat + 1)))
    | none => n
  | d => d

/-- The tree with the node at `path` replaced by `r` (removed if `r = none`); `none` only if the root
    itself is removed.  Meaningful for paths that `getPlain` resolves; elsewhere it returns the tree. -/
def updateAt : DM → Path → Option DM → Option DM
  | _, [], r => r
  | n, seg :: p2, r =>
    match lookupBySegment n seg with
    | none => some n
    | some child => some (setChild n seg (updateAt child p2 r))

theorem lookup_nonlink {n : DM} {seg : Seg} {c : DM} (h : lookupBySegment n seg = some c) : ∀ c', n ≠ .link c' := by
  intro c' he; subst he; cases h

theorem getPlain_cons {n : DM} {seg : Seg} {p : Path} {t : DM} (h : getPlain n (seg :: p) = some t) :
    ∃ c, lookupBySegment n seg = some c ∧ getPlain c p = some t := by
  simp only [getPlain] at h
  cases hl : lookupBySegment n seg with
  | none => rw [hl] at h; cases h
  | some c => rw [hl] at h; exact ⟨c, rfl, h⟩

theorem getPlain_induct {motive : DM → Path → DM → Prop} (nil : ∀ n, motive n [] n)
    (cons : ∀ n seg c p t, lookupBySegment n seg = some c → getPlain c p = some t → motive c p t →
      motive n (seg :: p) t) : ∀ {p : Path} {n t : DM}, getPlain n p = some t → motive n p t := by
  intro p
  induction p with
  | nil => intro n t h; cases h; exact nil n
  | cons seg p ih =>
    intro n t h
    obtain ⟨c, hl, h⟩ := getPlain_cons h
    exact cons n seg c p t hl h (ih h)

theorem getPlain_append : ∀ (p q : Path) (n : DM),
    getPlain n (p ++ q) = (getPlain n p).bind fun m => getPlain m q := by
  intro p q
  induction p with
  | nil => intro n; simp only [List.nil_append, getPlain, Option.bind_some]
  | cons seg p ih =>
    intro n
    simp only [List.cons_append, getPlain]
    cases lookupBySegment n seg with
    | none => rfl
    | some ch => exact ih ch

theorem updateAt_cons {n : DM} {seg : Seg} {child : DM} {p2 : Path} {r : Option DM}
    (hl : lookupBySegment n seg = some child) :
    updateAt n (seg :: p2) r = some (setChild n seg (updateAt child p2 r)) := by
  simp only [updateAt, hl]

theorem updateAt_append (q : Path) (r : Option DM) : ∀ {p : Path} {n mid : DM}, getPlain n p = some mid →
    updateAt n (p ++ q) r = updateAt n p (updateAt mid q r) :=
  @getPlain_induct _ (fun _ => by simp only [List.nil_append, updateAt])
    (fun _ _ _ _ _ hl _ ih => by simp only [List.cons_append, updateAt, hl, ih])

theorem updateAt_isSome_of_cons {n : DM} {seg : Seg} {p2 : Path} (r : Option DM) :
    ∃ y, updateAt n (seg :: p2) r = some y := by
  simp only [updateAt]
  cases lookupBySegment n seg with
  | none => exact ⟨_, rfl⟩
  | some c => exact ⟨_, rfl⟩

theorem updateAt_some : ∀ (p : Path) (n v : DM), ∃ y, updateAt n p (some v) = some y
  | [], _, v => ⟨v, rfl⟩
  | _ :: _, _, _ => updateAt_isSome_of_cons _

theorem keyMatches_eq (k : Bytes) (seg : Seg) : keyMatches k seg = (k == seg.toString) := by
  cases seg <;> simp [keyMatches, Seg.equals, Seg.toString]

theorem keyMatches_fun (seg : Seg) :
    (fun e : Bytes × DM => keyMatches e.1 seg) = (fun e => e.1 == seg.toString) := by
  funext e; exact keyMatches_eq e.1 seg

theorem focusedMapSet_cons (e : Bytes × DM) (l : List (Bytes × DM)) (seg : Seg) (r : Option DM) :
    focusedMapSet (e :: l) seg r =
      if keyMatches e.1 seg then (r.map fun x => (e.1, x)).toList ++ focusedMapSet l seg r
      else e :: focusedMapSet l seg r := by
  unfold focusedMapSet
  rw [List.filterMap_cons]
  cases keyMatches e.1 seg
  · rfl
  · cases r <;> rfl

theorem focusedMapSet_noMatch (seg : Seg) (r : Option DM) :
    ∀ (l : List (Bytes × DM)), (∀ e ∈ l, e.1 ≠ seg.toString) → focusedMapSet l seg r = l := by
  intro l
  induction l with
  | nil => exact fun _ => rfl
  | cons e l ih =>
    intro h
    have h1 : keyMatches e.1 seg = false := by
      rw [keyMatches_eq]; exact beq_eq_false_iff_ne.mpr (h e (List.mem_cons_self ..))
    rw [focusedMapSet_cons, h1, ih fun e' he' => h e' (List.mem_cons_of_mem _ he')]
    rfl

/-- With distinct keys the loop that rewrites every matching entry rewrites exactly the first one. -/
theorem focusedMapSet_eq_setEntry (seg : Seg) (r : Option DM) :
    ∀ (l : List (Bytes × DM)), (l.map (·.1)).Nodup → focusedMapSet l seg r = setEntry l seg.toString r := by
  intro l
  induction l with
  | nil => exact fun _ => rfl
  | cons a l ih =>
    obtain ⟨k', v'⟩ := a
    intro h
    simp only [List.map_cons, List.nodup_cons] at h
    rw [focusedMapSet_cons, keyMatches_eq]
    by_cases hk : k' = seg.toString
    · have hno : ∀ e ∈ l, e.1 ≠ seg.toString :=
        fun e he heq => h.1 (by rw [hk, ← heq]; exact List.mem_map_of_mem he)
      simp only [focusedMapSet_noMatch seg r l hno, setEntry, hk, if_true, beq_self_eq_true]
      cases r <;> rfl
    · simp only [ih h.2, setEntry, hk, if_false, beq_iff_eq]

theorem setEntry_self : ∀ (l : List (Bytes × DM)) (k : Bytes) (e : Bytes × DM),
    l.find? (fun e => e.1 == k) = some e → setEntry l k (some e.2) = l := by
  intro l k e
  induction l with
  | nil => intro h; cases h
  | cons a l ih =>
    obtain ⟨k', v'⟩ := a
    intro h
    by_cases hk : k' = k
    · simp only [List.find?_cons, hk, beq_self_eq_true] at h
      cases h
      simp only [setEntry, hk, if_true]
    · simp only [List.find?_cons, beq_eq_false_iff_ne.mpr hk] at h
      simp only [setEntry, hk, if_false, ih h]

theorem setEntry_find_other (k k' : Bytes) (r : Option DM) (hk : k' ≠ k) : ∀ (l : List (Bytes × DM)),
    (setEntry l k r).find? (fun e => e.1 == k') = l.find? (fun e => e.1 == k') := by
  intro l
  induction l with
  | nil => rfl
  | cons e l ih =>
    obtain ⟨a, b⟩ := e
    by_cases ha : a = k
    · have : (a == k') = false := beq_eq_false_iff_ne.mpr fun h => hk (by rw [← h, ha])
      cases r with
      | none => simp only [setEntry, ha, if_true, List.find?_cons]; rw [← ha, this]
      | some v => simp only [setEntry, ha, if_true, List.find?_cons]; rw [← ha, this]
    · simp only [setEntry, ha, if_false, List.find?_cons, ih]

theorem setEntry_find_same (k : Bytes) (v : DM) : ∀ (l : List (Bytes × DM)) (e : Bytes × DM),
    l.find? (fun e => e.1 == k) = some e → (setEntry l k (some v)).find? (fun e => e.1 == k) = some (e.1, v) := by
  intro l e
  induction l with
  | nil => intro h; cases h
  | cons x l ih =>
    obtain ⟨a, b⟩ := x
    intro h
    by_cases ha : a = k
    · simp only [List.find?_cons, ha, beq_self_eq_true] at h
      cases h
      simp only [setEntry, ha, if_true, List.find?_cons, beq_self_eq_true]
    · have : (a == k) = false := beq_eq_false_iff_ne.mpr ha
      simp only [List.find?_cons, this] at h
      simp only [setEntry, ha, if_false, List.find?_cons, this, ih h]

theorem setEntry_map (f : DM → DM) (k : Bytes) (o : Option DM) : ∀ (l : List (Bytes × DM)),
    (setEntry l k o).map (fun e => (e.1, f e.2)) = setEntry (l.map fun e => (e.1, f e.2)) k (o.map f) := by
  intro l
  induction l with
  | nil => rfl
  | cons e l ih =>
    obtain ⟨k', v'⟩ := e
    by_cases hk : k' = k
    · cases o <;> simp only [setEntry, hk, if_true, List.map_cons, Option.map_none, Option.map_some]
    · simp only [setEntry, hk, if_false, List.map_cons, ih]

theorem setChild_self {n : DM} {seg : Seg} {child : DM} (hl : lookupBySegment n seg = some child) :
    setChild n seg (some child) = n := by
  rcases lookup_cases hl with ⟨es, e, rfl, hf, rfl⟩ | ⟨xs, i, rfl, hi, _, hlt, hx⟩
  · simp only [setChild, setEntry_self _ _ _ hf, DMKVs.ofList_toList]
  · obtain ⟨_, rfl⟩ := List.getElem?_eq_some_iff.mp hx
    simp only [setChild, hi, Option.toList_some, take_cons_drop_eq_set hlt, List.set_getElem_self,
      DMs.ofList_toList]

theorem updateAt_self : ∀ {path : Path} {root target : DM}, getPlain root path = some target →
    updateAt root path (some target) = some root :=
  @getPlain_induct _ (fun _ => rfl) (fun _ _ _ _ _ hl _ ih => by rw [updateAt_cons hl, ih, setChild_self hl])

/-- The two segments address different children of `n`. -/
def SegDiffers (n : DM) (seg seg' : Seg) : Prop :=
  match n with
  | .map _ => seg'.toString ≠ seg.toString
  | .list _ => seg'.index ≠ seg.index
  | _ => True

theorem lookup_setChild_other {n : DM} {seg seg' : Seg} {c0 : DM} (v : DM)
    (hl : lookupBySegment n seg = some c0) (hd : SegDiffers n seg seg') :
    lookupBySegment (setChild n seg (some v)) seg' = lookupBySegment n seg' := by
  rcases lookup_cases hl with ⟨es, e, rfl, _, _⟩ | ⟨xs, i, rfl, hi, hneg, hlt, _⟩
  · simp only [SegDiffers] at hd
    simp only [setChild, lookupBySegment, DMKVs.toList_ofList, setEntry_find_other _ _ _ hd]
  · simp only [SegDiffers, hi] at hd
    simp only [setChild, hi, Option.toList_some, lookupBySegment, DMs.toList_ofList,
      take_cons_drop_eq_set hlt]
    cases hj : seg'.index with
    | none => rfl
    | some j =>
      simp only []
      split
      · rfl
      · rename_i hjneg
        rw [List.getElem?_set_ne fun he => hd (by
          rw [hj, ← Int.toNat_of_nonneg (Int.not_lt.mp hjneg), ← he, Int.toNat_of_nonneg (Int.not_lt.mp hneg)])]

theorem lookup_setChild_same {n : DM} {seg : Seg} {c0 : DM} (v : DM)
    (hl : lookupBySegment n seg = some c0) :
    lookupBySegment (setChild n seg (some v)) seg = some v := by
  rcases lookup_cases hl with ⟨es, e, rfl, hf, _⟩ | ⟨xs, i, rfl, hi, hneg, hlt, _⟩
  · simp only [setChild, lookupBySegment, DMKVs.toList_ofList, setEntry_find_same _ v _ e hf, Option.map_some]
  · simp only [setChild, hi, Option.toList_some, lookupBySegment, DMs.toList_ofList,
      take_cons_drop_eq_set hlt, hneg, if_false, List.getElem?_set_self hlt]

theorem setChild_nonlink {n : DM} {seg : Seg} {c : DM} {r : Option DM}
    (h : lookupBySegment n seg = some c) : ∀ c', setChild n seg r ≠ .link c' := by
  intro c'
  rcases lookup_cases h with ⟨es, e, rfl, _, _⟩ | ⟨xs, i, rfl, hi, _, _, _⟩
  · exact fun h => by cases h
  · simp only [setChild, hi]; exact fun h => by cases h

theorem updateAt_cons_nonlink {n : DM} {seg : Seg} {p2 : Path} {t y : DM} {r : Option DM}
    (hg : getPlain n (seg :: p2) = some t) (hu : updateAt n (seg :: p2) r = some y) : ∀ c', y ≠ .link c' := by
  obtain ⟨c, hl, _⟩ := getPlain_cons hg
  rw [updateAt_cons hl] at hu
  cases hu
  exact setChild_nonlink hl

/-- `q` leaves `path` at some point: at a node on `path` it takes a different child. -/
def OffPath : DM → Path → Path → Prop
  | n, seg :: p, seg' :: q =>
    SegDiffers n seg seg' ∨ (seg' = seg ∧ ∃ c, lookupBySegment n seg = some c ∧ OffPath c p q)
  | _, _, _ => False

theorem getPlain_noDup : ∀ (path : Path) (root target : DM), root.NoDup →
    getPlain root path = some target → target.NoDup :=
  fun _ _ _ hn h => getPlain_induct (motive := fun n _ t => n.NoDup → t.NoDup)
    (fun _ h => h) (fun _ _ _ _ _ hl _ ih hn => ih (lookup_noDup hn hl)) h hn

/-- What `focused` does with the result of a recursive call. -/
def wrap (r : TR (Option DM)) (k : DM → TSt → Option DM × TSt) : TR (Option DM) :=
  match r with
  | .error e => .error e
  | .ok (none, _) => .error .nilEntry
  | .ok (some v, st') => .ok (k v st')

theorem wrap_ok {r : TR (Option DM)} {k : DM → TSt → Option DM × TSt} {q : Option DM × TSt}
    (h : wrap r k = .ok q) : ∃ v st', r = .ok (some v, st') ∧ q = k v st' := by
  match r, h with
  | .ok (some v, st'), h => exact ⟨v, st', rfl, by cases h; rfl⟩

/-- Where `focused` goes for one segment of a map or list: the position it reports to the callback
    (`pos`), how the node is rebuilt around the new child (`put`), and whether going further down
    would create a missing parent (`creates`: only then is `createParents` consulted).  What is there
    now is what `lookupBySegment` finds (`none`: a missing key, or an append). -/
structure Slot where
  pos : Seg
  put : Option DM → DM
  creates : Bool := false

/-- The list index a segment stands for: its number, or `-1` for "-" (`ti` in the list branch of `focused`). -/
def listIndex (seg : Seg) : Option Int :=
  match seg.index with
  | some i => some i
  | none => if lastSegIsDash seg then some (-1) else none

/-- The segments on which a list appends: any negative index, and "-". -/
def IsAppendSeg (seg : Seg) : Prop :=
  (∃ i, seg.index = some i ∧ i < 0) ∨ (seg.index = none ∧ lastSegIsDash seg = true)

theorem listIndex_of_appendSeg {seg : Seg} (h : IsAppendSeg seg) : ∃ ti, listIndex seg = some ti ∧ ti < 0 := by
  rcases h with ⟨i, hi, hneg⟩ | ⟨hi, hd⟩
  · exact ⟨i, by simp only [listIndex, hi], hneg⟩
  · exact ⟨-1, by simp only [listIndex, hi, hd, if_true], by decide⟩

theorem lookup_list_of_listIndex {xs : DMs} {seg : Seg} {ti : Int} (h : listIndex seg = some ti)
    (hin : 0 ≤ ti ∧ ti.toNat < xs.toList.length) :
    lookupBySegment (.list xs) seg = some (xs.toList.getD ti.toNat .null) := by
  have hi : seg.index = some ti := by
    simp only [listIndex] at h
    split at h
    · rename_i i hi
      cases h; exact hi
    · split at h
      · cases h; exact absurd hin.1 (by decide)
      · cases h
  simp only [lookupBySegment, hi, Int.not_lt.mpr hin.1, if_false, List.getD_eq_getElem?_getD,
    List.getElem?_eq_getElem hin.2, Option.getD_some]

theorem lookup_list_of_neg {xs : DMs} {seg : Seg} {ti : Int} (h : listIndex seg = some ti) (hneg : ¬ ti ≥ 0) :
    lookupBySegment (.list xs) seg = none := by
  simp only [listIndex] at h
  simp only [lookupBySegment]
  split at h
  · rename_i i hi
    cases h
    simp only [hi, Int.not_le.mp hneg, if_true]
  · rename_i hi
    simp only [hi]

def slot (n : DM) (seg : Seg) : Except TErr Slot :=
  match n with
  | .map es =>
    match es.toList.find? (fun e => keyMatches e.1 seg) with
    | some _ => .ok {
        pos := seg
        put := fun r => .map (DMKVs.ofList (focusedMapSet es.toList seg r)) }
    | none => .ok {
        pos := seg, creates := true
        put := fun r => match r with
          | none => .map es
          | some v => .map (DMKVs.ofList (es.toList ++ [(seg.toString, v)])) }
  | .list xs =>
    match listIndex seg with
    | none => .error .notIndex
    | some ti =>
      if 0 ≤ ti ∧ ti.toNat < xs.toList.length then
        .ok {
          pos := seg
          put := fun r => .list (DMs.ofList (xs.toList.take ti.toNat ++ r.toList ++ xs.toList.drop (ti.toNat + 1))) }
      else if ti ≥ 0 then .error .beyondBounds
      else .ok {
        pos := .idx xs.toList.length
        put := fun r => match r with
          | none => .list xs
          | some v => .list (DMs.ofList (xs.toList ++ [v])) }
  | _ => .error .scalar

section steps
variable {fn : Fn} {linkOf : DM → Bytes} {canon : DM → DM} {cp : Bool}

theorem focused_nil (fuel : Nat) (at_ : Path) (n : Option DM) (st : TSt) :
    focused fn linkOf canon cp (fuel + 1) at_ n [] st = .ok (fn at_ n, st) := rfl

theorem focused_none (fuel : Nat) (at_ : Path) (seg : Seg) (p2 : Path) (st : TSt) :
    focused fn linkOf canon cp (fuel + 1) at_ none (seg :: p2) st =
      wrap (focused fn linkOf canon cp fuel (at_ ++ [seg]) none p2 st)
        (fun v st' => (some (.map (DMKVs.ofList [(seg.toString, v)])), st')) := rfl

theorem focused_cons {fuel : Nat} {at_ : Path} (n : DM) {seg : Seg} {p2 : Path} {st : TSt}
    (hn : ∀ c, n ≠ .link c) :
    focused fn linkOf canon cp (fuel + 1) at_ (some n) (seg :: p2) st =
      match slot n seg with
      | .error e => .error e
      | .ok sl =>
        if p2.isEmpty then .ok (some (sl.put (fn (at_ ++ [sl.pos]) (lookupBySegment n seg))), st)
        else if sl.creates && !cp then .error .noParent
        else wrap (focused fn linkOf canon cp fuel (at_ ++ [sl.pos]) (lookupBySegment n seg) p2 st)
          (fun v st' => (some (sl.put (some v)), st')) := by
  cases n with
  | link c => exact absurd rfl (hn c)
  | map es =>
    conv => lhs; unfold focused
    simp only [slot]
    cases hf : es.toList.find? (fun e => keyMatches e.1 seg) with
    | some e =>
      have hl : lookupBySegment (.map es) seg = some e.2 := by
        rw [keyMatches_fun] at hf; simp only [lookupBySegment, hf, Option.map_some]
      simp only [hl, Bool.false_and, Bool.false_eq_true, if_false]
      rfl
    | none =>
      have hl : lookupBySegment (.map es) seg = none := by
        rw [keyMatches_fun] at hf; simp only [lookupBySegment, hf, Option.map_none]
      simp only [hl, Bool.true_and]
      cases p2.isEmpty
      · cases cp <;> rfl
      · cases fn (at_ ++ [seg]) none <;> rfl
  | list xs =>
    conv => lhs; unfold focused
    simp only [slot]
    split
    · rename_i heq
      rw [show listIndex seg = none from heq]
    · rename_i ti heq
      rw [show listIndex seg = some ti from heq]
      simp only []
      by_cases hin : 0 ≤ ti ∧ ti.toNat < xs.toList.length
      · simp only [lookup_list_of_listIndex heq hin, hin, and_self, if_true]
        cases p2.isEmpty
        · rfl
        · cases fn (at_ ++ [seg]) (some (xs.toList.getD ti.toNat .null)) <;>
            simp only [Option.toList_none, Option.toList_some, List.append_nil, if_true]
      · simp only [hin, if_false]
        by_cases hge : ti ≥ 0
        · simp only [hge, if_true]
        · simp only [lookup_list_of_neg heq hge, hge, if_false]
          cases p2.isEmpty
          · rfl
          · cases fn (at_ ++ [Seg.idx xs.toList.length]) none <;> rfl
  | _ => rfl

theorem focused_cons_ok {fuel : Nat} {at_ : Path} {n : DM} {seg : Seg} {p2 : Path} {st st' : TSt}
    {o : Option DM} (hn : ∀ c, n ≠ .link c)
    (h : focused fn linkOf canon cp (fuel + 1) at_ (some n) (seg :: p2) st = .ok (o, st')) :
    ∃ sl r, slot n seg = .ok sl ∧ o = some (sl.put r) := by
  rw [focused_cons n hn] at h
  cases hs : slot n seg with
  | error e => rw [hs] at h; cases h
  | ok sl =>
    simp only [hs] at h
    split at h
    · cases h; exact ⟨sl, _, rfl, rfl⟩
    · split at h
      · cases h
      · obtain ⟨v, _, _, hq⟩ := wrap_ok h
        cases hq; exact ⟨sl, _, rfl, rfl⟩

theorem slot_of_lookup {n : DM} {seg : Seg} {child : DM} (hn : n.NoDup)
    (hl : lookupBySegment n seg = some child) :
    slot n seg = .ok { pos := seg, put := setChild n seg } := by
  rcases lookup_cases hl with ⟨es, e, rfl, hf, rfl⟩ | ⟨xs, i, rfl, hi, hneg, hlt, hx⟩
  · simp only [DM.NoDup] at hn
    have hput : (fun r => DM.map (DMKVs.ofList (focusedMapSet es.toList seg r))) = setChild (.map es) seg :=
      funext fun r => by simp only [setChild, focusedMapSet_eq_setEntry seg r _ hn.1]
    simp only [slot, keyMatches_fun, hf, hput]
  · have hc : 0 ≤ i ∧ i.toNat < xs.toList.length := ⟨Int.not_lt.mp hneg, hlt⟩
    have hput : (fun r : Option DM => DM.list (DMs.ofList
        (xs.toList.take i.toNat ++ r.toList ++ xs.toList.drop (i.toNat + 1)))) = setChild (.list xs) seg :=
      funext fun r => by simp only [setChild, hi]
    simp only [slot, listIndex, hi, hc, and_self, if_true, hput]

theorem focused_step {fuel : Nat} {at_ : Path} {n : DM} {seg : Seg} {p2 : Path} {child : DM} {st : TSt}
    (hp : p2 ≠ []) (hn : n.NoDup) (hl : lookupBySegment n seg = some child) :
    focused fn linkOf canon cp (fuel + 1) at_ (some n) (seg :: p2) st =
      wrap (focused fn linkOf canon cp fuel (at_ ++ [seg]) (some child) p2 st)
        (fun v st' => (some (setChild n seg (some v)), st')) := by
  rw [focused_cons n (lookup_nonlink hl), slot_of_lookup hn hl, hl]
  cases p2 with
  | nil => exact absurd rfl hp
  | cons _ _ => rfl

theorem focused_child {f : Nat} {at_ : Path} {n : DM} {seg : Seg} {p2 : Path} {ch : DM} {st st' : TSt}
    {Y0 : Option DM} (hn : n.NoDup) (hl : lookupBySegment n seg = some ch)
    (h : focused fn linkOf canon cp (f + 1) (at_ ++ [seg]) (some ch) p2 st = .ok (Y0, st'))
    (hsome : p2 ≠ [] → ∃ y, Y0 = some y) :
    focused fn linkOf canon cp (f + 2) at_ (some n) (seg :: p2) st = .ok (some (setChild n seg Y0), st') := by
  by_cases hp : p2 = []
  · subst hp
    rw [focused_nil] at h
    cases h
    rw [focused_cons n (lookup_nonlink hl), slot_of_lookup hn hl, hl]
    rfl
  · obtain ⟨y0, rfl⟩ := hsome hp
    rw [focused_step hp hn hl, h]
    rfl

/-- A link with more path to go: load the block, transform it, store the changed block (as the codec
    writes it) under its new link, return that link. -/
theorem focused_link {fuel : Nat} {at_ : Path} {c : Bytes} {seg : Seg} {p2 : Path} {st : TSt} {blk : DM}
    (hs : storeGet st.store c = some blk) :
    focused fn linkOf canon cp (fuel + 1) at_ (some (.link c)) (seg :: p2) st =
      wrap (focused fn linkOf canon cp fuel at_ (some blk) (seg :: p2) st)
        (fun blk0 st' => (some (.link (linkOf (canon blk0))),
          { store := (linkOf (canon blk0), canon blk0) :: st'.store,
            written := (linkOf (canon blk0), canon blk0) :: st'.written })) := by
  conv => lhs; unfold focused
  simp only [hs]
  rfl

theorem focused_prefix {rest : Path} {k : Nat} {st : TSt} (hr : rest ≠ []) :
    ∀ {pre : Path} {root mid : DM}, getPlain root pre = some mid → ∀ (at_ : Path), root.NoDup →
    (∀ e, focused fn linkOf canon cp k (at_ ++ pre) (some mid) rest st = .error e →
      focused fn linkOf canon cp (pre.length + k) at_ (some root) (pre ++ rest) st = .error e) ∧
    (∀ v st', focused fn linkOf canon cp k (at_ ++ pre) (some mid) rest st = .ok (some v, st') →
      focused fn linkOf canon cp (pre.length + k) at_ (some root) (pre ++ rest) st =
        .ok (updateAt root pre (some v), st')) := by
  apply getPlain_induct
  · intro root at_ _
    simp only [List.append_nil, List.length_nil, Nat.zero_add, List.nil_append, updateAt]
    exact ⟨fun _ h => h, fun _ _ h => h⟩
  · intro root seg child pre mid hl _ ih at_ hn
    have ih := ih (at_ ++ [seg]) (lookup_noDup hn hl)
    rw [List.append_assoc, List.singleton_append] at ih
    rw [cons_length_add, List.cons_append, focused_step (fun h => hr (List.append_eq_nil_iff.mp h).2) hn hl]
    refine ⟨fun e h => by rw [ih.1 e h]; rfl, fun v st' h => ?_⟩
    obtain ⟨y, hy⟩ := updateAt_some pre child v
    rw [ih.2 v st' h, updateAt_cons hl, hy]
    rfl

end steps

section linkfree
open Spec
variable (fn : Fn) (linkOf : DM → Bytes) (canon : DM → DM) (cp : Bool)

def reState (st : TSt) (r : TR (Option DM)) : TR (Option DM) :=
  match r with
  | .error e => .error e
  | .ok (o, _) => .ok (o, st)

theorem wrap_reState (st : TSt) (r : TR (Option DM)) (k : DM → Option DM) :
    wrap (reState st r) (fun v st' => (k v, st')) = reState st (wrap r (fun v st' => (k v, st'))) := by
  match r with
  | .error _ => rfl
  | .ok (none, _) => rfl
  | .ok (some _, _) => rfl

theorem focused_linkfree : ∀ (fuel : Nat) (at_ : Path) (n : Option DM) (p : Path) (st : TSt),
    (∀ d, n = some d → hasLink d = false) →
    focused fn linkOf canon cp fuel at_ n p st =
      reState st (focused fn linkOf canon cp fuel at_ n p { store := [], written := [] }) := by
  intro fuel
  induction fuel with
  | zero => exact fun _ _ _ _ _ => rfl
  | succ fuel ih =>
    intro at_ n p st hn
    cases p with
    | nil => rfl
    | cons seg p2 =>
      cases n with
      | none =>
        rw [focused_none, focused_none, ih (at_ ++ [seg]) none p2 st (fun _ hd => by cases hd)]
        exact wrap_reState st _ (fun v => some (.map (DMKVs.ofList [(seg.toString, v)])))
      | some d =>
        have hd : hasLink d = false := hn d rfl
        have hnl : ∀ c, d ≠ .link c := fun c he => by rw [he] at hd; cases hd
        rw [focused_cons d hnl, focused_cons d hnl]
        cases hs : slot d seg with
        | error e => rfl
        | ok sl =>
          simp only []
          split
          · rfl
          · split
            · rfl
            · rw [ih (at_ ++ [sl.pos]) _ p2 st fun _ h => (linkFree_hereditary hd).lookup h]
              exact wrap_reState st _ (fun v => some (sl.put (some v)))

end linkfree

theorem get_of_getPlain {store : List (Bytes × DM)} {f : Nat} : ∀ {pre : Path} {root mid : DM},
    getPlain root pre = some mid → pre ≠ [] → Walk.get store (f + 1) root pre = followLinks store (f + 1) mid := by
  refine @getPlain_induct _ (fun _ h => absurd rfl h) ?_
  intro n seg c p t hl hg ih _
  simp only [Walk.get, lookup_getStep hl, bind, Except.bind]
  cases p with
  | nil => cases hg; cases followLinks store (f + 1) c <;> rfl
  | cons seg2 p3 =>
    obtain ⟨c2, hl2, _⟩ := getPlain_cons hg
    rw [followLinks_nonlink (lookup_nonlink hl2)]
    exact ih (List.cons_ne_nil _ _)

end Transform
end Ipld

/-
  The refmt JSON encoder state machine accepts every token stream the DAG-JSON marshaller produces:
  marshalled streams are well-formed value token lists (`VTok`), and the emitter, started in a state
  that expects a value, consumes a well-formed value and returns to the state of the enclosing container.
-/
import IpldModel.Lemmas.CborSort
import IpldModel.Model.JsonTok
namespace Ipld
namespace Json
open Cbor

/-- token lists that spell one value, every scalar of which the emitter can write -/
inductive VTok (fmtF : UInt64 → Option Bytes) : List JTok → Prop
  | scalar (t : JTok) (w : Bytes) (h : scalarText fmtF t = some w) : VTok fmtF [t]
  | arr (items : List (List JTok)) (h : ∀ i ∈ items, VTok fmtF i) :
      VTok fmtF (.arrOpen :: (items.flatten ++ [.arrClose]))
  | map (ps : List (Bytes × List JTok)) (h : ∀ p ∈ ps, VTok fmtF p.2) :
      VTok fmtF (.mapOpen :: (flattenTokPairs ps ++ [.mapClose]))

/-- the emitter expects a value: at the top, after a map key, or inside an array -/
def Ready (st : EmitSt) : Prop :=
  st.done = false ∧
  ((st.stack = [] ∧ st.current = .anyValue) ∨
   (st.stack.getLast? = some .mapKeyOrEnd ∧ st.current = .mapValue) ∨
   (st.stack.getLast? = some .arrValueOrEnd ∧ st.current = .arrValueOrEnd))

/-- `st'` is `st` after one value inside a container: back between the entries of the same container -/
def After (st st' : EmitSt) : Prop :=
  st.stack ≠ [] → st'.done = false ∧ st'.stack = st.stack ∧ some st'.current = st.stack.getLast?

/-- inside a container of phase `p`, between entries -/
def Inside (p : Phase) (st : EmitSt) : Prop :=
  st.done = false ∧ st.stack.getLast? = some p ∧ st.current = p

variable (lay : Layout) (fmtF : UInt64 → Option Bytes)

theorem ne_nil_of_getLast? {α : Type} {l : List α} {a : α} (h : l.getLast? = some a) : l ≠ [] :=
  fun e => by rw [e] at h; cases h

theorem emitStep_scalar (st : EmitSt) (hd : st.done = false) (t : JTok) (ht : (scalarText fmtF t).isSome = true) :
    (st.current = .anyValue →
      emitStep lay fmtF st t = (scalarText fmtF t).map fun w => { st with out := st.out ++ w, done := true }) ∧
    (st.current = .mapValue →
      emitStep lay fmtF st t =
        (scalarText fmtF t).map fun w => { st with out := st.out ++ w, current := .mapKeyOrEnd }) ∧
    (st.current = .arrValueOrEnd →
      emitStep lay fmtF st t =
        (scalarText fmtF t).map fun w => { entrySep lay st with out := (entrySep lay st).out ++ w }) := by
  obtain ⟨stack, current, hasSome, out, done⟩ := st
  subst hd
  cases t with
  | mapOpen | mapClose | arrOpen | arrClose => cases ht
  | null | bool _ | int _ | float _ | str _ => refine ⟨?_, ?_, ?_⟩ <;> (intro hc; subst hc; rfl)

theorem emit_scalar (t : JTok) (w : Bytes) (h : scalarText fmtF t = some w) (st : EmitSt) (hr : Ready st) :
    ∃ st', emitStep lay fmtF st t = some st' ∧ After st st' := by
  obtain ⟨hd, hc⟩ := hr
  obtain ⟨e1, e2, e3⟩ := emitStep_scalar lay fmtF st hd t (by rw [h]; rfl)
  rw [h] at e1 e2 e3
  rcases hc with ⟨h1, h2⟩ | ⟨h1, h2⟩ | ⟨h1, h2⟩
  · exact ⟨_, e1 h2, fun hne => absurd h1 hne⟩
  · exact ⟨_, e2 h2, fun _ => ⟨hd, rfl, h1.symm⟩⟩
  · exact ⟨_, e3 h2, fun _ => ⟨hd, rfl, (congrArg some h2).trans h1.symm⟩⟩

theorem emit_open (t : JTok) (p : Phase)
    (ht : (t = .arrOpen ∧ p = .arrValueOrEnd) ∨ (t = .mapOpen ∧ p = .mapKeyOrEnd))
    (st : EmitSt) (hr : Ready st) :
    ∃ st1, emitStep lay fmtF st t = some st1 ∧ st1.stack = st.stack ++ [p] ∧ Inside p st1 := by
  obtain ⟨stack, current, hasSome, out, done⟩ := st
  obtain ⟨hd, hc⟩ := hr
  dsimp only at hd hc
  subst hd
  rcases ht with ⟨rfl, rfl⟩ | ⟨rfl, rfl⟩ <;> rcases hc with ⟨_, rfl⟩ | ⟨_, rfl⟩ | ⟨_, rfl⟩ <;>
    exact ⟨_, rfl, rfl, rfl, List.getLast?_concat, rfl⟩

theorem pop_After {st st3 : EmitSt} {p : Phase} {w : Bytes} (hs : st3.stack = st.stack ++ [p])
    (hd : st3.done = false) : ∃ st', EmitSt.pop lay st3 w = some st' ∧ After st st' := by
  -- closing the innermost container: it was the only one (the document is done), or the one below it goes on
  unfold EmitSt.pop
  simp only [hs, List.length_append, List.length_cons, List.length_nil, Nat.add_sub_cancel]
  have hne : ¬ ((st.stack ++ [p]).isEmpty = true) := by simp
  simp only [hne, if_false, Bool.false_eq_true]
  by_cases h0 : st.stack.length = 0
  · have : st.stack = [] := List.length_eq_zero_iff.mp h0
    simp [After, this]
  · simp only [h0, if_false]
    refine ⟨_, rfl, fun _ => ⟨hd, by simp, ?_⟩⟩
    simp only [List.getD_eq_getElem?_getD]
    have hlt : st.stack.length - 1 < st.stack.length := by omega
    rw [List.getElem?_append_left hlt, List.getLast?_eq_getElem?]
    cases h : st.stack[st.stack.length - 1]? with
    | none => simp at h; omega
    | some x => simp

theorem emit_close (t : JTok) (p : Phase)
    (ht : (t = .arrClose ∧ p = .arrValueOrEnd) ∨ (t = .mapClose ∧ p = .mapKeyOrEnd))
    (st st2 : EmitSt) (hs : st2.stack = st.stack ++ [p]) (hi : Inside p st2) :
    ∃ st', emitStep lay fmtF st2 t = some st' ∧ After st st' := by
  obtain ⟨hd, _, hc⟩ := hi
  have e : emitStep lay fmtF st2 t = EmitSt.pop lay { st2 with out := st2.out ++ closeLine lay st2 }
      (if p = .arrValueOrEnd then [0x5d] else [0x7d]) := by
    obtain ⟨stack, current, hasSome, out, done⟩ := st2
    subst hd hc
    rcases ht with ⟨rfl, rfl⟩ | ⟨rfl, rfl⟩ <;> rfl
  rw [e]
  exact pop_After lay hs hd

/-- the tokens `ts` are one value to the emitter: from any state that expects a value it takes them all and is then past
    that value -/
def Emits (ts : List JTok) : Prop :=
  ∀ st, Ready st → ∃ st', ts.foldlM (emitStep lay fmtF) st = some st' ∧ After st st'

theorem After.inside {p : Phase} {st st' : EmitSt} (hl : st.stack.getLast? = some p) (ha : After st st') :
    st'.stack = st.stack ∧ Inside p st' := by
  obtain ⟨hd', hs', hc'⟩ := ha (ne_nil_of_getLast? hl)
  exact ⟨hs', hd', hs' ▸ hl, Option.some.inj (hc'.trans hl)⟩

theorem emit_items (items : List (List JTok)) (h : ∀ i ∈ items, Emits lay fmtF i) :
    ∀ st1, Inside .arrValueOrEnd st1 →
    ∃ st2, items.flatten.foldlM (emitStep lay fmtF) st1 = some st2 ∧ st2.stack = st1.stack ∧ Inside .arrValueOrEnd st2 := by
  induction items with
  | nil => intro st1 hi; exact ⟨st1, rfl, rfl, hi⟩
  | cons i items ih =>
    intro st1 hi
    obtain ⟨st', e1, ha⟩ := h i List.mem_cons_self st1 ⟨hi.1, Or.inr (Or.inr hi.2)⟩
    obtain ⟨hs', hi'⟩ := ha.inside hi.2.1
    obtain ⟨st2, e2, hs2, hi2⟩ := ih (fun j hj => h j (List.mem_cons_of_mem _ hj)) st' hi'
    refine ⟨st2, ?_, hs2.trans hs', hi2⟩
    rw [List.flatten_cons, List.foldlM_append, e1]
    exact e2

theorem emit_key (k : Bytes) (st1 : EmitSt) (hi : Inside .mapKeyOrEnd st1) :
    ∃ stk, emitStep lay fmtF st1 (.str k) = some stk ∧ stk.stack = st1.stack ∧ stk.done = false ∧
      stk.current = .mapValue := by
  obtain ⟨stack, current, hasSome, out, done⟩ := st1
  obtain ⟨hd, _, hc⟩ := hi
  subst hd hc
  exact ⟨_, rfl, rfl, rfl, rfl⟩

theorem emit_pairs (ps : List (Bytes × List JTok)) (h : ∀ p ∈ ps, Emits lay fmtF p.2) :
    ∀ st1, Inside .mapKeyOrEnd st1 →
    ∃ st2, (flattenTokPairs ps).foldlM (emitStep lay fmtF) st1 = some st2 ∧ st2.stack = st1.stack ∧ Inside .mapKeyOrEnd st2 := by
  induction ps with
  | nil => intro st1 hi; exact ⟨st1, rfl, rfl, hi⟩
  | cons p ps ih =>
    intro st1 hi
    obtain ⟨k, ts⟩ := p
    obtain ⟨stk, e0, hsk, hdk, hck⟩ := emit_key lay fmtF k st1 hi
    have hl : stk.stack.getLast? = some .mapKeyOrEnd := hsk ▸ hi.2.1
    obtain ⟨st', e1, ha⟩ := h (k, ts) List.mem_cons_self stk ⟨hdk, Or.inr (Or.inl ⟨hl, hck⟩)⟩
    obtain ⟨hs', hi'⟩ := ha.inside hl
    obtain ⟨st2, e2, hs2, hi2⟩ := ih (fun j hj => h j (List.mem_cons_of_mem _ hj)) st' hi'
    refine ⟨st2, ?_, hs2.trans (hs'.trans hsk), hi2⟩
    show List.foldlM _ st1 (.str k :: (ts ++ flattenTokPairs ps)) = _
    rw [List.foldlM_cons, e0, Option.bind_eq_bind, Option.bind_some, List.foldlM_append, e1]
    exact e2

theorem emit_VTok {ts : List JTok} (h : VTok fmtF ts) : Emits lay fmtF ts := by
  induction h with
  | scalar t w h =>
    intro st hr
    obtain ⟨st', h1, h2⟩ := emit_scalar lay fmtF t w h st hr
    exact ⟨st', by simp [List.foldlM, h1], h2⟩
  | arr items _ ih =>
    intro st hr
    obtain ⟨st1, e1, hs1, hi1⟩ := emit_open lay fmtF .arrOpen .arrValueOrEnd (Or.inl ⟨rfl, rfl⟩) st hr
    obtain ⟨st2, e2, hs2, hi2⟩ := emit_items lay fmtF items ih st1 hi1
    obtain ⟨st', e3, ha⟩ := emit_close lay fmtF .arrClose .arrValueOrEnd (Or.inl ⟨rfl, rfl⟩) st st2 (by rw [hs2, hs1]) hi2
    refine ⟨st', ?_, ha⟩
    simp only [List.foldlM_cons, e1, List.foldlM_append, e2, Option.bind_eq_bind, Option.bind_some, List.foldlM_nil, e3]
    rfl
  | map ps _ ih =>
    intro st hr
    obtain ⟨st1, e1, hs1, hi1⟩ := emit_open lay fmtF .mapOpen .mapKeyOrEnd (Or.inr ⟨rfl, rfl⟩) st hr
    obtain ⟨st2, e2, hs2, hi2⟩ := emit_pairs lay fmtF ps ih st1 hi1
    obtain ⟨st', e3, ha⟩ := emit_close lay fmtF .mapClose .mapKeyOrEnd (Or.inr ⟨rfl, rfl⟩) st st2 (by rw [hs2, hs1]) hi2
    refine ⟨st', ?_, ha⟩
    simp only [List.foldlM_cons, e1, List.foldlM_append, e2, Option.bind_eq_bind, Option.bind_some, List.foldlM_nil, e3]
    rfl

theorem emitToks_VTok {ts : List JTok} (h : VTok fmtF ts) : (emitToks lay fmtF ts).isSome = true := by
  obtain ⟨st', e, _⟩ := emit_VTok lay fmtF h {} ⟨rfl, Or.inl ⟨rfl, rfl⟩⟩
  simp [emitToks, e]

theorem mem_flattenTokPairs {ps : List (Bytes × List JTok)} {p : Bytes × List JTok} {t : JTok}
    (hp : p ∈ ps) (ht : t ∈ p.2) : t ∈ flattenTokPairs ps :=
  List.mem_flatMap.mpr ⟨p, hp, List.mem_cons_of_mem _ ht⟩

theorem marshalList_cons_some {cfg : EncCfg} {x : DM} {xs : DMs} {ts : List JTok}
    (h : marshalList cfg (.cons x xs) = some ts) :
    ∃ a b, marshalTok cfg x = some a ∧ marshalList cfg xs = some b ∧ ts = a ++ b := by
  rw [marshalList] at h
  obtain ⟨a, ha, h⟩ := Option.bind_eq_some_iff.mp h
  obtain ⟨b, hb, h⟩ := Option.bind_eq_some_iff.mp h
  exact ⟨a, b, ha, hb, (Option.some.inj h).symm⟩

theorem marshalKVs_cons_some {cfg : EncCfg} {k : Bytes} {v : DM} {es : DMKVs} {ps : List (Bytes × List JTok)}
    (h : marshalKVs cfg (.cons k v es) = some ps) :
    ∃ a b, marshalTok cfg v = some a ∧ marshalKVs cfg es = some b ∧ ps = (k, a) :: b := by
  rw [marshalKVs] at h
  obtain ⟨a, ha, h⟩ := Option.bind_eq_some_iff.mp h
  obtain ⟨b, hb, h⟩ := Option.bind_eq_some_iff.mp h
  exact ⟨a, b, ha, hb, (Option.some.inj h).symm⟩

def finiteFmt (f : UInt64) : Option Bytes := if finiteBits f then some [] else none

theorem scalarText_isSome {F G : UInt64 → Option Bytes} {t : JTok} {w : Bytes} (h : scalarText F t = some w)
    (hf : ∀ f, t = .float f → (G f).isSome = true) : ∃ w', scalarText G t = some w' := by
  cases t with
  | float f => exact Option.isSome_iff_exists.mp (hf f rfl)
  | mapOpen | mapClose | arrOpen | arrClose => cases h
  | null | int _ | str _ => exact ⟨_, rfl⟩
  | bool b => cases b <;> exact ⟨_, rfl⟩

theorem VTok.mono {F G : UInt64 → Option Bytes} {ts : List JTok} (h : VTok F ts) :
    (∀ f, JTok.float f ∈ ts → (G f).isSome = true) → VTok G ts := by
  induction h with
  | scalar t w h =>
    intro hf
    obtain ⟨w', hw⟩ := scalarText_isSome (G := G) h (fun f e => hf f (e ▸ List.mem_cons_self))
    exact .scalar t w' hw
  | arr items _ ih =>
    intro hf
    exact .arr items fun i hi => ih i hi fun f hm =>
      hf f (List.mem_cons_of_mem _ (List.mem_append_left _ (List.mem_flatten.mpr ⟨i, hi, hm⟩)))
  | map ps _ ih =>
    intro hf
    exact .map ps fun p hp => ih p hp fun f hm =>
      hf f (List.mem_cons_of_mem _ (List.mem_append_left _ (mem_flattenTokPairs hp hm)))

theorem VTok.floats {ts : List JTok} (h : VTok finiteFmt ts) : ∀ f, JTok.float f ∈ ts → finiteBits f = true := by
  induction h with
  | scalar t w h =>
    intro f hm
    cases List.mem_singleton.mp hm
    exact (Option.ite_none_right_eq_some.mp h).1
  | arr items _ ih =>
    intro f hm
    simp only [List.mem_cons, List.mem_append, List.mem_flatten, reduceCtorEq, false_or, or_false, List.mem_nil_iff] at hm
    obtain ⟨i, hi, hm⟩ := hm
    exact ih i hi f hm
  | map ps _ ih =>
    intro f hm
    simp only [List.mem_cons, List.mem_append, flattenTokPairs, List.mem_flatMap, reduceCtorEq, false_or, or_false, List.mem_nil_iff] at hm
    obtain ⟨p, hp, hm⟩ := hm
    exact ih p hp f hm

mutual
/-- What the marshaller hands over is well formed already for the formatter that knows the finite floats alone.
    Read with `VTok.mono`: any formatter defined on its floats accepts it; with `VTok.floats`: its floats are finite. -/
theorem marshalTok_wf (cfg : EncCfg) : (v : DM) → ∀ ts, marshalTok cfg v = some ts → VTok finiteFmt ts
  | .null | .bool true | .bool false | .str _ => fun _ h => by cases h; exact .scalar _ _ rfl
  | .int i => fun ts h => by
    obtain ⟨_, ⟨⟩⟩ := Option.ite_none_right_eq_some.mp h
    exact .scalar _ _ rfl
  | .float f => fun ts h => by
    obtain ⟨hf, ⟨⟩⟩ := Option.ite_none_right_eq_some.mp h
    exact .scalar _ [] (if_pos hf)
  | .bytes b => fun ts h => by
    obtain ⟨_, ⟨⟩⟩ := Option.ite_none_right_eq_some.mp h
    refine VTok.map [(slash, [.mapOpen, .str bytesWord, .str (base64Raw b), .mapClose])] ?_
    intro p hp; cases List.mem_singleton.mp hp
    refine VTok.map [(bytesWord, [.str (base64Raw b)])] ?_
    intro p hp; cases List.mem_singleton.mp hp
    exact .scalar _ _ rfl
  | .link c => fun ts h => by
    obtain ⟨_, ⟨⟩⟩ := Option.ite_none_right_eq_some.mp h
    refine VTok.map [(slash, [.str (cidText c)])] ?_
    intro p hp; cases List.mem_singleton.mp hp
    exact .scalar _ _ rfl
  | .list xs => fun ts h => by
    obtain ⟨ts', h', rfl⟩ := Option.map_eq_some_iff.mp h
    obtain ⟨items, rfl, hi⟩ := marshalList_wf cfg xs ts' h'
    exact .arr items hi
  | .map es => fun ts h => by
    obtain ⟨ps, h', rfl⟩ := Option.map_eq_some_iff.mp h
    exact .map _ (fun p hp => marshalKVs_wf cfg es ps h' p ((sortPairs_perm cfg.sort ps).subset hp))
theorem marshalList_wf (cfg : EncCfg) : (xs : DMs) → ∀ ts, marshalList cfg xs = some ts →
    ∃ items : List (List JTok), ts = items.flatten ∧ ∀ i ∈ items, VTok finiteFmt i
  | .nil => fun ts h => by cases h; exact ⟨[], rfl, nofun⟩
  | .cons x xs => fun ts h => by
    obtain ⟨a, b, ha, hb, rfl⟩ := marshalList_cons_some h
    obtain ⟨items, rfl, hi⟩ := marshalList_wf cfg xs b hb
    exact ⟨a :: items, rfl, List.forall_mem_cons.mpr ⟨marshalTok_wf cfg x a ha, hi⟩⟩
theorem marshalKVs_wf (cfg : EncCfg) : (es : DMKVs) → ∀ ps, marshalKVs cfg es = some ps →
    ∀ p ∈ ps, VTok finiteFmt p.2
  | .nil => fun ps h => by cases h; nofun
  | .cons k v es => fun ps h => by
    obtain ⟨a, b, ha, hb, rfl⟩ := marshalKVs_cons_some h
    exact List.forall_mem_cons.mpr ⟨marshalTok_wf cfg v a ha, marshalKVs_wf cfg es b hb⟩
end

theorem marshalTok_VTok (cfg : EncCfg) (v : DM) (ts : List JTok) (h : marshalTok cfg v = some ts)
    (hf : ∀ f, JTok.float f ∈ ts → (fmtF f).isSome = true) : VTok fmtF ts :=
  (marshalTok_wf cfg v ts h).mono hf

theorem marshalKVs_VTok (cfg : EncCfg) : (es : DMKVs) → ∀ ps, marshalKVs cfg es = some ps →
    (∀ f, ∀ p ∈ ps, JTok.float f ∈ p.2 → (fmtF f).isSome = true) → ∀ p ∈ ps, VTok fmtF p.2 :=
  fun es ps h hf p hp => (marshalKVs_wf cfg es ps h p hp).mono fun f hm => hf f p hp hm

theorem marshalTok_floats (cfg : EncCfg) (v : DM) (ts : List JTok) (h : marshalTok cfg v = some ts)
    (f : UInt64) (hm : JTok.float f ∈ ts) : finiteBits f = true :=
  (marshalTok_wf cfg v ts h).floats f hm

theorem marshalList_floats (cfg : EncCfg) : (xs : DMs) → ∀ ts, marshalList cfg xs = some ts →
    ∀ f, JTok.float f ∈ ts → finiteBits f = true := by
  intro xs ts h f hm
  obtain ⟨items, rfl, hi⟩ := marshalList_wf cfg xs ts h
  obtain ⟨i, hmem, hm⟩ := List.mem_flatten.mp hm
  exact (hi i hmem).floats f hm

theorem marshalKVs_floats (cfg : EncCfg) : (es : DMKVs) → ∀ ps, marshalKVs cfg es = some ps →
    ∀ p ∈ ps, ∀ f, JTok.float f ∈ p.2 → finiteBits f = true :=
  fun es ps h p hp f hm => (marshalKVs_wf cfg es ps h p hp).floats f hm

end Json
end Ipld

/-
  Completeness of the walk against the path-indexed denotation of `Spec/SelectorDenote.lean`: a successful
  unrestricted walk logs exactly `denoteFrom` and the selection is clean; one induction gives both.  Iterating
  over `childList` agrees with the spec's random-access `childAt` only for nodes without duplicate map keys.
-/
import IpldModel.Lemmas.SelectorAt
namespace Ipld
namespace Walk
open Sel Spec

/-- what the spec lists for one child `(seg, value)` of the walk's loop: `denoteSeg` (DenoteOrder) at `seg`, read off
    the child's value instead of `stepAt`, which is what `exploreChild` has in hand -/
def denoteChild (store : Store) (d : Nat) (path : Path) (n : DM) (s : S) (x : Seg × DM) :
    List (Path × DM × Reason) :=
  match explore s n x.1 with
  | .ok (some s') =>
    match deref store x.2 with
    | some n' => denoteFrom store d (path ++ [x.1]) n' s'
    | none => []
  | _ => []

theorem denoteFrom_children {n : DM} (hn : n.NoDup) (store : Store) (d : Nat) (path : Path) (s : S) :
    denoteFrom store (d + 1) path n s =
      visitOf path n s :: (childList n s).flatMap (denoteChild store d path n s) := by
  rw [denoteFrom_succ, childList_eq_lookup hn, flatMap_filterMap]
  congr 1
  apply flatMap_congr'
  intro seg _
  unfold stepAt denoteChild
  cases childAt n s seg with
  | none => rfl
  | some v =>
    simp only [Option.map_some]
    cases explore s n seg with
    | error e => rfl
    | ok o =>
      cases o with
      | none => rfl
      | some s' => cases h : deref store v <;> simp only [h, Option.map_some, Option.map_none]

def cleanChild (store : Store) (d : Nat) (n : DM) (s : S) (x : Seg × DM) : Bool :=
  match explore s n x.1 with
  | .error _ => false
  | .ok none => true
  | .ok (some s') =>
    match deref store x.2 with
    | none => false
    | some n' => cleanFrom store d n' s'

theorem cleanFrom_succ (store : Store) (d : Nat) (n : DM) (s : S) :
    cleanFrom store (d + 1) n s =
      (!needsAdl s && (segsAt n s).all fun seg =>
        match childAt n s seg with
        | none => true
        | some v => cleanChild store d n s (seg, v)) := rfl

theorem cleanFrom_pos {store : Store} {d : Nat} {n : DM} {s : S} (hc : cleanFrom store d n s = true) :
    ∃ d', d = d' + 1 := by
  cases d with
  | zero => simp [cleanFrom] at hc
  | succ d' => exact ⟨d', rfl⟩

theorem cleanFrom_iff {n : DM} (hn : n.NoDup) {store : Store} {d : Nat} {s : S} :
    cleanFrom store (d + 1) n s = true ↔
      needsAdl s = false ∧ ∀ x ∈ childList n s, cleanChild store d n s x = true := by
  rw [cleanFrom_succ, Bool.and_eq_true, List.all_eq_true]
  constructor
  · rintro ⟨h1, h2⟩
    refine ⟨by simpa using h1, ?_⟩
    rintro ⟨seg, v⟩ hx
    obtain ⟨hm, hl⟩ := (childList_mem_iff hn).1 hx
    have := h2 seg hm
    simp only [childAt, hm, if_true, hl] at this
    exact this
  · rintro ⟨h1, h2⟩
    refine ⟨by simp [h1], ?_⟩
    intro seg hm
    cases hc : childAt n s seg with
    | none => rfl
    | some v =>
      simp only
      apply h2
      simp only [childAt, hm, if_true] at hc
      exact (childList_mem_iff hn).2 ⟨hm, hc⟩

structure Unrestricted (cfg : Cfg) : Prop where
  startAt : cfg.startAt = []
  skip : cfg.skip = []
  linkOnce : cfg.linkOnce = false

theorem enterNode_plain {cfg : Cfg} (hs : cfg.startAt = []) {st : St} (hp : Plain st) (past : Bool) (path : Path)
    (n : DM) (s : S) : enterNode cfg past path n s st =
      if needsAdl s then (st, .error .reify) else ({ st with events := visitEvent path n s :: st.events }, .ok ()) := by
  rw [enterNode, checkNode_plain hp]
  simp only [visitSt_noStart cfg hs]

/-- a successful call leaves a selection clean to every depth from the fuel on, and logs its denotation -/
theorem complete_all (cfg : Cfg) (hu : Unrestricted cfg) (hstore : StoreNoDup cfg.store) (fuel : Nat) : WalkAll cfg
    (fun f _ path n s st r => r.2 = .ok () → Plain st → n.NoDup → ∀ d, f ≤ d →
      cleanFrom cfg.store d n s = true ∧
        visitsOf r.1.events = (denoteFrom cfg.store d path n s).reverse ++ visitsOf st.events)
    (fun f path n s l _ st r => r.2 = .ok () → Plain st → n.NoDup → (∀ x ∈ l, x ∈ childList n s) →
      ∀ d, f ≤ d → (∀ x ∈ l, cleanChild cfg.store d n s x = true) ∧
        visitsOf r.1.events = (l.flatMap (denoteChild cfg.store d path n s)).reverse ++ visitsOf st.events)
    (fun f _ path n s ps v st r => r.2 = .ok () → Plain st → n.NoDup → (ps, v) ∈ childList n s →
      ∀ d, f ≤ d → cleanChild cfg.store d n s (ps, v) = true ∧
        visitsOf r.1.events = (denoteChild cfg.store d path n s (ps, v)).reverse ++ visitsOf st.events) fuel := by
  refine walk_ind cfg
    nofun nofun nofun (fun _ => nofun) ?leaf ?inner (fun _ _ _ _ _ _ => ⟨nofun, by simp⟩) ?skip (fun _ _ => nofun)
    ?cons ?unexplored ?linkStop ?linkGo ?child fuel
  case leaf =>
    intro f _ path n s st st2 h hrec _ hp hn d hd
    obtain ⟨d, rfl⟩ := Nat.exists_eq_add_one_of_ne_zero (Nat.ne_of_gt (Nat.lt_of_lt_of_le (Nat.succ_pos _) hd))
    rw [enterNode_plain hu.startAt hp] at h
    by_cases hi : needsAdl s = true
    · rw [if_pos hi] at h; cases h
    rw [if_neg hi] at h; cases h
    rw [denoteFrom_children hn, cleanFrom_iff hn, childList_nonrec hrec]
    exact ⟨⟨by simpa using hi, nofun⟩, by
      simp only [visitsOf_visitEvent, List.flatMap_nil, List.reverse_cons, List.reverse_nil, List.nil_append,
        List.singleton_append]⟩
  case inner =>
    intro f _ path n s st st2 r h _ hC hok hp hn d hd
    obtain ⟨d, rfl⟩ := Nat.exists_eq_add_one_of_ne_zero (Nat.ne_of_gt (Nat.lt_of_lt_of_le (Nat.succ_pos _) hd))
    rw [enterNode_plain hu.startAt hp] at h
    split at h <;> cases h
    rename_i hi
    obtain ⟨h1, h2⟩ := hC hok hp hn (fun x hx => hx) d (Nat.le_of_succ_le_succ hd)
    rw [denoteFrom_children hn, cleanFrom_iff hn]
    refine ⟨⟨by simpa using hi, h1⟩, ?_⟩
    rw [h2, visitsOf_visitEvent]
    simp only [List.reverse_cons, List.append_assoc, List.singleton_append]
  case skip =>
    refine fun hk => ?_
    rw [loopStep_noStart cfg hu.startAt] at hk
    cases hk
  case cons =>
    intro f path n s ps v rest _ lp' st st' r _ heq hE hC hok hp hn hl d hd
    have hpl := (plain_all cfg f).2.2 lp'.past path n s ps v st hp
    rw [heq] at hpl
    obtain ⟨c1, e1⟩ := hE rfl hp hn (hl _ List.mem_cons_self) d (Nat.le_of_succ_le hd)
    obtain ⟨c2, e2⟩ := hC hok hpl hn (fun x hx => hl x (List.mem_cons_of_mem _ hx)) d (Nat.le_of_succ_le hd)
    refine ⟨fun x hx => ?_, by rw [e2, e1, List.flatMap_cons, List.reverse_append, List.append_assoc]⟩
    rcases List.mem_cons.1 hx with rfl | hx
    · exact c1
    · exact c2 x hx
  case unexplored =>
    intro f _ path n s ps v st r h hok _ _ _ d _
    unfold denoteChild cleanChild
    generalize explore s n ps = x at h
    cases h with
    | panic => cases hok
    | selector => cases hok
    | none => simp
  case linkStop =>
    intro f _ path n s ps c st sNext r hx h hok hp _ _ d _
    rw [linkStep_plain hu.linkOnce hp] at h hok
    simp only [fetch, hu.skip, List.contains_nil, Bool.false_eq_true, if_false] at h hok
    cases hs : storeGet cfg.store c with
    | none => rw [hs] at h; cases h; cases hok
    | some blk => rw [hs] at h; cases h
  case linkGo =>
    intro f _ path n s ps c st sNext blk r hx hb hA hok hp _ _ d hd
    obtain ⟨hs, _, _⟩ := linkStep_some hb
    unfold denoteChild cleanChild
    simp only [hx, deref_link hs]
    have := hA hok (by rw [linkStep_plain hu.linkOnce hp]; exact hp) (hstore c blk hs) d (Nat.le_of_succ_le hd)
    rw [linkStep_plain hu.linkOnce hp] at this
    exact this
  case child =>
    intro f _ path n s ps v st sNext r hx hnl hA hok hp hn hmem d hd
    unfold denoteChild cleanChild
    simp only [hx, deref_nonlink hnl]
    exact hA hok hp (childList_noDup hn hmem) d (Nat.le_of_succ_le hd)

theorem walk_visits_eq_denote {cfg : Cfg} (hu : Unrestricted cfg) (hstore : StoreNoDup cfg.store) {root : DM}
    (hroot : root.NoDup) {s : S} {fuel : Nat} (hok : (walk cfg fuel none none root s).outcome = .ok ())
    (d : Nat) (hd : fuel ≤ d) :
    visitsOf (walk cfg fuel none none root s).events = denote cfg.store d s root := by
  rw [walk_events, visitsOf_reverse, ((complete_all cfg hu hstore fuel).1 false [] root s _ hok ⟨rfl, rfl⟩ hroot d hd).2]
  simp [denote, visitsOf]

section
variable (cfg : Cfg) (hu : Unrestricted cfg) (hstore : StoreNoDup cfg.store) (root : DM) (hroot : root.NoDup)
  (s : S) (fuel : Nat) (hok : (walk cfg fuel none none root s).outcome = .ok ())
include hu hstore hroot hok

theorem selected_visited (p : Path) (n : DM) (s' : S) (h : selectorAt cfg.store s root p = some (n, s')) :
    visitOf p n s' ∈ visitsOf (walk cfg fuel none none root s).events := by
  rw [walk_visits_eq_denote hu hstore hroot hok (max fuel (p.length + 1)) (Nat.le_max_left _ _),
    mem_denote]
  rw [visitOf_fst]
  exact ⟨n, s', Nat.lt_of_lt_of_le (Nat.lt_succ_self _) (Nat.le_max_right _ _), h, rfl⟩

theorem visited_iff_selected (p : Path) :
    (∃ n r, (p, n, r) ∈ visitsOf (walk cfg fuel none none root s).events) ↔ Selected cfg.store s root p := by
  constructor
  · rintro ⟨n, r, h⟩
    obtain ⟨n', s', h1, _⟩ := visited_selectorAt hstore hroot h
    exact (selected_iff cfg.store s root p).2 ⟨n', s', h1⟩
  · intro h
    obtain ⟨n, s', hsel⟩ := (selected_iff cfg.store s root p).1 h
    have := selected_visited cfg hu hstore root hroot s fuel hok p n s' hsel
    rw [visitOf_components] at this
    exact ⟨_, _, this⟩

theorem visit_reason (p : Path) (m : DM) (r : Reason)
    (h : (p, m, r) ∈ visitsOf (walk cfg fuel none none root s).events) :
    ∃ n s', selectorAt cfg.store s root p = some (n, s') ∧ m = (matchNode s' n).getD n ∧
      (r = .matched ↔ decides s' n = true) := by
  obtain ⟨n, s', h1, h2⟩ := visited_selectorAt hstore hroot h
  refine ⟨n, s', h1, ?_⟩
  rw [visitOf_components] at h2
  simp only [Prod.mk.injEq, true_and] at h2
  obtain ⟨rfl, rfl⟩ := h2
  refine ⟨rfl, ?_⟩
  cases decides s' n <;> simp

end

end Walk
end Ipld

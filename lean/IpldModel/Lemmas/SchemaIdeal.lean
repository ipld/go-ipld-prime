/-
  The ideal engine's walks as proofs use them: no flag, no slot shortcut, no index - a struct assembly is a function
  from field names (`SSt.ofFn`), a key finds its field or member by `find?`, and nothing is handed down to a
  sub-builder (`cur = none`).
-/
import IpldModel.Lemmas.SchemaBasic
namespace Ipld
namespace Schema

/-- One assignment of a struct walk on `SSt.ofFn fs g`, the field sitting at position `i`. -/
theorem ideal_assign_step {fs : List Field} (hnd : (fs.map (·.name)).Nodup) (g : Bytes → Option TL) {i : Nat}
    {f : Field} (hi : fs[i]? = some f) (o : Outcome TL) (K : SSt → Outcome TL) :
    (if ((SSt.ofFn fs g).isDone i && !Engine.ideal.dupStructField) = true then Outcome.reject
      else o.bind fun tv => K ((SSt.ofFn fs g).assign i tv)) =
    if (g f.name).isSome = true then .reject else o.bind fun tv => K (SSt.ofFn fs (setFn g f.name tv)) := by
  rw [SSt.ofFn_isDone hi, ideal_dupStructField, Bool.not_false, Bool.and_true]
  exact congrArg _ (congrArg _ (funext fun tv => congrArg K (SSt.ofFn_assign hi hnd)))

theorem buildList_ideal_cons (lvl : Level) (ety : Ty) (enul : Bool) (acc : List TL) (x : DM) (xs : DMs) :
    buildList Engine.ideal lvl ety enul acc (.cons x xs) =
      (build Engine.ideal lvl ety enul none x).bind fun v => buildList Engine.ideal lvl ety enul (acc ++ [v]) xs :=
  buildList_cons_off ideal_nodeOff lvl ety enul acc x xs

theorem buildMap_ideal_cons (lvl : Level) (vty : Ty) (vnul : Bool) (acc : List (Bytes × TL)) (k : Bytes) (v : DM)
    (es : DMKVs) :
    buildMap Engine.ideal lvl vty vnul acc (.cons k v es) =
      if acc.any (fun p => p.1 == k) = true then .reject
      else (build Engine.ideal lvl vty vnul none v).bind fun tv =>
        buildMap Engine.ideal lvl vty vnul (acc ++ [(k, tv)]) es := by
  rw [buildMap_cons_off ideal_nodeOff]
  cases acc.any (fun p => p.1 == k) <;> rfl

theorem buildStruct_ideal_cons {fs : List Field} (hnd : (fs.map (·.name)).Nodup) (lvl : Level)
    (g : Bytes → Option TL) (k : Bytes) (v : DM) (es : DMKVs) :
    buildStruct Engine.ideal lvl fs (SSt.ofFn fs g) (.cons k v es) =
      match fieldFor lvl fs k with
      | none => .reject
      | some f =>
        if (g f.name).isSome = true then .reject
        else (build Engine.ideal lvl f.ty f.nullable none v).bind fun tv =>
          buildStruct Engine.ideal lvl fs (SSt.ofFn fs (setFn g f.name tv)) es := by
  rw [buildStruct_cons_off ideal_nodeOff, ← fieldByKey_ideal_fieldFor]
  cases hf : fieldByKey Engine.ideal lvl fs k with
  | none => rfl
  | some r =>
    exact ideal_assign_step hnd g (fieldByKey_ideal_getElem hf) _
      fun st => buildStruct Engine.ideal lvl fs st es

theorem buildTuple_ideal_cons {fs : List Field} (hnd : (fs.map (·.name)).Nodup) (g : Bytes → Option TL) (i : Nat)
    (x : DM) (xs : DMs) :
    buildTuple Engine.ideal fs (SSt.ofFn fs g) i (.cons x xs) =
      match fs[i]? with
      | none => .reject
      | some f => (build Engine.ideal .repr f.ty f.nullable none x).bind fun tv =>
        buildTuple Engine.ideal fs (SSt.ofFn fs (setFn g f.name tv)) (i + 1) xs := by
  rw [buildTuple_cons_off ideal_nodeOff]
  cases hi : fs[i]? with
  | none => rfl
  | some f =>
    exact congrArg (Outcome.bind (build Engine.ideal .repr f.ty f.nullable none x)) (funext fun tv =>
      congrArg (buildTuple Engine.ideal fs · (i + 1) xs) (SSt.ofFn_assign hi hnd))

theorem buildPairs_ideal_pair {fs : List Field} (hnd : (fs.map (·.name)).Nodup) (g : Bytes → Option TL)
    (k : Bytes) (v : DM) (rest ps : DMs) :
    buildPairs Engine.ideal fs (SSt.ofFn fs g) (.cons (.list (.cons (.str k) (.cons v rest))) ps) =
      match fs.find? (fun f => f.name == k) with
      | none => .reject
      | some f =>
        if (g f.name).isSome = true then .reject
        else (build Engine.ideal .repr f.ty f.nullable none v).bind fun tv =>
          match rest with
          | .nil => buildPairs Engine.ideal fs (SSt.ofFn fs (setFn g f.name tv)) ps
          | .cons _ _ => .reject := by
  rw [buildPairs_pair]
  cases hf : findIdx (fun f => f.name == k) fs with
  | none => rw [findIdx_none.1 hf]; rfl
  | some r =>
    have h := findIdx_some hf
    rw [h.2.2]
    exact ideal_assign_step hnd g h.1 _ fun st =>
      match rest with
      | .nil => buildPairs Engine.ideal fs st ps
      | .cons _ _ => .reject

theorem buildUnion_ideal_cons (lvl : Level) (ms : List Member) (cur : Option TL) (n : Nat) (k : Bytes) (v : DM)
    (es : DMKVs) :
    buildUnion Engine.ideal lvl ms cur n (.cons k v es) =
      if n ≥ 1 then .reject
      else match memberFor lvl ms k with
        | none => .reject
        | some m => (build Engine.ideal lvl m.ty false none v).bind fun tv =>
          buildUnion Engine.ideal lvl ms (some (.map (.cons m.name tv .nil))) (n + 1) es := by
  rw [buildUnion_cons, memberByKey_ideal, ideal_unionMulti, Bool.not_false, Bool.and_true]
  cases lvl <;> simp only [decide_eq_true_eq] <;> rfl

end Schema
end Ipld

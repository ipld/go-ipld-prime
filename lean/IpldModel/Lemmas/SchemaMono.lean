/-
  What the ideal engine accepts, every engine without `nullableUnionPanic`, `prefixEmptyDelimSplit`,
  `kindedNullRejected` and `assignNodeSkipsBegin` under `viaNode` accepts, with the same node.  So every
  other quirk flag only ever changes the outcome of an input the ideal engine REJECTS.
-/
import IpldModel.Lemmas.SchemaIdeal
import IpldModel.Lemmas.SchemaEngineEq
namespace Ipld
namespace Schema

/-- An engine without the flags that can change the outcome of an input the ideal engine ACCEPTS:
    `nullableUnionPanic` (reflection binding), `prefixEmptyDelimSplit`, `kindedNullRejected` and
    `assignNodeSkipsBegin` where it can act, i.e. under the driving mode `viaNode` (generated code).
    The other twelve flags, and the driving mode `viaKeys`, are free. -/
structure Engine.MonoFlags (e : Engine) : Prop where
  nup : e.nullableUnionPanic = false
  split : e.prefixEmptyDelimSplit = false
  knull : e.kindedNullRejected = false
  node : (e.viaNode && e.assignNodeSkipsBegin) = false

theorem Engine.ideal_monoFlags : Engine.ideal.MonoFlags := ⟨rfl, rfl, rfl, rfl⟩

/-- An enum member the ideal engine finds, every engine finds: `enumTypeAnyString` and `enumNameAtRepr`
    only accept more. -/
theorem buildScalar_enum_mono (e : Engine) (lvl : Level) (nul : Bool) (d : DM) (ms : List EnumMember)
    (r : EnumRepr) (v : TL) (h : buildScalar Engine.ideal lvl nul d (.enum ms r) = .ok v) :
    buildScalar e lvl nul d (.enum ms r) = .ok v := by
  unfold buildScalar at h ⊢
  split at h
  · rw [ideal_enumTypeAnyString, Bool.false_or] at h
    split at h
    · next hany => rw [hany, Bool.or_true, if_pos rfl]; exact h
    · cases h
  · split at h
    · split at h
      · exact h
      · rw [ideal_enumNameAtRepr] at h; cases h
    · cases h
  · exact h
  · cases h

theorem scalars_mono (e : Engine) (hn : e.MonoFlags) :
    (∀ ty lvl nul d v, buildScalar Engine.ideal lvl nul d ty = .ok v → buildScalar e lvl nul d ty = .ok v) ∧
    (∀ fs ps es, buildJoin Engine.ideal fs ps = .ok es → buildJoin e fs ps = .ok es) ∧
    ∀ ms, (∀ nul d v, buildKinded Engine.ideal nul d ms = .ok v → buildKinded e nul d ms = .ok v) ∧
      (∀ nul p r v, buildPrefix Engine.ideal nul p r ms = .ok v → buildPrefix e nul p r ms = .ok v) ∧
      ∀ nul s v, buildPrefixNoDelim Engine.ideal nul s ms = .ok v → buildPrefixNoDelim e nul s ms = .ok v := by
  apply Ty.builder_induct
  iterate 7 (intro lvl nul d v h; unfold buildScalar at h ⊢; exact h)
  · intro _ _ lvl nul d v h; unfold buildScalar at h; cases h
  · intro _ _ lvl nul d v h; unfold buildScalar at h; cases h
  · intro fs r ih lvl nul d v h
    rw [buildScalar_struct] at h ⊢
    split at h
    · split at h
      · cases h
      · next hl =>
        rw [if_neg hl, Outcome.map_eq_ok]
        obtain ⟨es, hes, hv⟩ := Outcome.map_eq_ok.1 h
        exact ⟨es, ih _ es hes, hv⟩
    · cases h
  · intro ms r ⟨hk, hp, hd⟩ lvl nul d v h
    rw [buildScalar_union_off rfl] at h
    rw [buildScalar_union_off hn.split]
    split at h
    · exact hk nul d v h
    · split at h
      · next s =>
        split at h
        · next hd' => rw [if_pos hd']; exact hd nul s v h
        · next hd' =>
          rw [if_neg hd']
          split at h
          · cases h
          · exact hp nul _ _ v h
      · cases h
    · cases h
  · exact fun ms r lvl nul d => buildScalar_enum_mono e lvl nul d ms r
  · intro ps es h
    cases ps
    · exact h
    · cases h
  · intro n rn o nu t rest ht hj ps es h
    rcases ps with _ | ⟨p, ps⟩
    · cases h
    rw [buildJoin_cons, Outcome.bind_eq_ok] at h ⊢
    obtain ⟨v, hv, h⟩ := h
    obtain ⟨es', hes', rfl⟩ := Outcome.map_eq_ok.1 h
    exact ⟨v, ht _ _ _ v hv, Outcome.map_eq_ok.2 ⟨es', hj ps es' hes', rfl⟩⟩
  · exact ⟨fun _ _ _ h => (by cases h), fun _ _ _ _ h => (by cases h), fun _ _ _ h => (by cases h)⟩
  · intro n dc k t rest ht ⟨hk, hp, hd⟩
    -- the member is taken: neither engine panics and the scalar is built alike
    have hm (d : DM) (v : TL)
        (h : ((buildScalar Engine.ideal .repr false d t).map fun v => TL.map (.cons n v .nil)) = .ok v) :
        ((buildScalar e .repr false d t).map fun v => TL.map (.cons n v .nil)) = .ok v := by
      obtain ⟨tv, htv, rfl⟩ := Outcome.map_eq_ok.1 h
      rw [ht _ _ _ tv htv]
      rfl
    refine ⟨fun nul d v h => ?_, fun nul p r v h => ?_, fun nul s v h => ?_⟩
    · rw [buildKinded_cons, memberStep_off rfl] at h
      rw [buildKinded_cons, memberStep_off hn.nup]
      split
      · next hc => rw [if_pos hc] at h; exact hm _ _ h
      · next hc => rw [if_neg hc] at h; exact hk _ _ _ h
    · rw [buildPrefix_cons, memberStep_off rfl] at h
      rw [buildPrefix_cons, memberStep_off hn.nup]
      split
      · next hc => rw [if_pos hc] at h; exact hm _ _ h
      · next hc => rw [if_neg hc] at h; exact hp _ _ _ _ h
    · rw [buildPrefixNoDelim_cons, memberStep_off rfl] at h
      rw [buildPrefixNoDelim_cons, memberStep_off hn.nup]
      split
      · next hc => rw [if_pos hc] at h; exact hm _ _ h
      · next hc => rw [if_neg hc] at h; exact hd _ _ _ h

theorem buildJoin_mono (e : Engine) (hn : e.MonoFlags) : (fs : Fields) →
    (ps : List Bytes) → (es : List (Bytes × TL)) → buildJoin Engine.ideal fs ps = .ok es →
    buildJoin e fs ps = .ok es :=
  (scalars_mono e hn).2.1
theorem buildPrefix_mono (e : Engine) (hn : e.MonoFlags) (nul : Bool) (p r : Bytes) :
    (ms : Members) → (v : TL) → buildPrefix Engine.ideal nul p r ms = .ok v →
    buildPrefix e nul p r ms = .ok v :=
  fun ms => ((scalars_mono e hn).2.2 ms).2.1 nul p r
theorem buildPrefixNoDelim_mono (e : Engine) (hn : e.MonoFlags) (nul : Bool) (s : Bytes) :
    (ms : Members) → (v : TL) → buildPrefixNoDelim Engine.ideal nul s ms = .ok v →
    buildPrefixNoDelim e nul s ms = .ok v :=
  fun ms => ((scalars_mono e hn).2.2 ms).2.2 nul s

/-- A slot that was not assigned in this assembly is empty: the half of `done = slots.isSome` (which holds
    of the states `SSt.ofFn`, so of every fresh assembly) that is needed here.  The walks' monotonicity is stated
    for any such state, not only for those of the form `SSt.ofFn`. -/
def SSt.clean (st : SSt) : Prop :=
  st.slots.length = st.done.length ∧ ∀ i, st.isDone i = false → st.slots.getD i none = none

def SSt.cleanFrom (st : SSt) (i : Nat) : Prop := ∀ j, i ≤ j → st.slots.getD j none = none

theorem SSt.init_clean {fs : List Field} : (SSt.init fs none).clean := by
  refine ⟨by simp [SSt.init], fun i _ => ?_⟩
  simp only [SSt.init, List.getD_eq_getElem?_getD, List.getElem?_map]
  cases fs[i]? <;> simp

theorem SSt.init_cleanFrom {fs : List Field} : (SSt.init fs none).cleanFrom 0 := by
  intro i _
  simp only [SSt.init, List.getD_eq_getElem?_getD, List.getElem?_map]
  cases fs[i]? <;> simp

theorem SSt.clean_assign {st : SSt} {i : Nat} {v : TL} (h : st.clean) : (st.assign i v).clean := by
  refine ⟨by simp [SSt.assign, h.1], fun j hj => ?_⟩
  simp only [SSt.assign, SSt.isDone, List.getD_eq_getElem?_getD, List.getElem?_set] at hj ⊢
  by_cases hij : i = j
  · subst hij
    simp only [if_true] at hj ⊢
    by_cases hl : i < st.done.length
    · simp [hl] at hj
    · have : ¬ i < st.slots.length := by rw [h.1]; exact hl
      simp [this]
  · simp only [hij, if_false] at hj ⊢
    have := h.2 j (by simpa [SSt.isDone, List.getD_eq_getElem?_getD] using hj)
    simpa [List.getD_eq_getElem?_getD] using this

theorem SSt.cleanFrom_assign {st : SSt} {i : Nat} {v : TL} (h : st.cleanFrom i) :
    (st.assign i v).cleanFrom (i + 1) := by
  intro j hj
  simp only [SSt.assign, List.getD_eq_getElem?_getD, List.getElem?_set, Nat.ne_of_lt hj, if_false]
  simpa [List.getD_eq_getElem?_getD] using h j (Nat.le_of_succ_le hj)

theorem SSt.curOf_clean {e : Engine} {st : SSt} {i : Nat} {f : Field} (h : st.clean)
    (hd : st.isDone i = false) : st.curOf e i f = none := by
  unfold SSt.curOf
  split
  · exact h.2 i hd
  · rfl

theorem SSt.curOf_cleanFrom {e : Engine} {st : SSt} {i : Nat} {f : Field} (h : st.cleanFrom i) :
    st.curOf e i f = none := by
  unfold SSt.curOf
  split
  · exact h i (Nat.le_refl i)
  · rfl

/-- `tupleShortAccepted` changes nothing where the ideal `Finish` succeeds: in a clean assembly whose
    required fields were all assigned, no field is left to its zero value. -/
theorem finishFieldsZero_of_finishFields : (fs : List Field) → (ss : List (Option TL)) → (ds : List Bool) →
    (r : List (Bytes × TL)) → (∀ i, ds.getD i false = false → ss.getD i none = none) →
    finishFields fs ss ds = some r → finishFieldsZero fs ss ds = r
  | [], [], [], r, _, h => by simp only [finishFields, Option.some.injEq] at h; cases h; rfl
  | f :: fs, s :: ss, d :: ds, r, hcl, h => by
    have h0 : d = false → s = none := hcl 0
    have ht : ∀ i, ds.getD i false = false → ss.getD i none = none := fun i hi => hcl (i + 1) hi
    simp only [finishFields] at h
    cases hq : finishFields fs ss ds with
    | none =>
      rw [hq] at h
      split at h
      · cases h
      · cases s <;> cases h
    | some r' =>
      simp only [finishFieldsZero, finishFieldsZero_of_finishFields fs ss ds r' ht hq]
      clear hcl ht
      cases d with
      | false =>
        cases h0 rfl
        cases ho : f.opt <;> simp [ho, hq] at h
        exact h
      | true =>
        cases s with
        | some v => simp [hq] at h; exact h
        | none => cases ho : f.opt <;> simp [ho, hq] at h; exact h
  | [], [], _ :: _, _, _, h | [], _ :: _, _, _, _, h | _ :: _, [], _, _, _, h | _ :: _, _ :: _, [], _, _, h => by
    simp only [finishFields] at h; cases h

theorem SSt.finishZero_of_finish (fs : List Field) (st : SSt) (v : TL) (hc : st.clean)
    (h : st.finish fs = .ok v) : st.finishZero fs = .ok v := by
  unfold SSt.finish at h
  unfold SSt.finishZero
  split at h
  · next es hes =>
    rw [finishFieldsZero_of_finishFields fs st.slots st.done es (fun i hi => hc.2 i hi) hes]
    exact h
  · cases h

theorem fieldByKey_mono (e : Engine) (lvl : Level) (fs : List Field) (k : Bytes) (r : Nat × Field)
    (h : fieldByKey Engine.ideal lvl fs k = some r) : fieldByKey e lvl fs k = some r := by
  cases lvl
  · exact h
  · simp only [fieldByKey, ideal_renameFallback, Bool.false_eq_true, if_false] at h ⊢
    cases hq : findIdx (fun f => f.rename == k) fs with
    | none => simp [hq] at h
    | some r' => simpa [hq] using h

theorem memberByKey_mono (e : Engine) (lvl : Level) (ms : List Member) (k : Bytes) (m : Member)
    (h : memberByKey Engine.ideal lvl ms k = some m) : memberByKey e lvl ms k = some m := by
  cases lvl
  · exact h
  · simp only [memberByKey, ideal_discFallback, Bool.false_eq_true, if_false] at h ⊢
    cases hq : ms.find? (fun m => m.disc == k) with
    | none => simp [hq] at h
    | some r' => simpa [hq] using h

theorem mapAppend_fresh (acc : List (Bytes × TL)) (k : Bytes) (v : TL)
    (h : acc.any (fun p => p.1 == k) = false) : mapAppend acc k v = acc ++ [(k, v)] := by
  unfold mapAppend
  rw [List.any_eq_false] at h
  rw [List.map_congr_left (fun e he => if_neg (h e he)), List.map_id']

theorem builders_mono (e : Engine) (hn : e.MonoFlags) :
    (∀ d lvl ty nul v, build Engine.ideal lvl ty nul none d = .ok v → build e lvl ty nul none d = .ok v) ∧
    (∀ xs, (∀ lvl ety enul acc ys, buildList Engine.ideal lvl ety enul acc xs = .ok ys →
        buildList e lvl ety enul acc xs = .ok ys) ∧
      (∀ fs st i v, buildTuple Engine.ideal fs st i xs = .ok v → st.cleanFrom i → st.clean →
        buildTuple e fs st i xs = .ok v) ∧
      ∀ fs st v, buildPairs Engine.ideal fs st xs = .ok v → st.clean → buildPairs e fs st xs = .ok v) ∧
    ∀ es, (∀ lvl vty vnul acc ys, buildMap Engine.ideal lvl vty vnul acc es = .ok ys →
        buildMap e lvl vty vnul acc es = .ok ys) ∧
      (∀ lvl fs st v, buildStruct Engine.ideal lvl fs st es = .ok v → st.clean →
        buildStruct e lvl fs st es = .ok v) ∧
      ∀ lvl ms cur n v, buildUnion Engine.ideal lvl ms cur n es = .ok v → buildUnion e lvl ms cur n es = .ok v := by
  apply DM.builder_induct
  · intro lvl ty nul v h
    rw [build_null_off rfl] at h
    rw [build_null_off hn.knull]
    exact h
  · intro d hs hd lvl ty nul v h
    rw [build_of_isScalar hs hd] at h ⊢
    exact (scalars_mono e hn).1 ty lvl nul d v h
  · intro xs ⟨hl, ht, hp⟩ lvl ty nul v h
    rw [build_list_none] at h ⊢
    rw [dispatch_flag (e' := Engine.ideal) hn.nup]
    refine Outcome.bind_map_mono (fun r w hw => ?_) h
    unfold listBody at hw ⊢
    split at hw
    · simp only [Outcome.map_eq_ok] at hw ⊢
      obtain ⟨ys, hys, rfl⟩ := hw
      exact ⟨ys, hl _ _ _ _ ys hys, rfl⟩
    · split at hw
      · exact ht _ _ 0 w hw SSt.init_cleanFrom SSt.init_clean
      · exact hp _ _ w hw SSt.init_clean
      · cases hw
    · exact hw
    · cases hw
  · intro es ⟨hm, hs, hu⟩ lvl ty nul v h
    rw [build_map_none ideal_nodeOff] at h
    rw [build_map_none hn.node, dispatch_flag (e' := Engine.ideal) hn.nup]
    refine Outcome.bind_map_mono (fun r w hw => ?_) h
    unfold mapBody at hw ⊢
    split at hw
    · simp only [Outcome.map_eq_ok] at hw ⊢
      obtain ⟨ys, hys, rfl⟩ := hw
      exact ⟨ys, hm _ _ _ _ ys hys, rfl⟩
    · split at hw
      · exact hs _ _ _ w hw SSt.init_clean
      · exact hs _ _ _ w hw SSt.init_clean
      · cases hw
    · split at hw
      · exact hu _ _ _ _ w hw
      · exact hu _ _ _ _ w hw
      · cases hw
    · exact hw
    · cases hw
  · refine ⟨fun _ _ _ _ _ h => ?_, fun fs st i v h _ hc => ?_, fun _ _ _ h _ => ?_⟩
    · unfold buildList at h ⊢; exact h
    · rw [buildTuple_nil_off rfl] at h
      unfold buildTuple
      split
      · exact SSt.finishZero_of_finish fs st v hc h
      · exact h
    · unfold buildPairs at h ⊢; exact h
  · intro x xs hx hsub ⟨hl, ht, hp⟩
    refine ⟨fun lvl ety enul acc ys h => ?_, fun fs st i v h hcl hc => ?_, fun fs st v h hcl => ?_⟩
    · rw [buildList_ideal_cons, Outcome.bind_eq_ok] at h
      rw [buildList_cons_off hn.node, Outcome.bind_eq_ok]
      obtain ⟨w, hw, h⟩ := h
      exact ⟨w, hx lvl ety enul w hw, hl lvl ety enul _ ys h⟩
    · rw [buildTuple_cons_off ideal_nodeOff] at h
      rw [buildTuple_cons_off hn.node]
      split at h
      · cases h
      · next f hf =>
        rw [SSt.curOf_ideal, Outcome.bind_eq_ok] at h
        simp only [SSt.curOf_cleanFrom hcl, Outcome.bind_eq_ok]
        obtain ⟨tv, htv, h⟩ := h
        exact ⟨tv, hx .repr f.ty f.nullable tv htv,
          ht fs _ (i + 1) v h (SSt.cleanFrom_assign hcl) (SSt.clean_assign hc)⟩
    · rcases DM.pair_cases x with rfl | ⟨k, rfl⟩ | ⟨k, w, rest, rfl⟩ | hbad
      · simp [buildPairs] at h
      · simp [buildPairs] at h
      · rw [buildPairs_pair] at h ⊢
        split at h
        · simp at h
        · next i f hf =>
          split at h
          · cases h
          · next hdone =>
            simp only [ideal_dupStructField, Bool.not_false, Bool.and_true, Bool.not_eq_true] at hdone
            simp only [hdone, Bool.false_and, Bool.false_eq_true, if_false]
            rw [SSt.curOf_ideal, Outcome.bind_eq_ok] at h
            rw [SSt.curOf_clean hcl hdone, Outcome.bind_eq_ok]
            obtain ⟨tv, htv, h⟩ := h
            refine ⟨tv, hsub _ rfl w (by simp [DMs.toList]) .repr f.ty f.nullable tv htv, ?_⟩
            split at h
            · exact hp fs _ v h (SSt.clean_assign hcl)
            · cases h
      · rw [hbad] at h; cases h
  · refine ⟨fun _ _ _ _ _ h => ?_, fun _ _ _ _ h _ => ?_, fun _ _ _ _ _ h => ?_⟩
    · unfold buildMap at h ⊢; exact h
    · unfold buildStruct at h ⊢; exact h
    · unfold buildUnion at h ⊢; exact h
  · intro k x es hx ⟨hm, hs, hu⟩
    refine ⟨fun lvl vty vnul acc ys h => ?_, fun lvl fs st v h hcl => ?_, fun lvl ms cur n v h => ?_⟩
    · rw [buildMap_ideal_cons] at h
      rw [buildMap_cons_off hn.node]
      split at h
      · cases h
      · next hfresh =>
        rw [Bool.not_eq_true] at hfresh
        obtain ⟨w, hw, h⟩ := Outcome.bind_eq_ok.1 h
        simp only [hfresh, Bool.false_and, Bool.false_eq_true, if_false, Outcome.bind_eq_ok]
        refine ⟨w, hx lvl vty vnul w hw, ?_⟩
        simp only [mapAppend_fresh acc k w hfresh, ite_self]
        exact hm lvl vty vnul _ ys h
    · rw [buildStruct_cons_off ideal_nodeOff] at h
      rw [buildStruct_cons_off hn.node]
      split at h
      · cases h
      · next i f hf =>
        rw [fieldByKey_mono e lvl fs k _ hf]
        simp only []
        split at h
        · cases h
        · next hdone =>
          simp only [ideal_dupStructField, Bool.not_false, Bool.and_true, Bool.not_eq_true] at hdone
          simp only [hdone, Bool.false_and, Bool.false_eq_true, if_false]
          rw [SSt.curOf_ideal, Outcome.bind_eq_ok] at h
          rw [SSt.curOf_clean hcl hdone, Outcome.bind_eq_ok]
          obtain ⟨tv, htv, h⟩ := h
          exact ⟨tv, hx lvl f.ty f.nullable tv htv, hs lvl fs _ v h (SSt.clean_assign hcl)⟩
    · rw [buildUnion_cons] at h ⊢
      split at h
      · cases h
      · next hn1 =>
        simp only [ideal_unionMulti, Bool.not_false, Bool.and_true, Bool.not_eq_true] at hn1
        simp only [hn1, Bool.false_and, Bool.false_eq_true, if_false]
        split at h
        · cases h
        · next m hm' =>
          rw [Outcome.bind_eq_ok] at h
          obtain ⟨tv, htv, h⟩ := h
          simp only [memberByKey_mono e lvl ms k m hm', Outcome.bind_eq_ok]
          exact ⟨tv, hx lvl m.ty false tv htv, hu lvl ms _ _ v h⟩

theorem build_mono (e : Engine) (hn : e.MonoFlags) (lvl : Level) : (d : DM) →
    (ty : Ty) → (nul : Bool) → (v : TL) → build Engine.ideal lvl ty nul none d = .ok v →
    build e lvl ty nul none d = .ok v :=
  fun d => (builders_mono e hn).1 d lvl
theorem buildList_mono (e : Engine) (hn : e.MonoFlags) (lvl : Level) : (xs : DMs) →
    (ety : Ty) → (enul : Bool) → (acc ys : List TL) →
    buildList Engine.ideal lvl ety enul acc xs = .ok ys → buildList e lvl ety enul acc xs = .ok ys :=
  fun xs => ((builders_mono e hn).2.1 xs).1 lvl
theorem buildMap_mono (e : Engine) (hn : e.MonoFlags) (lvl : Level) : (es : DMKVs) →
    (vty : Ty) → (vnul : Bool) → (acc ys : List (Bytes × TL)) →
    buildMap Engine.ideal lvl vty vnul acc es = .ok ys → buildMap e lvl vty vnul acc es = .ok ys :=
  fun es => ((builders_mono e hn).2.2 es).1 lvl
theorem buildStruct_mono (e : Engine) (hn : e.MonoFlags) (lvl : Level) : (es : DMKVs) →
    (fs : List Field) → (st : SSt) → (v : TL) →
    buildStruct Engine.ideal lvl fs st es = .ok v → st.clean → buildStruct e lvl fs st es = .ok v :=
  fun es => ((builders_mono e hn).2.2 es).2.1 lvl
theorem buildTuple_mono (e : Engine) (hn : e.MonoFlags) : (xs : DMs) →
    (fs : List Field) → (st : SSt) → (i : Nat) → (v : TL) →
    buildTuple Engine.ideal fs st i xs = .ok v → st.cleanFrom i → st.clean → buildTuple e fs st i xs = .ok v :=
  fun xs => ((builders_mono e hn).2.1 xs).2.1
theorem buildPairs_mono (e : Engine) (hn : e.MonoFlags) : (xs : DMs) →
    (fs : List Field) → (st : SSt) → (v : TL) →
    buildPairs Engine.ideal fs st xs = .ok v → st.clean → buildPairs e fs st xs = .ok v :=
  fun xs => ((builders_mono e hn).2.1 xs).2.2
theorem buildUnion_mono (e : Engine) (hn : e.MonoFlags) (lvl : Level) : (es : DMKVs) →
    (ms : List Member) → (cur : Option TL) → (n : Nat) → (v : TL) →
    buildUnion Engine.ideal lvl ms cur n es = .ok v → buildUnion e lvl ms cur n es = .ok v :=
  fun es => ((builders_mono e hn).2.2 es).2.2 lvl

end Schema
end Ipld

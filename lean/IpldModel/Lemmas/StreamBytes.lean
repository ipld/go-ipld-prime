/-
  One call on a view, seen from that view: `viewOp` gives the new shared stream, the view's new offset and the
  answer; `step` only stores them.  The answer and the offset depend on the content and the view's own offset alone.
-/
import IpldModel.Model.StreamBytes
namespace Ipld.StreamBytes

theorem setAt_eq_set (l : List Nat) (i v : Nat) : setAt l i v = l.set i v := by
  induction l generalizing i with
  | nil => rfl
  | cons h t ih => cases i <;> simp [setAt, ih]

theorem setAt_length (l : List Nat) (i v : Nat) : (setAt l i v).length = l.length := by
  rw [setAt_eq_set, List.length_set]

theorem setAt_get_eq {l : List Nat} {i a v : Nat} (h : l[i]? = some a) : (setAt l i v)[i]? = some v := by
  rw [setAt_eq_set, List.getElem?_set_self (List.getElem?_eq_some_iff.mp h).1]

/-- what `op` does for a view at offset `off`: the shared stream afterwards, the view's new offset, the answer -/
def viewOp (sh : Shared) (off : Nat) : Op → Shared × Nat × Out
  | .read n => viewRead sh off n
  | .seek d w => viewSeek sh off d w
  | .asBytes => ((asBytes sh).1, off, .bytes (asBytes sh).2 false)

theorem step_of_view {s : St} {i off : Nat} (h : s.views[i]? = some off) (op : Op) :
    step s i op = ({ sh := (viewOp s.sh off op).1, views := setAt s.views i (viewOp s.sh off op).2.1 },
      (viewOp s.sh off op).2.2) := by
  unfold step
  rw [h]
  cases op with
  | read n => rfl
  | seek d w => rfl
  | asBytes =>
    obtain ⟨hi, rfl⟩ := List.getElem?_eq_some_iff.mp h
    simp only [viewOp, setAt_eq_set, List.set_getElem_self]

theorem step_of_no_view {s : St} {i : Nat} (h : s.views[i]? = none) (op : Op) : step s i op = (s, .err) := by
  unfold step
  rw [h]

theorem viewOp_content (sh : Shared) (off : Nat) (op : Op) : (viewOp sh off op).1.content = sh.content := by
  cases op with
  | read n => rfl
  | seek d w => cases w <;> simp only [viewOp, viewSeek] <;> (try split) <;> rfl
  | asBytes => rfl

/-- the cursor of the shared stream has no influence on the new offset and the answer -/
theorem viewOp_of_content {sh sh' : Shared} (hc : sh.content = sh'.content) (off : Nat) (op : Op) :
    (viewOp sh off op).2 = (viewOp sh' off op).2 := by
  cases op with
  | read n => simp only [viewOp, viewRead, hc]
  | seek d w => cases w <;> simp only [viewOp, viewSeek, hc] <;> split <;> rfl
  | asBytes => simp only [viewOp, asBytes, hc]

theorem step_content (s : St) (i : Nat) (op : Op) : (step s i op).1.sh.content = s.sh.content := by
  cases hv : s.views[i]? with
  | none => rw [step_of_no_view hv]
  | some off => rw [step_of_view hv]; exact viewOp_content ..

theorem step_other_view (s : St) (i j : Nat) (op : Op) (h : j ≠ i) : (step s j op).1.views[i]? = s.views[i]? := by
  cases hv : s.views[j]? with
  | none => rw [step_of_no_view hv]
  | some off => rw [step_of_view hv]; show (setAt _ _ _)[i]? = _; rw [setAt_eq_set, List.getElem?_set_ne h]

theorem step_asBytes_views (s : St) (j : Nat) : (step s j .asBytes).1.views = s.views := by
  unfold step
  cases hv : s.views[j]? <;> rfl

/-- The answer of a step, and the new offset of the stepping view, depend only on the content and on that view's
    own offset — never on the shared cursor or on other views. -/
theorem step_depends_on_own (s t : St) (i : Nat) (op : Op)
    (hc : s.sh.content = t.sh.content) (hv : s.views[i]? = t.views[i]?) :
    (step s i op).2 = (step t i op).2 ∧ (step s i op).1.views[i]? = (step t i op).1.views[i]? := by
  cases hs : s.views[i]? with
  | none => rw [step_of_no_view hs, step_of_no_view (hv ▸ hs)]; exact ⟨rfl, hv⟩
  | some off =>
    have ht := hv ▸ hs
    rw [step_of_view hs, step_of_view ht, viewOp_of_content hc, setAt_get_eq hs, setAt_get_eq ht]
    exact ⟨rfl, rfl⟩

end Ipld.StreamBytes

/-
  Plans (`Ipld.Asm.Plan`, `PlanList`, `PlanKVs`): the call sequences that, by the contract, build a given value, and the
  canonical plan `planOf` as one of them.  Over the model alone; that plans run is in Lemmas/AsmPlan.lean.
-/
import IpldModel.Model.Assembler
namespace Ipld
namespace Asm

mutual
/-- `Plan d ops`: `ops` is a call sequence that, by the contract, builds `d`.  Size hints are
    arbitrary, any subtree may instead be handed over whole with `AssignNode`, and every map entry
    may be opened either with `AssembleEntry k` or with `AssembleKey`, a string assignment to the key
    assembler (`AssignString` or `AssignNode` of a string node), `AssembleValue`. -/
inductive Plan : DM → List Op → Prop
  | scalar (d : DM) : isScalar d = true → Plan d [.assign d]
  | node (d : DM) : Plan d [.assignNode d]
  | list (n : Int) (xs : DMs) (ops : List Op) :
      PlanList xs ops → Plan (.list xs) (.beginList n :: (ops ++ [.finish]))
  | map (n : Int) (es : DMKVs) (ops : List Op) :
      PlanKVs es ops → Plan (.map es) (.beginMap n :: (ops ++ [.finish]))
inductive PlanList : DMs → List Op → Prop
  | nil : PlanList .nil []
  | cons (x : DM) (xs : DMs) (o1 o2 : List Op) :
      Plan x o1 → PlanList xs o2 → PlanList (.cons x xs) (.assembleValue :: (o1 ++ o2))
inductive PlanKVs : DMKVs → List Op → Prop
  | nil : PlanKVs .nil []
  | entry (k : Bytes) (v : DM) (es : DMKVs) (o1 o2 : List Op) :
      Plan v o1 → PlanKVs es o2 → PlanKVs (.cons k v es) (.assembleEntry k :: (o1 ++ o2))
  | keyAssign (k : Bytes) (v : DM) (es : DMKVs) (o1 o2 : List Op) :
      Plan v o1 → PlanKVs es o2 →
      PlanKVs (.cons k v es) (.assembleKey :: .assign (.str k) :: .assembleValue :: (o1 ++ o2))
  | keyNode (k : Bytes) (v : DM) (es : DMKVs) (o1 o2 : List Op) :
      Plan v o1 → PlanKVs es o2 →
      PlanKVs (.cons k v es) (.assembleKey :: .assignNode (.str k) :: .assembleValue :: (o1 ++ o2))
end

mutual
theorem plan_planOf : (d : DM) → Plan d (planOf d)
  | .null => Plan.scalar _ rfl
  | .bool _ => Plan.scalar _ rfl
  | .int _ => Plan.scalar _ rfl
  | .float _ => Plan.scalar _ rfl
  | .str _ => Plan.scalar _ rfl
  | .bytes _ => Plan.scalar _ rfl
  | .link _ => Plan.scalar _ rfl
  | .list xs => Plan.list _ xs _ (planList_planList xs)
  | .map es => Plan.map _ es _ (planKVs_planKVs es)
theorem planList_planList : (xs : DMs) → PlanList xs (planList xs)
  | .nil => PlanList.nil
  | .cons x xs => PlanList.cons x xs _ _ (plan_planOf x) (planList_planList xs)
theorem planKVs_planKVs : (es : DMKVs) → PlanKVs es (planKVs es)
  | .nil => PlanKVs.nil
  | .cons k v es => PlanKVs.entry k v es _ _ (plan_planOf v) (planKVs_planKVs es)
end

theorem Plan.induct {P : DM → List Op → Prop} {Q : DMs → List Op → Prop} {R : DMKVs → List Op → Prop}
    (scalar : ∀ d, isScalar d = true → P d [.assign d]) (node : ∀ d, P d [.assignNode d])
    (list : ∀ n xs ops, Q xs ops → P (.list xs) (.beginList n :: (ops ++ [.finish])))
    (map : ∀ n es ops, R es ops → P (.map es) (.beginMap n :: (ops ++ [.finish])))
    (nil : Q .nil [])
    (cons : ∀ x xs o1 o2, P x o1 → Q xs o2 → Q (.cons x xs) (.assembleValue :: (o1 ++ o2)))
    (mnil : R .nil [])
    (entry : ∀ k v es o1 o2, P v o1 → R es o2 → R (.cons k v es) (.assembleEntry k :: (o1 ++ o2)))
    (keyAssign : ∀ k v es o1 o2, P v o1 → R es o2 →
      R (.cons k v es) (.assembleKey :: .assign (.str k) :: .assembleValue :: (o1 ++ o2)))
    (keyNode : ∀ k v es o1 o2, P v o1 → R es o2 →
      R (.cons k v es) (.assembleKey :: .assignNode (.str k) :: .assembleValue :: (o1 ++ o2))) :
    (∀ d ops, Plan d ops → P d ops) ∧ (∀ xs ops, PlanList xs ops → Q xs ops) ∧
      ∀ es ops, PlanKVs es ops → R es ops := by
  -- the recursors hand each case its premises as well
  have list n xs ops (_ : PlanList xs ops) := list n xs ops
  have map n es ops (_ : PlanKVs es ops) := map n es ops
  have cons x xs o1 o2 (_ : Plan x o1) (_ : PlanList xs o2) := cons x xs o1 o2
  have entry k v es o1 o2 (_ : Plan v o1) (_ : PlanKVs es o2) := entry k v es o1 o2
  have keyAssign k v es o1 o2 (_ : Plan v o1) (_ : PlanKVs es o2) := keyAssign k v es o1 o2
  have keyNode k v es o1 o2 (_ : Plan v o1) (_ : PlanKVs es o2) := keyNode k v es o1 o2
  exact ⟨fun _ _ h => Plan.rec (motive_1 := fun d ops _ => P d ops) (motive_2 := fun xs ops _ => Q xs ops)
      (motive_3 := fun es ops _ => R es ops) scalar node list map nil cons mnil entry keyAssign keyNode h,
    fun _ _ h => PlanList.rec (motive_1 := fun d ops _ => P d ops) (motive_2 := fun xs ops _ => Q xs ops)
      (motive_3 := fun es ops _ => R es ops) scalar node list map nil cons mnil entry keyAssign keyNode h,
    fun _ _ h => PlanKVs.rec (motive_1 := fun d ops _ => P d ops) (motive_2 := fun xs ops _ => Q xs ops)
      (motive_3 := fun es ops _ => R es ops) scalar node list map nil cons mnil entry keyAssign keyNode h⟩

end Asm
end Ipld

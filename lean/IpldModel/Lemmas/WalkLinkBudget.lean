/-
  Link budget: the walk with link budget `N` is the walk without one, cut right before the first refused load.
-/
import IpldModel.Lemmas.WalkCut
namespace Ipld
namespace Walk
open Sel

def loadCount (es : List Event) : Nat := (loadsOf es).length

@[simp] theorem loadCount_nil : loadCount [] = 0 := rfl
@[simp] theorem loadCount_visit (p : Path) (m : DM) (r : Reason) (es : List Event) :
    loadCount (.visit p m r :: es) = loadCount es := by simp [loadCount, loadsOf]
@[simp] theorem loadCount_load (c : Bytes) (es : List Event) :
    loadCount (.load c :: es) = loadCount es + 1 := by simp [loadCount, loadsOf]
@[simp] theorem loadCount_append (a b : List Event) : loadCount (a ++ b) = loadCount a + loadCount b := by
  simp [loadCount, loadsOf]

def dropLinkBudget (st : St) : St := { st with linkBudget := none }

theorem linkStep_dropLinkBudget (cfg : Cfg) (c : Bytes) (st : St) :
    ((linkStep cfg c st).2 = .error .budgetLink ∧ (linkStep cfg c st).1.events = st.events ∧
      (linkStep cfg c (dropLinkBudget st)).1.events = .load c :: st.events) ∨
    ((linkStep cfg c st).2 ≠ .error .budgetLink ∧
      linkStep cfg c (dropLinkBudget st) = (dropLinkBudget (linkStep cfg c st).1, (linkStep cfg c st).2)) := by
  have hm : markSeen cfg c (dropLinkBudget st) = dropLinkBudget (markSeen cfg c st) := by unfold markSeen; split <;> rfl
  have he : (markSeen cfg c st).events = st.events := by unfold markSeen; split <;> rfl
  have hf : fetch cfg c ≠ .error .budgetLink := fun h => nomatch fetch_error h
  rw [linkStep_eq, linkStep_eq cfg c (dropLinkBudget st)]
  by_cases h1 : (cfg.linkOnce && st.seen.contains c) = true
  · rw [if_pos h1, if_pos (show (cfg.linkOnce && (dropLinkBudget st).seen.contains c) = true from h1)]
    exact .inr ⟨nofun, rfl⟩
  · rw [if_neg h1, if_neg (show ¬ (cfg.linkOnce && (dropLinkBudget st).seen.contains c) = true from h1), hm]
    generalize markSeen cfg c st = st1 at he
    have hU : checkLink (dropLinkBudget st1) = .ok (dropLinkBudget st1) := rfl
    rw [hU]
    rcases checkLink_cases st1 with ⟨_, hR⟩ | ⟨_, hR⟩ <;> rw [hR]
    · exact .inl ⟨rfl, he, by rw [← he]; rfl⟩
    · exact .inr ⟨hf, rfl⟩

def linkControl (cfg : Cfg) : Control cfg where
  free := dropLinkBudget
  err := .budgetLink
  Next extra _ := ∃ e c, extra = e ++ [.load c]
  err_budget := .inr rfl
  next_more _ more _ := fun ⟨e, c, h⟩ => ⟨more ++ e, c, (by rw [h, List.append_assoc])⟩
  free_visit past path n s st := by unfold visitSt; split <;> rfl
  node st := .inr ⟨fun h => (nomatch checkNode_error h), by
    obtain ⟨nb, lb, seen, ev⟩ := st
    cases nb with
    | none => rfl
    | some b => simp only [checkNode, dropLinkBudget]; split <;> rfl⟩
  node_refused _ _ _ _ _ _ h := nomatch checkNode_error h
  link c st := (linkStep_dropLinkBudget cfg c st).imp (fun ⟨h1, h2, h3⟩ => ⟨h1, h2, h3, fun more _ => ⟨more, c, rfl⟩⟩) id

/-- A run from `st` (link budget `b`) that ended as `r` logged `new`: one unit per load, nothing else. -/
structure LoadedBy (st : St) (r : WR) (b : Int) (new : List Event) : Prop where
  log : r.1.events = new ++ st.events
  left : r.1.linkBudget = some (b - loadCount new)
  within : (loadCount new : Int) ≤ b
  refused : r.2 = .error .budgetLink → (loadCount new : Int) = b

def Loaded (st : St) (r : WR) : Prop :=
  ∀ b, st.linkBudget = some b → 0 ≤ b → ∃ new, LoadedBy st r b new

theorem linkStep_loaded (cfg : Cfg) (c : Bytes) (st : St) :
    Loaded st ((linkStep cfg c st).1, (linkStep cfg c st).2.map fun _ => ()) := by
  intro b hb h0
  rcases linkStep_cases cfg c st with ⟨_, h⟩ | ⟨_, ⟨⟨b', hb', hle⟩, h⟩ | ⟨hpos, h⟩⟩ <;> rw [h]
  · exact ⟨[], rfl, by rw [hb, loadCount_nil, Int.natCast_zero, Int.sub_zero], Int.natCast_zero ▸ h0, nofun⟩
  · cases hb.symm.trans hb'
    exact ⟨[], rfl, by rw [hb, loadCount_nil, Int.natCast_zero, Int.sub_zero], Int.natCast_zero ▸ h0,
      fun _ => by rw [loadCount_nil, Int.natCast_zero]; exact Int.le_antisymm h0 hle⟩
  · have hpos : (1 : Int) ≤ b := hpos b hb
    refine ⟨[.load c], rfl, by rw [hb]; rfl, hpos, fun h => ?_⟩
    cases hf : fetch cfg c with
    | error e => cases fetch_error hf; rw [hf] at h; cases h
    | ok o => rw [hf] at h; cases h

theorem loaded_all (cfg : Cfg) : ∀ fuel, WalkEach cfg Loaded fuel := by
  have still : ∀ {st st' : St} {r} new, st'.linkBudget = st.linkBudget → st'.events = new ++ st.events →
      loadCount new = 0 → r ≠ .error .budgetLink → Loaded st (st', r) :=
    fun new hb he hv h1 b hb0 h0 => ⟨new, he, by rw [hb, hb0, hv, Int.natCast_zero, Int.sub_zero],
      by rw [hv, Int.natCast_zero]; exact h0, (absurd · h1)⟩
  refine walk_post cfg Loaded ?_ ?_ ?_ (linkStep_loaded cfg)
  · intro st r hr
    exact still [] rfl rfl rfl (by rintro rfl; cases hr)
  · intro a m r h1 h2 b hb h0
    obtain ⟨new1, he1, hb1, hk1, _⟩ := h1 b hb h0
    obtain ⟨new2, he2, hb2, hk2, hr2⟩ := h2 _ hb1 (Int.sub_nonneg_of_le hk1)
    exact ⟨new2 ++ new1, by rw [he2, he1, List.append_assoc],
      by rw [hb2, loadCount_append, Int.natCast_add, Int.sub_sub, Int.add_comm],
      by rw [loadCount_append, Int.natCast_add]; exact Int.add_le_of_le_sub_right hk2,
      fun h => by rw [loadCount_append, Int.natCast_add, hr2 h, Int.sub_add_cancel]⟩
  · intro past path n s st
    unfold enterNode
    cases hck : checkNode st with
    | error e => exact still [] rfl rfl rfl (by cases checkNode_error hck; nofun)
    | ok st1 =>
      have hb1 : st1.linkBudget = st.linkBudget := by rw [checkNode_ok hck]
      have he1 := checkNode_events hck
      dsimp only
      split
      · exact still [] hb1 he1 rfl nofun
      · obtain ⟨m, r, hv⟩ := visitEvent_is_visit path n s
        unfold visitSt; split
        · exact still [] hb1 he1 rfl nofun
        · exact still [visitEvent path n s] hb1 (by rw [he1]; rfl) (by simp [hv]) nofun

theorem walk_linkBudget_cases (cfg : Cfg) (fuel : Nat) (N : Int) (hN : 0 ≤ N)
    (nb : Option Int) (root : DM) (s : S) :
    let U := walk cfg fuel nb none root s
    let R := walk cfg fuel nb (some N) root s
    (loadsOf R.events).length ≤ N.toNat ∧
    ((R.outcome = .error .budgetLink ∧ (loadsOf R.events).length = N.toNat ∧
        ∃ c rest, U.events = R.events ++ .load c :: rest)
     ∨ (R.outcome ≠ .error .budgetLink ∧ R.events = U.events ∧ R.outcome = U.outcome)) := by
  have hc := (((linkControl cfg).cut_all fuel).1 false [] root s { nodeBudget := nb, linkBudget := some N }).chrono
  obtain ⟨new, he, _, hk, hr⟩ :=
    (loaded_all cfg fuel).1 false [] root s { nodeBudget := nb, linkBudget := some N } N rfl hN
  dsimp only
  rw [walk_events, walk_events, walk_outcome, walk_outcome]
  rw [List.append_nil] at he
  have hlen : ∀ es, es = new → (loadsOf es.reverse).length = loadCount new := fun es h => by
    rw [loadsOf_reverse, List.length_reverse, h]; rfl
  rw [hlen _ he]
  refine ⟨(Int.le_toNat hN).2 hk, ?_⟩
  rcases hc with ⟨h1, rest, h2, e, c, h3⟩ | ⟨h1, h2⟩
  · have h4 : rest = .load c :: e.reverse := by rw [← List.reverse_reverse rest, h3]; simp
    exact .inl ⟨h1, by rw [← hr h1, Int.toNat_natCast], c, e.reverse, h4 ▸ h2⟩
  · exact .inr ⟨h1, (congrArg (·.1.events.reverse) h2).symm, (congrArg (·.2) h2).symm⟩

end Walk
end Ipld

/-
  The walk's visit sequence against the spec, as a whole: sorted by document order (`DocBefore`) and without
  repetition (`walk_visits_sorted`, `walk_visits_nodup`); `SegsNodup` for the selectors that explore everything
  (to a depth); and the data of C07's examples (`Ex.root_noDup`, `Ex.store_noDup` serve C16walk's too).  Uniqueness and the
  per-selector statements are in Props/C07.
-/
import IpldModel.Lemmas.WalkDenote
import IpldModel.Lemmas.DenoteOrder
import IpldModel.Lemmas.WalkComplete
namespace Ipld
namespace Walk
open Sel Spec

theorem segsNodup_all {s : S} (hs : ExploresAll s) {store : Store} (hstore : StoreNoDup store) {root : DM}
    (hroot : root.NoDup) : SegsNodup store s root :=
  segsNodup_of hstore hroot fun q n s' h l hl => by
    rw [selectorAt_all_sel hs h, hs.noInterests] at hl; cases hl

theorem segsNodup_recAll (d : Int) {store : Store} (hstore : StoreNoDup store) {root : DM}
    (hroot : root.NoDup) : SegsNodup store (recAll d) root :=
  segsNodup_of hstore hroot fun q n s' h l hl => by
    obtain ⟨d', rfl⟩ := selectorAt_recAll_sel h
    rw [interests_recAll] at hl; cases hl

section
variable (cfg : Cfg) (hu : Unrestricted cfg) (hstore : StoreNoDup cfg.store) (root : DM) (hroot : root.NoDup)
  (s : S) (fuel : Nat) (hok : (walk cfg fuel none none root s).outcome = .ok ())
include hu hstore hroot hok

theorem walk_visits_sorted :
    ((visitsOf (walk cfg fuel none none root s).events).map (·.1)).Pairwise (DocBefore cfg.store s root) := by
  rw [walk_visits_eq_denote hu hstore hroot hok fuel (Nat.le_refl _)]
  exact denote_sorted _ _ _ _

theorem walk_visits_nodup (hnd : SegsNodup cfg.store s root) :
    ((visitsOf (walk cfg fuel none none root s).events).map (·.1)).Nodup :=
  List.Pairwise.imp (fun {a b} hab => by rintro rfl; exact docBefore_irrefl hnd a hab)
    (walk_visits_sorted cfg hu hstore root hroot s fuel hok)

end

namespace Ex

theorem unrestricted : Unrestricted Ex.cfg := ⟨rfl, rfl, rfl⟩

theorem root_noDup : Ex.root.NoDup := by
  simp [Ex.root, DM.NoDup, DMKVs.NoDupVals, DMs.NoDup, DMKVs.keys, DMKVs.toList]

theorem store_noDup : StoreNoDup Ex.cfg.store := by
  intro c blk h
  simp only [Ex.cfg, storeGet, List.find?_cons, List.find?_nil] at h
  split at h
  · cases h; simp [Ex.blk, DM.NoDup, DMKVs.NoDupVals, DMKVs.keys, DMKVs.toList]
  · cases h

/-- a map with the key `"a"` twice: `{"a": 1, "a": [2]}` (no codec or builder produces one) -/
def rootDup : DM := .map (.cons [0x61] (.int 1) (.cons [0x61] (.list (.cons (.int 2) .nil)) .nil))

def store2 : Store := [([1], .link [2]), ([2], .int 5)]
/-- `{"l": <link [1]>}` -/
def root2 : DM := .map (.cons [0x6c] (.link [1]) .nil)

/-- fields `"l"` and `"z"`, both with a plain matcher -/
def fsEx : SFields := .cons [0x6c] (.matcher none) (.cons [0x7a] (.matcher none) .nil)

theorem fsEx_matchers : AllMatchers fsEx := by
  intro e he
  simp only [fsEx, SFields.toList, List.mem_cons, List.not_mem_nil, or_false] at he
  rcases he with rfl | rfl <;> exact ⟨none, rfl⟩

end Ex

end Walk
end Ipld

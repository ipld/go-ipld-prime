/-
  A look-ahead of the DAG-JSON decoder matches the coming tokens against a fixed pattern: `scan`.  `unTok`'s
  peeks (`peekScan`) and the window's `ensure`/test chain (`Win.scan`) are `scan`, for every pattern.
-/
import IpldModel.Model.JsonTok
import IpldModel.Lemmas.ExceptBind
namespace Ipld
namespace Json

/-- What a look-ahead expects at one place: this very token, or any string (which it keeps). -/
inductive Pat where
  | lit (t : JTok)
  | str

/-- `"/" <string> }` -/
def linkPat : List Pat := [.lit (.str slash), .str, .lit .mapClose]

/-- `"/" { "bytes" <string> } }` -/
def bytesPat : List Pat :=
  [.lit (.str slash), .lit .mapOpen, .lit (.str bytesWord), .str, .lit .mapClose, .lit .mapClose]

/-- `eof` where the tokens end first, `miss n` where the `n`th token looked at is not the expected one, `fin s`
    (`s` the string kept) where all match. -/
def scan {α : Type} (eof : α) (miss : Nat → α) (fin : Bytes → α) : List Pat → Nat → Bytes → List JTok → α
  | [], _, s, _ => fin s
  | _ :: _, _, _, [] => eof
  | .lit c :: ps, i, s, t :: r => if t = c then scan eof miss fin ps (i + 1) s r else miss (i + 1)
  | .str :: ps, i, _, .str s' :: r => scan eof miss fin ps (i + 1) s' r
  | .str :: _, i, _, _ :: _ => miss (i + 1)

theorem scan_map {α β : Type} (f : α → β) (eof : α) (miss : Nat → α) (fin : Bytes → α) :
    ∀ (ps : List Pat) (i : Nat) (s : Bytes) (toks : List JTok),
    f (scan eof miss fin ps i s toks) = scan (f eof) (fun n => f (miss n)) (fun s => f (fin s)) ps i s toks
  | [], _, _, _ => rfl
  | p :: _, _, _, [] => by cases p <;> rfl
  | .lit c :: ps, i, s, t :: r => by
    rw [scan, scan]
    split
    · exact scan_map f eof miss fin ps (i + 1) s r
    · rfl
  | .str :: ps, i, s, t :: r => by
    cases t <;> first | rfl | exact scan_map f eof miss fin ps (i + 1) _ r

/-! Both mechanisms reach the tokens by index; `scan` meets them at `toks.drop i`. -/

theorem drop_of_getElem?_none {α : Type} {l : List α} {i : Nat} (h : l[i]? = none) : l.drop i = [] :=
  List.drop_eq_nil_of_le (List.getElem?_eq_none_iff.mp h)

theorem drop_of_getElem?_some {α : Type} {l : List α} {i : Nat} {a : α} (h : l[i]? = some a) :
    l.drop i = a :: l.drop (i + 1) := by
  obtain ⟨hi, rfl⟩ := List.getElem?_eq_some_iff.mp h
  exact List.drop_eq_getElem_cons hi

/-- `unTok`'s local `peek` -/
def peekAt (rest : List JTok) (i : Nat) : JR JTok :=
  match rest[i]? with
  | some t => .ok t
  | none => .error .eof

/-- `unTok`'s two chains of peeks are this by unfolding (`unTok_mapOpen`). -/
def peekScan {α : Type} (rest : List JTok) (X : JR α) (K : Bytes → JR α) : List Pat → Nat → Bytes → JR α
  | [], _, s => K s
  | .lit c :: ps, i, s => do
    let t ← peekAt rest i
    if t ≠ c then X else peekScan rest X K ps (i + 1) s
  | .str :: ps, i, _ => do
    let t ← peekAt rest i
    match t with
    | .str s' => peekScan rest X K ps (i + 1) s'
    | _ => X

theorem peekScan_eq {α : Type} (rest : List JTok) (X : JR α) (K : Bytes → JR α) :
    ∀ (ps : List Pat) (i : Nat) (s : Bytes),
    peekScan rest X K ps i s = scan (.error .eof) (fun _ => X) K ps i s (rest.drop i)
  | [], _, _ => rfl
  | .lit c :: ps, i, s => by
    unfold peekScan peekAt
    cases h : rest[i]? with
    | none => rw [drop_of_getElem?_none h]; rfl
    | some t =>
      rw [drop_of_getElem?_some h, scan]
      show (if t ≠ c then X else _) = _
      rw [peekScan_eq rest X K ps (i + 1) s]
      exact ite_not _ _ _
  | .str :: ps, i, s => by
    unfold peekScan peekAt
    cases h : rest[i]? with
    | none => rw [drop_of_getElem?_none h]; rfl
    | some t =>
      rw [drop_of_getElem?_some h]
      cases t <;> first | rfl | exact peekScan_eq rest X K ps (i + 1) _

def Win.at (toks : List JTok) (m : Nat) : Win := ⟨toks.take m, toks.drop m⟩

theorem Win.at_self (w : Win) : Win.at (w.buf ++ w.src) w.buf.length = w := by
  cases w; simp [Win.at]

theorem Win.ensure_at_max (toks : List JTok) (m i : Nat) (hl : i ≤ toks.length) :
    (Win.at toks (max m i)).ensure (i + 1) =
      match toks[i]? with
      | some _ => .ok (Win.at toks (max m (i + 1)))
      | none => .error .eof := by
  -- on a window of `M ≥ i` tokens: it holds token `i` already (`i < M`), or loads it (`i = M`), or there is none
  have hm := Nat.le_max_right m i
  rw [show max m (i + 1) = max (max m i) (i + 1) by rw [Nat.max_assoc, Nat.max_eq_right (Nat.le_succ i)]]
  generalize max m i = M at hm ⊢
  unfold Win.ensure Win.at
  simp only [List.length_take]
  rcases Nat.lt_or_ge i toks.length with h3 | h3
  · rw [List.getElem?_eq_getElem h3]
    rcases Nat.lt_or_eq_of_le hm with hmi | rfl
    · rw [if_pos (Nat.le_min.mpr ⟨hmi, h3⟩), Nat.max_eq_left hmi]
    · rw [Nat.min_eq_left hl, if_neg (Nat.not_succ_le_self i), if_pos rfl, Nat.max_eq_right (Nat.le_succ i),
        List.drop_eq_getElem_cons h3, List.take_add_one, List.getElem?_eq_getElem h3]
      rfl
  · have : toks.length = i := Nat.le_antisymm h3 hl
    subst this
    rw [List.getElem?_eq_none (Nat.le_refl _), Nat.min_eq_right hm, if_neg (Nat.not_succ_le_self _), if_pos rfl,
      List.drop_eq_nil_of_le hm]

theorem Win.at_buf (toks : List JTok) (m i : Nat) : (Win.at toks (max m (i + 1))).buf[i]? = toks[i]? := by
  simp only [Win.at, List.getElem?_take]; rw [if_pos (by omega)]

/-- The three tokens the code expects are tested the way the code tests them, so that each look-ahead is this
    by unfolding (`linkLookahead_eq`, `bytesLookahead_eq`); `Win.scan_lit` reads the three tests as one. -/
def Win.scan (K : Bytes → Win → JR Look) : List Pat → Nat → Bytes → Win → JR Look
  | [], _, s, w => K s w
  | .str :: ps, i, _, w => do
    let w : Win ← w.ensure (i + 1)
    match (w.buf[i]? : Option JTok) with
    | some (.str s') => Win.scan K ps (i + 1) s' w
    | _ => pure (.notIt w)
  | .lit (.str c) :: ps, i, s, w => do
    let w : Win ← w.ensure (i + 1)
    match (w.buf[i]? : Option JTok) with
    | some (.str k) => if k ≠ c then pure (.notIt w) else Win.scan K ps (i + 1) s w
    | _ => pure (.notIt w)
  | .lit .mapOpen :: ps, i, s, w => do
    let w : Win ← w.ensure (i + 1)
    match (w.buf[i]? : Option JTok) with
    | some .mapOpen => Win.scan K ps (i + 1) s w
    | _ => pure (.notIt w)
  | .lit .mapClose :: ps, i, s, w => do
    let w : Win ← w.ensure (i + 1)
    match (w.buf[i]? : Option JTok) with
    | some .mapClose => Win.scan K ps (i + 1) s w
    | _ => pure (.notIt w)
  | .lit c :: ps, i, s, w => do
    let w : Win ← w.ensure (i + 1)
    if w.buf[i]? = some c then Win.scan K ps (i + 1) s w else pure (.notIt w)

/-- what the link look-ahead does once its pattern has matched: the window is dropped (`st.shift = 0`) -/
def linkEnd (s : Bytes) (w : Win) : JR Look :=
  match cidParse s with
  | some c => pure (.got (.link c) { w with buf := [] })
  | none => .error .badCid

def bytesEnd (s : Bytes) (w : Win) : JR Look :=
  match decodeB64 s with
  | some b => pure (.got (.bytes b) { w with buf := [] })
  | none => .error .badBase64

theorem linkLookahead_eq (w : Win) : w.linkLookahead = Win.scan linkEnd linkPat 0 [] w := rfl

theorem bytesLookahead_eq (w : Win) : w.bytesLookahead = Win.scan bytesEnd bytesPat 0 [] w := rfl

theorem Win.scan_lit (K : Bytes → Win → JR Look) (c : JTok) (ps : List Pat) (i : Nat) (s : Bytes) (w : Win) :
    Win.scan K (.lit c :: ps) i s w = w.ensure (i + 1) >>= fun w =>
      if w.buf[i]? = some c then Win.scan K ps (i + 1) s w else pure (.notIt w) := by
  cases c <;> try rfl
  all_goals
    rw [Win.scan]
    refine congrArg (bind _) (funext fun w => ?_)
    rcases w.buf[i]? with _ | t
    · rfl
    cases t <;> try rfl
  rename_i c k
  show (if k ≠ c then _ else _) = if some (JTok.str k) = some (JTok.str c) then _ else _
  by_cases h : k = c
  · rw [if_neg (not_not_intro h), if_pos (by rw [h])]
  · rw [if_pos h, if_neg (fun e => h (JTok.str.inj (Option.some.inj e)))]

/-- The window holds the first `m` tokens and at least the `i` matched so far; it grows to the tokens looked at. -/
theorem Win.scan_at (K : Bytes → Win → JR Look) (toks : List JTok) (m N : Nat) :
    ∀ (ps : List Pat) (i : Nat) (s : Bytes), i ≤ toks.length → i + ps.length = N →
    Win.scan K ps i s (Win.at toks (max m i)) =
      Json.scan (.error .eof) (fun n => .ok (.notIt (Win.at toks (max m n))))
        (fun s => K s (Win.at toks (max m N))) ps i s (toks.drop i)
  | [], i, s, _, hN => by rw [← hN]; rfl
  | .lit c :: ps, i, s, hi, hN => by
    rw [Win.scan_lit, Win.ensure_at_max toks m i hi]
    cases h : toks[i]? with
    | none => rw [drop_of_getElem?_none h]; rfl
    | some t =>
      have hi' : i + 1 ≤ toks.length := (List.getElem?_eq_some_iff.mp h).1
      dsimp only
      rw [drop_of_getElem?_some h, Json.scan, ok_bind, Win.at_buf, h]
      by_cases htc : t = c
      · rw [if_pos (congrArg some htc), if_pos htc]
        exact Win.scan_at K toks m N ps (i + 1) s hi' (by rw [← hN, List.length_cons, Nat.add_assoc, Nat.add_comm 1])
      · rw [if_neg (fun e => htc (Option.some.inj e)), if_neg htc]
        rfl
  | .str :: ps, i, s, hi, hN => by
    rw [Win.scan, Win.ensure_at_max toks m i hi]
    cases h : toks[i]? with
    | none => rw [drop_of_getElem?_none h]; rfl
    | some t =>
      have hi' : i + 1 ≤ toks.length := (List.getElem?_eq_some_iff.mp h).1
      dsimp only
      rw [drop_of_getElem?_some h, ok_bind, Win.at_buf, h]
      cases t <;> first
        | rfl
        | exact Win.scan_at K toks m N ps (i + 1) _ hi' (by rw [← hN, List.length_cons, Nat.add_assoc, Nat.add_comm 1])

/-- `K` drops the window, so where the whole pattern matches the window must not reach beyond it (`hm`). -/
theorem Win.lookahead_at (K : Bytes → Win → JR Look) {c : JTok} {ps : List Pat} (toks : List JTok) (m : Nat)
    (hm : ∀ r, toks = c :: r → m ≤ ps.length + 1) :
    Win.scan K (.lit c :: ps) 0 [] (Win.at toks m) =
      Json.scan (.error .eof) (fun n => .ok (.notIt (Win.at toks (max m n))))
        (fun s => K s (Win.at toks (ps.length + 1))) (.lit c :: ps) 0 [] toks := by
  have h := Win.scan_at K toks m (ps.length + 1) (.lit c :: ps) 0 [] (Nat.zero_le _) (Nat.zero_add _)
  rw [Nat.max_zero] at h
  rw [h, List.drop_zero]
  rcases toks with _ | ⟨t, r⟩
  · rfl
  by_cases hc : t = c
  · rw [Nat.max_eq_right (hm r (by rw [hc]))]
  · rw [Json.scan, Json.scan, if_neg hc, if_neg hc]

end Json
end Ipld

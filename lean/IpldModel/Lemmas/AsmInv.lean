/-
  The assembler model (`Ipld.Asm`): the invariant its frames keep (`Inv`), the ways `step` treats a call (`Step`) with
  what they say about refused calls, what `step` does in a known position, and histories in which every call is
  accepted (`Runs`).
-/
import IpldModel.Lemmas.AsmTable
import IpldModel.Lemmas.EraseHistory
namespace Ipld
namespace Asm

def Pending (t : List (Bytes × Option DM)) (m : List (Bytes × DM)) : Prop :=
  ∃ t0 k, t = t0 ++ [(k, none)] ∧ AllDone t0 ∧ mapHas m k = false

def Shape (t : List (Bytes × Option DM)) (m : List (Bytes × DM)) : MPhase → Prop
  | .init => AllDone t
  | .midKey => AllDone t
  | .expectValue => Pending t m
  | .midValue => Pending t m

structure MapInv (t : List (Bytes × Option DM)) (m : List (Bytes × DM)) (ph : MPhase) : Prop where
  keys : (t.map (·.1)).Nodup
  shape : Shape t m ph
  /-- the lookup map holds exactly the completed entries -/
  agree : ∀ k, mapLookup m k = ((tableEntries t).find? (fun e => e.1 == k)).map (·.2)
  vals : ∀ k v, (k, some v) ∈ t → v.NoDup

def FrameInv : Frame → Prop
  | .map t m ph => MapInv t m ph
  | .list x _ => ∀ v ∈ x, v.NoDup

structure Inv (s : St) : Prop where
  frames : ∀ f ∈ s.frames, FrameInv f
  root : ∀ d, s.root = some d → d.NoDup

/-- What a history may contain: nodes handed to `AssignNode` come from builders, so they are free of
    duplicate keys.  (Nothing needs to be assumed about `assign`: a non-scalar argument is either a
    panic or a wrong-kind error, and neither changes the state.) -/
def OpOk : Op → Prop
  | .assignNode v => v.NoDup
  | _ => True

theorem MapInv.empty : MapInv [] [] .init where
  keys := by simp
  shape := allDone_nil
  agree := by intro k; simp [mapLookup]
  vals := by intro k v h; cases h

theorem MapInv.allDone_or_pending {t m ph} (h : MapInv t m ph) : AllDone t ∨ Pending t m := by
  cases ph
  · exact Or.inl h.shape
  · exact Or.inl h.shape
  · exact Or.inr h.shape
  · exact Or.inr h.shape

theorem MapInv.dropLast_allDone {t m ph} (h : MapInv t m ph) : AllDone t.dropLast := by
  rcases h.allDone_or_pending with hd | ⟨t0, k, rfl, hd, _⟩
  · intro e he; exact hd e (List.dropLast_subset _ he)
  · simpa using hd

theorem MapInv.key_fresh {t m ph} (h : MapInv t m ph) (hd : AllDone t) {k : Bytes}
    (hk : mapHas m k = false) : k ∉ t.map (·.1) := by
  rw [mapHas_eq_false_iff, h.agree] at hk
  rw [← tableEntries_keys_of_allDone hd]
  exact find_none_iff.1 (Option.map_eq_none_iff.1 hk)

theorem MapInv.addKey {t m ph} (h : MapInv t m ph) (hd : AllDone t) {k : Bytes}
    (hk : mapHas m k = false) {ph' : MPhase} (hp : ph' = .expectValue ∨ ph' = .midValue) :
    MapInv (t ++ [(k, none)]) m ph' where
  keys := by
    rw [List.map_append, List.nodup_append]
    refine ⟨h.keys, by simp, ?_⟩
    intro a ha b hb
    simp at hb; subst hb
    intro e; subst e
    exact h.key_fresh hd hk ha
  shape := by
    rcases hp with rfl | rfl <;> exact ⟨t, k, rfl, hd, hk⟩
  agree := by
    intro k'
    rw [tableEntries_append, tableEntries_single_none, List.append_nil]
    exact h.agree k'
  vals := by
    intro k' v hm
    rw [List.mem_append] at hm
    rcases hm with hm | hm
    · exact h.vals k' v hm
    · simp at hm

theorem MapInv.setValue {t0 : List (Bytes × Option DM)} {m k ph} {v : DM}
    (h : MapInv (t0 ++ [(k, none)]) m ph) (hd : AllDone t0) (hk : mapHas m k = false)
    (hv : v.NoDup) : MapInv (t0 ++ [(k, some v)]) (mapInsert m k v) .init where
  keys := by simpa using h.keys
  shape := allDone_append.2 ⟨hd, allDone_single k v⟩
  agree := by
    intro k'
    have ha := h.agree
    simp only [tableEntries_append, tableEntries_single_none, List.append_nil] at ha
    rw [mapLookup_mapInsert, tableEntries_append, tableEntries_single_some, List.find?_append]
    by_cases e : k = k'
    · subst e
      rw [mapHas_eq_false_iff, ha] at hk
      rw [Option.map_eq_none_iff.1 hk, if_pos rfl]
      simp
    · simp [e, ha]
  vals := by
    intro k' w hm
    rw [List.mem_append] at hm
    rcases hm with hm | hm
    · exact h.vals k' w (List.mem_append_left _ hm)
    · simp at hm; obtain ⟨_, rfl⟩ := hm; exact hv

theorem MapInv.of_shape {t m ph ph'} (h : MapInv t m ph) (hs : Shape t m ph') : MapInv t m ph' :=
  ⟨h.keys, hs, h.agree, h.vals⟩

/-- the value a finished map frame hands to its parent is free of duplicate keys -/
theorem MapInv.finished_noDup {t m ph} (h : MapInv t m ph) :
    (DM.map (DMKVs.ofList (tableEntries t))).NoDup := by
  refine ⟨?_, ?_⟩
  · rw [ofList_keys]
    exact (tableEntries_keys_sublist t).nodup h.keys
  · rw [noDupVals_ofList]
    intro k v hm
    exact h.vals k v (mem_tableEntries.1 hm)

theorem Inv.tail {p : Proto} {f : Frame} {fr : List Frame} {rt : Option DM}
    (h : Inv { proto := p, frames := f :: fr, root := rt }) :
    Inv { proto := p, frames := fr, root := rt } :=
  ⟨fun g hg => h.frames g (List.mem_cons_of_mem _ hg), h.root⟩

theorem Inv.replaceTop {p : Proto} {f g : Frame} {fr : List Frame} {rt : Option DM}
    (h : Inv { proto := p, frames := f :: fr, root := rt }) (hg : FrameInv g) :
    Inv { proto := p, frames := g :: fr, root := rt } :=
  ⟨fun g' hg' => by
      rcases List.mem_cons.1 hg' with rfl | hm
      · exact hg
      · exact h.frames g' (List.mem_cons_of_mem _ hm), h.root⟩

theorem Inv.push {s : St} (h : Inv s) {g : Frame} (hg : FrameInv g) :
    Inv { s with frames := g :: s.frames } :=
  ⟨fun g' hg' => by
      rcases List.mem_cons.1 hg' with rfl | hm
      · exact hg
      · exact h.frames g' hm, h.root⟩

theorem Inv.top {p : Proto} {f : Frame} {fr : List Frame} {rt : Option DM}
    (h : Inv { proto := p, frames := f :: fr, root := rt }) : FrameInv f :=
  h.frames f (List.mem_cons_self ..)

/-- A state by its current object: the root builder (still empty, or holding its value), a map assembler between
    entries, its key assembler, the map assembler after a key, its value assembler, a list assembler between items,
    its value assembler. -/
@[elab_as_elim]
theorem St.posCases {motive : St → Prop}
    (rootEmpty : ∀ p, motive ⟨p, [], none⟩) (rootDone : ∀ p d, motive ⟨p, [], some d⟩)
    (mapInit : ∀ p t m rest rt, motive ⟨p, .map t m .init :: rest, rt⟩)
    (mapKey : ∀ p t m rest rt, motive ⟨p, .map t m .midKey :: rest, rt⟩)
    (mapExpect : ∀ p t m rest rt, motive ⟨p, .map t m .expectValue :: rest, rt⟩)
    (mapValue : ∀ p t m rest rt, motive ⟨p, .map t m .midValue :: rest, rt⟩)
    (listInit : ∀ p x rest rt, motive ⟨p, .list x .init :: rest, rt⟩)
    (listValue : ∀ p x rest rt, motive ⟨p, .list x .midValue :: rest, rt⟩) : ∀ s, motive s
  | ⟨p, [], none⟩ => rootEmpty p
  | ⟨p, [], some d⟩ => rootDone p d
  | ⟨p, .map t m .init :: rest, rt⟩ => mapInit p t m rest rt
  | ⟨p, .map t m .midKey :: rest, rt⟩ => mapKey p t m rest rt
  | ⟨p, .map t m .expectValue :: rest, rt⟩ => mapExpect p t m rest rt
  | ⟨p, .map t m .midValue :: rest, rt⟩ => mapValue p t m rest rt
  | ⟨p, .list x .init :: rest, rt⟩ => listInit p x rest rt
  | ⟨p, .list x .midValue :: rest, rt⟩ => listValue p x rest rt

theorem deliver_mapValue {s : St} {t m rest} {k : Bytes} {o : Option DM} (v : DM)
    (h : s.frames = .map (t ++ [(k, o)]) m .midValue :: rest) :
    deliver s v = ({ s with frames := .map (t ++ [(k, some v)]) (mapInsert m k v) .init :: rest }, .ok) := by
  obtain ⟨p, fr, rt⟩ := s
  simp only at h; subst h
  simp only [deliver, lastKey_append_single, setLast_append_single]

theorem deliver_inv {s : St} {v : DM} (h : Inv s) (hv : v.NoDup) : Inv (deliver s v).1 := by
  cases s using St.posCases with
  | rootEmpty p => exact ⟨h.frames, by intro d hd; cases hd; exact hv⟩
  | rootDone p d => exact ⟨h.frames, by intro d hd; cases hd; exact hv⟩
  | mapValue p t m rest rt =>
    have hm : MapInv t m .midValue := h.top
    obtain ⟨t0, k, rfl, hd, hk⟩ := hm.shape
    rw [deliver_mapValue v rfl]
    exact h.replaceTop (hm.setValue hd hk hv)
  | listValue p x rest rt =>
    simp only [deliver]
    apply h.replaceTop
    have hx : ∀ v ∈ x, v.NoDup := h.top
    intro w hw
    rcases List.mem_append.1 hw with hw | hw
    · exact hx w hw
    · simp at hw; subst hw; exact hv
  | _ => exact h

/-- the current object is a key assembler -/
def inKey (s : St) : Bool :=
  match s.frames with
  | .map _ _ .midKey :: _ => true
  | _ => false

/-- The ways `step` treats a call, with resulting state and outcome: misuse; a rejection that leaves
    the state alone (a repeated key is rejected this way only by `AssembleEntry`, not by a key
    assembler); a key assembler rejecting a repeated key, which puts the map assembler back between
    entries; a value delivered; a container begun; the phase changes of `AssembleKey` and
    `AssembleValue`; an entry opened; a container finished and delivered.  `Step s op s' o` says that
    the call `op` may be treated in that way, not which way it is: the constructors look at `op` only in `toKey`
    (it is `AssembleKey`) and in `deliver` (what `OpOk op` says of the value), so the relation holds of more pairs
    than `step` produces. -/
inductive Step (s : St) (op : Op) : St → Out → Prop
  | panic : Step s op s .panic
  | reject {c} : (c = .repeatedKey → inKey s = false) → Step s op s (.err c)
  | keyRepeated (t m rest) : s.frames = .map t m .midKey :: rest →
      Step s op { s with frames := .map t m .init :: rest } (.err .repeatedKey)
  | deliver (v) {s' o} : (OpOk op → v.NoDup) → deliver s v = (s', o) → Step s op s' o
  | push {g} : g = .map [] [] .init ∨ g = .list [] .init → Step s op { s with frames := g :: s.frames } .ok
  | toKey (t m rest) : op = .assembleKey → s.frames = .map t m .init :: rest →
      Step s op { s with frames := .map t m .midKey :: rest } .ok
  | toValue (t m rest) : s.frames = .map t m .expectValue :: rest →
      Step s op { s with frames := .map t m .midValue :: rest } .ok
  | listValue (x rest) : s.frames = .list x .init :: rest →
      Step s op { s with frames := .list x .midValue :: rest } .ok
  | addKey (t m ph ph' rest k) : s.frames = .map t m ph :: rest → ph = .init ∨ ph = .midKey →
      mapHas m k = false → ph' = .expectValue ∨ ph' = .midValue →
      Step s op { s with frames := .map (t ++ [(k, none)]) m ph' :: rest } .ok
  | finishMap (t m rest) {s' o} : s.frames = .map t m .init :: rest →
      Asm.deliver { s with frames := rest } (.map (DMKVs.ofList (tableEntries t))) = (s', o) → Step s op s' o
  | finishList (x rest) {s' o} : s.frames = .list x .init :: rest →
      Asm.deliver { s with frames := rest } (.list (DMs.ofList x)) = (s', o) → Step s op s' o

theorem valueCall_rel {s : St} (b : Bool) (op : Op) :
    Step s op (valueCall s b op).1 (valueCall s b op).2 := by
  cases op with
  | assign v =>
    simp only [valueCall]
    split
    · exact .panic
    · rename_i hs
      split
      · exact .reject (fun h => nomatch h)
      · exact .deliver v (fun _ => noDup_of_isScalar (by simpa using hs)) rfl
  | assignNode v =>
    simp only [valueCall]
    split
    · exact .reject (fun h => nomatch h)
    · exact .deliver v id rfl
  | beginMap n =>
    simp only [valueCall]
    split
    · exact .reject (fun h => nomatch h)
    · exact .push (Or.inl rfl)
  | beginList n =>
    simp only [valueCall]
    split
    · exact .reject (fun h => nomatch h)
    · exact .push (Or.inr rfl)
  | _ => exact .panic

theorem supplyKey_rel {s : St} {t m rest} {op : Op} (k : Bytes) (hf : s.frames = .map t m .midKey :: rest) :
    Step s op (supplyKey s t m rest k).1 (supplyKey s t m rest k).2 := by
  unfold supplyKey
  split
  · exact .keyRepeated t m rest hf
  · rename_i hk
    exact .addKey t m .midKey .expectValue rest k hf (Or.inr rfl) (Bool.eq_false_iff.2 hk) (Or.inl rfl)

theorem step_rel (s : St) (op : Op) : Step s op (step s op).1 (step s op).2 := by
  cases s using St.posCases with
  | rootEmpty p => exact valueCall_rel true op
  | rootDone p d => exact .panic
  | mapInit p t m rest rt =>
    cases op with
    | assembleKey => exact .toKey t m rest rfl rfl
    | assembleEntry k =>
      simp only [step]
      split
      · exact .reject (fun _ => rfl)
      · rename_i hk
        exact .addKey t m .init .midValue rest k rfl (Or.inl rfl) (Bool.eq_false_iff.2 hk) (Or.inr rfl)
    | finish => exact .finishMap t m rest rfl rfl
    | _ => exact .panic
  | mapKey p t m rest rt =>
    cases op with
    | assign v =>
      cases v with
      | str k => exact supplyKey_rel k rfl
      | _ => exact .reject (fun h => nomatch h)
    | assignNode v =>
      cases v with
      | str k => exact supplyKey_rel k rfl
      | _ => exact .reject (fun h => nomatch h)
    | beginMap n => exact .reject (fun h => nomatch h)
    | beginList n => exact .reject (fun h => nomatch h)
    | _ => exact .panic
  | mapExpect p t m rest rt =>
    cases op with
    | assembleValue => exact .toValue t m rest rfl
    | _ => exact .panic
  | mapValue p t m rest rt => exact valueCall_rel false op
  | listInit p x rest rt =>
    cases op with
    | assembleValue => exact .listValue x rest rfl
    | finish => exact .finishList x rest rfl rfl
    | _ => exact .panic
  | listValue p x rest rt => exact valueCall_rel false op

theorem step_inv {s : St} {op : Op} (h : Inv s) (ho : OpOk op) : Inv (step s op).1 := by
  have hr := step_rel s op
  generalize (step s op).1 = s' at hr ⊢
  generalize (step s op).2 = o at hr
  obtain ⟨p, fr, rt⟩ := s
  cases hr with
  | panic => exact h
  | reject hc => exact h
  | keyRepeated t m rest hf =>
    cases hf; have hm : MapInv t m .midKey := h.top
    exact h.replaceTop (g := .map t m .init) (hm.of_shape hm.shape)
  | deliver v hv hd => have := deliver_inv h (hv ho); rwa [hd] at this
  | push hg =>
    apply h.push
    rcases hg with rfl | rfl
    · exact MapInv.empty
    · intro v hv; cases hv
  | toKey t m rest _ hf =>
    cases hf; have hm : MapInv t m .init := h.top
    exact h.replaceTop (g := .map t m .midKey) (hm.of_shape hm.shape)
  | toValue t m rest hf =>
    cases hf; have hm : MapInv t m .expectValue := h.top
    exact h.replaceTop (g := .map t m .midValue) (hm.of_shape hm.shape)
  | listValue x rest hf => cases hf; exact h.replaceTop (g := .list x .midValue) h.top
  | addKey t m ph ph' rest k hf hph hk hph' =>
    cases hf
    have hm : MapInv t m ph := h.top
    have hd : AllDone t := by rcases hph with rfl | rfl <;> exact hm.shape
    exact h.replaceTop (g := .map (t ++ [(k, none)]) m ph') (hm.addKey hd hk hph')
  | finishMap t m rest hf hd =>
    cases hf
    have := deliver_inv h.tail (MapInv.finished_noDup (ph := .init) h.top); rwa [hd] at this
  | finishList x rest hf hd =>
    cases hf
    have := deliver_inv (v := .list (DMs.ofList x)) h.tail ((noDup_ofList x).2 h.top); rwa [hd] at this

theorem init_inv (p : Proto) : Inv (init p) :=
  ⟨(by intro f hf; cases hf), (by intro d hd; cases hd)⟩

theorem run_inv {s : St} {h : List Op} (hi : Inv s) (ho : ∀ op ∈ h, OpOk op) : Inv (run s h).1 := by
  induction h generalizing s with
  | nil => exact hi
  | cons op ops ih =>
    have h1 : Inv (step s op).1 := step_inv hi (ho op (List.mem_cons_self ..))
    have h2 := ih h1 (fun o hm => ho o (List.mem_cons_of_mem _ hm))
    simp only [run]
    split
    · rename_i st' heq; rw [heq] at h1; exact h1
    · rename_i st' o _ heq; rw [heq] at h2; exact h2

theorem deliver_ne_err {s s' : St} {v : DM} {c : ErrClass} : deliver s v ≠ (s', .err c) := by
  intro h
  cases s using St.posCases with
  | mapValue p t m rest rt => simp only [deliver] at h; split at h <;> cases h
  | _ => cases h

theorem step_rel_of_eq {s s' : St} {op : Op} {o : Out} (h : step s op = (s', o)) : Step s op s' o := by
  have := step_rel s op
  rwa [h] at this

theorem step_err {s s' : St} {op : Op} {c : ErrClass} (h : step s op = (s', .err c)) :
    (s' = s ∧ (c = .repeatedKey → inKey s = false)) ∨
      (c = .repeatedKey ∧ ∃ t m rest, s.frames = .map t m .midKey :: rest ∧
        s' = { s with frames := .map t m .init :: rest }) := by
  cases step_rel_of_eq h with
  | reject hc => exact Or.inl ⟨rfl, hc⟩
  | keyRepeated t m rest hf => exact Or.inr ⟨rfl, t, m, rest, hf, rfl⟩
  | deliver v hv hd => exact absurd hd deliver_ne_err
  | finishMap t m rest hf hd => exact absurd hd deliver_ne_err
  | finishList x rest hf hd => exact absurd hd deliver_ne_err

theorem step_err_not_repeated {s s' : St} {op : Op} {c : ErrClass} (h : step s op = (s', .err c))
    (hc : c ≠ .repeatedKey) : s' = s := by
  rcases step_err h with h1 | ⟨h1, _⟩
  · exact h1.1
  · exact absurd h1 hc

theorem step_inKey_repeated {s s' : St} {op : Op} {t m rest}
    (hf : s.frames = .map t m .midKey :: rest) (h : step s op = (s', .err .repeatedKey)) :
    s' = { s with frames := .map t m .init :: rest } := by
  rcases step_err h with ⟨_, hk⟩ | ⟨_, t', m', rest', hf', rfl⟩
  · have := hk rfl; rw [inKey, hf] at this; cases this
  · rw [hf] at hf'; cases hf'; rfl

theorem step_not_inKey_err {s s' : St} {op : Op} {c : ErrClass} (hk : inKey s = false)
    (h : step s op = (s', .err c)) : s' = s := by
  rcases step_err h with h1 | ⟨_, t, m, rest, hf, _⟩
  · exact h1.1
  · rw [inKey, hf] at hk; cases hk

def Runs (s : St) (ops : List Op) (s' : St) : Prop :=
  run s ops = (s', List.replicate ops.length .ok)

theorem Runs.nil (s : St) : Runs s [] s := rfl

theorem run_eq_hist : run = Hist.run step := by
  funext s h
  induction h generalizing s with
  | nil => rfl
  | cons op ops ih =>
    simp only [run, Hist.run, ih]
    rcases step s op with ⟨s', _ | _ | _⟩ <;> rfl

theorem run_cons_ok {s s1 : St} {op : Op} (ops : List Op) (h : step s op = (s1, .ok)) :
    run s (op :: ops) = ((run s1 ops).1, .ok :: (run s1 ops).2) :=
  run_eq_hist ▸ Hist.run_cons_ok h

theorem Runs.cons {s s1 s' : St} {op : Op} {ops : List Op} (h1 : step s op = (s1, .ok))
    (h2 : Runs s1 ops s') : Runs s (op :: ops) s' := by
  unfold Runs at *; rw [run_eq_hist] at *
  exact Hist.Runs.cons h1 h2

theorem Runs.single {s s1 : St} {op : Op} (h1 : step s op = (s1, .ok)) : Runs s [op] s1 :=
  Runs.cons h1 (Runs.nil s1)

theorem Runs.append {s s1 s' : St} {a b : List Op} (h1 : Runs s a s1) (h2 : Runs s1 b s') :
    Runs s (a ++ b) s' := by
  unfold Runs at *; rw [run_eq_hist] at *
  exact Hist.Runs.append h1 h2

theorem Runs.state {s s' : St} {ops : List Op} (h : Runs s ops s') : (run s ops).1 = s' := by
  rw [h]

theorem Runs.outs {s s' : St} {ops : List Op} (h : Runs s ops s') : ∀ o ∈ (run s ops).2, o = .ok := by
  rw [h]; intro o ho; exact (List.mem_replicate.1 ho).2

theorem step_finish_map {s : St} {t m rest} (h : s.frames = .map t m .init :: rest) :
    step s .finish = deliver { s with frames := rest } (.map (DMKVs.ofList (tableEntries t))) := by
  obtain ⟨p, fr, rt⟩ := s
  simp only at h; subst h; rfl

theorem step_finish_list {s : St} {x rest} (h : s.frames = .list x .init :: rest) :
    step s .finish = deliver { s with frames := rest } (.list (DMs.ofList x)) := by
  obtain ⟨p, fr, rt⟩ := s
  simp only at h; subst h; rfl

theorem step_assembleValue_list {s : St} {x rest} (h : s.frames = .list x .init :: rest) :
    step s .assembleValue = ({ s with frames := .list x .midValue :: rest }, .ok) := by
  obtain ⟨p, fr, rt⟩ := s
  simp only at h; subst h; rfl

theorem step_assembleValue_map {s : St} {t m rest} (h : s.frames = .map t m .expectValue :: rest) :
    step s .assembleValue = ({ s with frames := .map t m .midValue :: rest }, .ok) := by
  obtain ⟨p, fr, rt⟩ := s
  simp only at h; subst h; rfl

theorem step_assembleKey {s : St} {t m rest} (h : s.frames = .map t m .init :: rest) :
    step s .assembleKey = ({ s with frames := .map t m .midKey :: rest }, .ok) := by
  obtain ⟨p, fr, rt⟩ := s
  simp only at h; subst h; rfl

theorem step_assembleEntry {s : St} {t m rest} {k : Bytes} (h : s.frames = .map t m .init :: rest)
    (hk : mapHas m k = false) :
    step s (.assembleEntry k) = ({ s with frames := .map (t ++ [(k, none)]) m .midValue :: rest }, .ok) := by
  obtain ⟨p, fr, rt⟩ := s
  simp only at h; subst h; simp only [step, hk, Bool.false_eq_true, if_false]

theorem step_key_assign {s : St} {t m rest} {k : Bytes} (h : s.frames = .map t m .midKey :: rest)
    (hk : mapHas m k = false) :
    step s (.assign (.str k)) = ({ s with frames := .map (t ++ [(k, none)]) m .expectValue :: rest }, .ok) := by
  obtain ⟨p, fr, rt⟩ := s
  simp only at h; subst h; simp only [step, supplyKey, hk, Bool.false_eq_true, if_false]

theorem step_key_assignNode {s : St} {t m rest} {k : Bytes} (h : s.frames = .map t m .midKey :: rest)
    (hk : mapHas m k = false) :
    step s (.assignNode (.str k)) = ({ s with frames := .map (t ++ [(k, none)]) m .expectValue :: rest }, .ok) := by
  obtain ⟨p, fr, rt⟩ := s
  simp only at h; subst h; simp only [step, supplyKey, hk, Bool.false_eq_true, if_false]

theorem deliver_listValue {s : St} {x rest} (v : DM) (h : s.frames = .list x .midValue :: rest) :
    deliver s v = ({ s with frames := .list (x ++ [v]) .init :: rest }, .ok) := by
  obtain ⟨p, fr, rt⟩ := s
  simp only at h; subst h; rfl

theorem deliver_ok_not_inKey {s s' : St} {v : DM} (h : deliver s v = (s', .ok)) : inKey s' = false := by
  cases s using St.posCases with
  | mapValue p t m rest rt =>
    simp only [deliver] at h
    split at h
    · cases h; rfl
    · cases h
  | rootEmpty p => cases h; rfl
  | rootDone p d => cases h; rfl
  | listValue p x rest rt => cases h; rfl
  | _ => cases h

theorem step_ok_not_inKey {s s' : St} {op : Op} (h : step s op = (s', .ok))
    (hop : op ≠ .assembleKey) : inKey s' = false := by
  cases step_rel_of_eq h with
  | deliver v hv hd => exact deliver_ok_not_inKey hd
  | push hg => rcases hg with rfl | rfl <;> rfl
  | toKey t m rest he hf => exact absurd he hop
  | toValue t m rest hf => rfl
  | listValue x rest hf => rfl
  | addKey t m ph ph' rest k hf hph hk hph' => rcases hph' with rfl | rfl <;> rfl
  | finishMap t m rest hf hd => exact deliver_ok_not_inKey hd
  | finishList x rest hf hd => exact deliver_ok_not_inKey hd

theorem valueCall_assembleKey (s : St) (b : Bool) : valueCall s b .assembleKey = (s, .panic) := rfl

theorem step_assembleKey_ok {s s' : St} (h : step s .assembleKey = (s', .ok)) :
    ∃ t m rest, s.frames = .map t m .init :: rest ∧
      s' = { s with frames := .map t m .midKey :: rest } := by
  cases s using St.posCases with
  | mapInit p t m rest rt => cases h; exact ⟨t, m, rest, rfl, rfl⟩
  | _ => cases h

theorem deliver_panic {s s' : St} {v : DM} (h : deliver s v = (s', .panic)) : s' = s := by
  cases s using St.posCases with
  | mapValue p t m rest rt => simp only [deliver] at h; split at h <;> cases h; rfl
  | _ => cases h <;> rfl

/-- Misuse changes nothing, except that `Finish` pops its frame before it finds nothing to deliver to (and a frame
    that can be finished is not a key assembler's). -/
theorem step_panic {s s' : St} {op : Op} (h : step s op = (s', .panic)) : s' = s ∨ inKey s = false := by
  cases step_rel_of_eq h with
  | panic => exact .inl rfl
  | deliver v _ hd => exact .inl (deliver_panic hd)
  | finishMap t m rest hf hd => exact .inr (by rw [inKey, hf])
  | finishList x rest hf hd => exact .inr (by rw [inKey, hf])

theorem step_beginMap_hint (s : St) (n n' : Int) : step s (.beginMap n) = step s (.beginMap n') := by
  cases s using St.posCases <;> rfl

theorem step_beginList_hint (s : St) (n n' : Int) : step s (.beginList n) = step s (.beginList n') := by
  cases s using St.posCases <;> rfl

end Asm
end Ipld

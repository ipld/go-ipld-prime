/-
  Positional notation: the last digit of `n * B + d` is `d` and the rest is `n`.  UTF-8 and base64 both
  cut a number into 6-bit digits; the lemmas here are what their round trips need of `/` and `%`.
-/
namespace Ipld
namespace Json

theorem mul_add_div_of_lt {a b c : Nat} (h : c < b) : (a * b + c) / b = a := by
  rw [Nat.add_comm, Nat.add_mul_div_right _ _ (Nat.zero_lt_of_lt h), Nat.div_eq_of_lt h, Nat.zero_add]

/-- `k` is there so that a literal such as `4096` can be given as `64 * 64` by `rfl`. -/
theorem shift_div {B d k n : Nat} (m : Nat) (hd : d < B) (hk : k = B * m) : (n * B + d) / k = n / m := by
  rw [hk, ← Nat.div_div_eq_div_mul, mul_add_div_of_lt hd]

theorem digits3 {B B2 b c : Nat} (a : Nat) (hB : B2 = B * B) (hb : b < B) (hc : c < B) :
    (a * B2 + b * B + c) / B2 = a ∧ (a * B2 + b * B + c) / B % B = b ∧ (a * B2 + b * B + c) % B = c := by
  have e : a * B2 + b * B + c = (a * B + b) * B + c := by rw [hB, Nat.add_mul, Nat.mul_assoc]
  rw [e, shift_div B hc hB, mul_add_div_of_lt hc]
  exact ⟨mul_add_div_of_lt hb, Nat.mul_add_mod_of_lt hb, Nat.mul_add_mod_of_lt hc⟩

theorem digits4 {B B2 B3 b c d : Nat} (a : Nat) (h2 : B2 = B * B) (h3 : B3 = B * B2) (hb : b < B) (hc : c < B)
    (hd : d < B) :
    (a * B3 + b * B2 + c * B + d) / B3 = a ∧ (a * B3 + b * B2 + c * B + d) / B2 % B = b ∧
      (a * B3 + b * B2 + c * B + d) / B % B = c ∧ (a * B3 + b * B2 + c * B + d) % B = d := by
  have e : a * B3 + b * B2 + c * B + d = (a * B2 + b * B + c) * B + d := by
    rw [h3, Nat.add_mul, Nat.add_mul, Nat.mul_assoc a, Nat.mul_comm B2 B, Nat.mul_assoc b, ← h2]
  rw [e, shift_div B2 hd h3, shift_div B hd h2, mul_add_div_of_lt hd]
  exact ⟨(digits3 a h2 hb hc).1, (digits3 a h2 hb hc).2.1, (digits3 a h2 hb hc).2.2, Nat.mul_add_mod_of_lt hd⟩

theorem sum_digits4 {B B2 B3 : Nat} (n : Nat) (h2 : B2 = B * B) (h3 : B3 = B * B2) :
    n / B3 * B3 + n / B2 % B * B2 + n / B % B * B + n % B = n := by
  subst h2 h3
  have q1 : n / (B * (B * B)) = n / (B * B) / B := by rw [Nat.div_div_eq_div_mul, Nat.mul_comm]
  have q2 : n / (B * B) = n / B / B := (Nat.div_div_eq_div_mul n B B).symm
  rw [q1, ← Nat.mul_assoc (n / (B * B) / B) B (B * B), ← Nat.add_mul, Nat.div_add_mod', q2,
    ← Nat.mul_assoc (n / B / B) B B, ← Nat.add_mul, Nat.div_add_mod', Nat.div_add_mod']

/-- A byte that carries a payload of `m` values on top of the marker `lo`. -/
theorem marker_add_mod (m : Nat) {lo c : Nat} (hlo : lo ≤ c) (hhi : c < lo + m) (hm : lo % m = 0) : lo + c % m = c := by
  obtain ⟨x, rfl⟩ := Nat.exists_eq_add_of_le hlo
  rw [Nat.add_mod, hm, Nat.zero_add, Nat.mod_mod, Nat.mod_eq_of_lt (Nat.lt_of_add_lt_add_left hhi)]

end Json
end Ipld

/-
  The binding of Go values (`Model/GoBind.lean`): a struct field is a value slot under an optional layer (`fslot`), and
  a value slot is a base type behind at most two pointers (`unptr`, `wrapFor`); `view`, `wt`, `compatible` and `assignC`
  are read through these.
-/
import IpldModel.Model.GoBind
import IpldModel.Lemmas.BytesEq
import IpldModel.Lemmas.SchemaValues
namespace Ipld
namespace GoBind
open Schema

@[simp] theorem zipSome_some {α β γ : Type} (f : α → β → γ) (a : α) (b : β) :
    zipSome f (some a) (some b) = some (f a b) := rfl
@[simp] theorem zipSome_none_left {α β γ : Type} (f : α → β → γ) (b : Option β) :
    zipSome f none b = none := by cases b <;> rfl
@[simp] theorem zipSome_none_right {α β γ : Type} (f : α → β → γ) (a : Option α) :
    zipSome f a none = none := by cases a <;> rfl

theorem zipSome_eq_some {α β γ : Type} {f : α → β → γ} {a : Option α} {b : Option β} {c : γ} :
    zipSome f a b = some c ↔ ∃ x y, a = some x ∧ b = some y ∧ f x y = c := by
  cases a <;> cases b <;> simp

theorem zipSome_eq_none {α β γ : Type} {f : α → β → γ} {a : Option α} {b : Option β} :
    zipSome f a b = none ↔ a = none ∨ b = none := by
  cases a <;> cases b <;> simp

theorem viewList_cons (g : GoTy) (t : Ty) (nul : Bool) (x : GoVal) (xs : GoVals) :
    viewList g t nul (.cons x xs) = zipSome TLs.cons (view g t nul x) (viewList g t nul xs) := rfl

theorem viewKVs_cons (g : GoTy) (t : Ty) (nul : Bool) (k : Bytes) (x : GoVal) (es : GoKVs) :
    viewKVs g t nul (.cons k x es) = zipSome (fun a r => (k, a) :: r) (view g t nul x) (viewKVs g t nul es) := rfl

theorem wtList_cons (g : GoTy) (t : Ty) (nul : Bool) (x : GoVal) (xs : GoVals) :
    wtList g t nul (.cons x xs) = (wt g t nul x && wtList g t nul xs) := rfl

theorem wtKVs_cons (g : GoTy) (t : Ty) (nul : Bool) (k : Bytes) (x : GoVal) (es : GoKVs) :
    wtKVs g t nul (.cons k x es) = (wt g t nul x && wtKVs g t nul es) := rfl

theorem assignList_cons (g : GoTy) (t : Ty) (nul : Bool) (x : TL) (xs : TLs) :
    assignList g t nul (.cons x xs) = zipSome GoVals.cons (assignC g t nul x) (assignList g t nul xs) := rfl

theorem assignKVs_cons (g : GoTy) (t : Ty) (nul : Bool) (k : Bytes) (x : TL) (es : TLKVs) :
    assignKVs g t nul (.cons k x es) = zipSome (GoKVs.cons k) (assignC g t nul x) (assignKVs g t nul es) := rfl

theorem notPtr_of_isBare {g : GoTy} (h : isBare g = true) : notPtr g = true := by
  cases g <;> first | rfl | cases h

theorem isBare_ptr (g : GoTy) : isBare (.ptr g) = false := rfl

theorem notPtr_cases (g : GoTy) : (∃ g1, g = .ptr g1) ∨ notPtr g = true := by
  cases g <;> first | exact .inr rfl | exact .inl ⟨_, rfl⟩

/-- what the struct iterator shows of one field -/
def viewField (g : GoTy) (f : Field) (x : GoVal) : Option TL :=
  match fslot g f.opt f.nullable with
  | .value => view g f.ty f.nullable x
  | .optPtr g1 =>
    (match x with
     | .nilPtr => some .absent
     | .ptr v => view g1 f.ty f.nullable v
     | _ => none)
  | .optBare => if x = .nilBare then some .absent else view g f.ty false x
  | .bad => none

theorem view_false_nilBare (g : GoTy) (t : Ty) : view g t false .nilBare = none := rfl

theorem viewFields_cons (n : Bytes) (g : GoTy) (gfs : GoFields) (f : Field) (fs : List Field) (x : GoVal)
    (xs : GoVals) :
    viewFields (.cons n g gfs) (f :: fs) (.cons x xs) =
      zipSome (TLKVs.cons f.name) (viewField g f x) (viewFields gfs fs xs) := by
  cases x <;> rfl

def wtField (g : GoTy) (f : Field) (x : GoVal) : Bool :=
  match fslot g f.opt f.nullable with
  | .value => wt g f.ty f.nullable x
  | .optPtr g1 =>
    (match x with
     | .nilPtr => true
     | .ptr v => wt g1 f.ty f.nullable v
     | _ => false)
  | .optBare => x = .nilBare || (decide (x ≠ .nilSlice) && wt g f.ty false x)
  | .bad => false

theorem wtFields_cons (n : Bytes) (g : GoTy) (gfs : GoFields) (f : Field) (fs : List Field) (x : GoVal)
    (xs : GoVals) :
    wtFields (.cons n g gfs) (f :: fs) (.cons x xs) = (wtField g f x && wtFields gfs fs xs) := by
  cases x <;> rfl

/-- What `compatFields` asks of one Go field bound to one schema field, read through `fslot`. -/
def compatField (g : GoTy) (f : Field) : Bool :=
  match fslot g f.opt f.nullable with
  | .value => compatible g f.ty f.nullable
  | .optPtr g1 => (!f.nullable || !notPtr g1) && compatible g1 f.ty f.nullable
  | .optBare => compatible g f.ty false
  | .bad => false

theorem compatFields_cons (n : Bytes) (g : GoTy) (gfs : GoFields) (f : Field) (fs : List Field) :
    compatFields (.cons n g gfs) (f :: fs) = (n == f.name && compatField g f && compatFields gfs fs) := by
  obtain ⟨_, _, opt, nul, _⟩ := f
  cases opt <;> cases nul <;> cases g <;> first | rfl | (rename_i lf; cases lf <;> rfl)

/-- A compatible field has one of three shapes.  A required field is a value slot of its own type.  An optional field
    behind a pointer `*g1` has the value slot `g1`, and a nil pointer is absent.  An optional, non-nullable field in a
    bare nilable type is a value slot of that type, and its nil is absent. -/
theorem compatField_cases {g : GoTy} {f : Field} (h : compatField g f = true) :
    (fslot g f.opt f.nullable = .value ∧ f.opt = false ∧ compatible g f.ty f.nullable = true) ∨
    (∃ g1, fslot g f.opt f.nullable = .optPtr g1 ∧ g = .ptr g1 ∧ f.opt = true ∧
      compatible g1 f.ty f.nullable = true) ∨
    (fslot g f.opt f.nullable = .optBare ∧ f.opt = true ∧ f.nullable = false ∧ isBare g = true ∧
      compatible g f.ty false = true) := by
  obtain ⟨_, _, opt, nul, ty⟩ := f
  cases opt
  · exact .inl ⟨rfl, rfl, h⟩
  · cases g with
    | ptr g1 => exact .inr (.inl ⟨g1, rfl, rfl, rfl, (Bool.and_eq_true_iff.1 h).2⟩)
    | link lf => cases nul <;> cases lf <;> first | cases h | exact .inr (.inr ⟨rfl, rfl, rfl, rfl, h⟩)
    | _ => cases nul <;> first | cases h | exact .inr (.inr ⟨rfl, rfl, rfl, rfl, h⟩)

def assignField (g : GoTy) (f : Field) (v : TL) : Option GoVal :=
  match fslot g f.opt f.nullable with
  | .value => assignC g f.ty f.nullable v
  | .optPtr g1 => if v = .absent then some GoVal.nilPtr else (assignC g1 f.ty f.nullable v).map GoVal.ptr
  | .optBare => if v = .absent then some GoVal.nilBare else assignC g f.ty false v
  | .bad => none

theorem assignFields_cons (n : Bytes) (g : GoTy) (gfs : GoFields) (f : Field) (fs : List Field) (k : Bytes)
    (v : TL) (es : TLKVs) :
    assignFields (.cons n g gfs) (f :: fs) (.cons k v es) =
      if k != f.name then none else zipSome GoVals.cons (assignField g f v) (assignFields gfs fs es) := by
  conv => lhs; unfold assignFields
  rfl

def intsFitField (g : GoTy) (f : Field) (v : TL) : Bool :=
  match fslot g f.opt f.nullable with
  | .value => intsFit g f.ty f.nullable v
  | .optPtr g1 => intsFit g1 f.ty f.nullable v
  | .optBare => intsFit g f.ty false v
  | .bad => true

theorem intsFitFields_cons (n : Bytes) (g : GoTy) (gfs : GoFields) (f : Field) (fs : List Field) (k : Bytes)
    (v : TL) (es : TLKVs) :
    intsFitFields (.cons n g gfs) (f :: fs) (.cons k v es) = (intsFitField g f v && intsFitFields gfs fs es) := by
  conv => lhs; unfold intsFitFields
  rfl

theorem assignFields_nil_inv {gfs : GoFields} {fs : List Field} {vs : GoVals}
    (h : assignFields gfs fs .nil = some vs) : gfs = .nil ∧ fs = [] ∧ vs = .nil := by
  cases gfs <;> cases fs <;> cases h <;> exact ⟨rfl, rfl, rfl⟩

theorem assignFields_cons_inv {gfs : GoFields} {fs : List Field} {k : Bytes} {v : TL} {es : TLKVs} {vs : GoVals}
    (h : assignFields gfs fs (.cons k v es) = some vs) :
    ∃ n g gfs' f fs' a r, gfs = .cons n g gfs' ∧ fs = f :: fs' ∧ k = f.name ∧ assignField g f v = some a ∧
      assignFields gfs' fs' es = some r ∧ vs = .cons a r := by
  cases gfs with
  | nil => cases fs <;> cases h
  | cons n g gfs' =>
    cases fs with
    | nil => cases h
    | cons f fs' =>
      rw [assignFields_cons] at h
      split at h
      · cases h
      · rename_i hk
        rw [zipSome_eq_some] at h
        obtain ⟨a, r, h1, h2, rfl⟩ := h
        exact ⟨n, g, gfs', f, fs', a, r, rfl, rfl, by simpa using hk, h1, h2, rfl⟩

theorem compatible_ptr_eq (g : GoTy) (t : Ty) (nul : Bool) :
    compatible (.ptr g) t nul = ((nul || notPtr g) && compatible g t false) := rfl

theorem compatible_ptr {g : GoTy} {t : Ty} {nul : Bool} (h : compatible (.ptr g) t nul = true) :
    compatible g t false = true := by
  rw [compatible_ptr_eq, Bool.and_eq_true] at h; exact h.2

theorem compatible_slice (ge : GoTy) (et : Ty) (enul nul : Bool) :
    compatible (.slice ge) (.list et enul) nul = compatible ge et enul := rfl

theorem compatible_omap (gv : GoTy) (vt : Ty) (vnul : Bool) :
    compatible (.omap gv) (.map vt vnul) false = compatible gv vt vnul := rfl

theorem compatible_struct (gfs : GoFields) (fs : Fields) (sr : StructRepr) :
    compatible (.struct gfs) (.struct fs sr) false = compatFields gfs fs.toList := rfl

theorem compatible_union (gfs : GoFields) (ms : Members) (ur : UnionRepr) :
    compatible (.struct gfs) (.union ms ur) false = compatMembers gfs ms.toList := rfl

theorem isBare_cases {g : GoTy} (h : isBare g = true) :
    (∃ ge, g = .slice ge) ∨ g = .bytes ∨ g = .link .iface ∨ g = .node := by
  cases g with
  | slice ge => exact .inl ⟨ge, rfl⟩
  | bytes => exact .inr (.inl rfl)
  | node => exact .inr (.inr (.inr rfl))
  | link f => cases f <;> first | exact .inr (.inr (.inl rfl)) | cases h
  | _ => cases h

theorem wrapFor_notPtr {g : GoTy} (x : GoVal) (h : notPtr g = true) : wrapFor g x = x := by
  cases g <;> first | rfl | cases h

theorem wrapFor_ptr {g : GoTy} (x : GoVal) (h : notPtr g = true) : wrapFor (.ptr g) x = .ptr x := by
  cases g <;> first | rfl | cases h

theorem unptr_of_notPtr {g : GoTy} (nul : Bool) (h : notPtr g = true) :
    unptr nul g = if nul && !isBare g then none else some g := by
  cases g <;> first | rfl | cases h

theorem unptr_ptr {g : GoTy} (nul : Bool) (h : notPtr g = true) : unptr nul (.ptr g) = some g := by
  cases g <;> first | rfl | cases h

theorem unptr_bare {g : GoTy} (nul : Bool) (h : isBare g = true) : unptr nul g = some g := by
  rw [unptr_of_notPtr nul (notPtr_of_isBare h), h, Bool.not_true, Bool.and_false]
  rfl

/-- the three ways a value slot can be shaped: two pointers (one of them more than needed), one pointer, none -/
theorem unptr_some {nul : Bool} {g g0 : GoTy} (h : unptr nul g = some g0) :
    g = .ptr (.ptr g0) ∨ (g = .ptr g0 ∧ notPtr g0 = true) ∨
      (g = g0 ∧ notPtr g0 = true ∧ (nul = true → isBare g0 = true)) := by
  rcases notPtr_cases g with ⟨g1, rfl⟩ | hn
  · rcases notPtr_cases g1 with ⟨g2, rfl⟩ | hn1
    · cases h
      exact .inl rfl
    · rw [unptr_ptr nul hn1] at h
      cases h
      exact .inr (.inl ⟨rfl, hn1⟩)
  · rw [unptr_of_notPtr nul hn] at h
    split at h
    · cases h
    · rename_i hb
      cases h
      refine .inr (.inr ⟨rfl, hn, fun hnul => ?_⟩)
      subst hnul
      cases hg : isBare g
      · rw [hg] at hb; exact absurd rfl hb
      · rfl

theorem assignC_null_bare {g : GoTy} {t : Ty} (hb : isBare g = true) : assignC g t true .null = some .nilBare := by
  rcases isBare_cases hb with ⟨ge, rfl⟩ | rfl | rfl | rfl <;> rfl

theorem bare_nul {g : GoTy} {t : Ty} {x : GoVal} {b : Bool} {o : Option TL} (hb : isBare g = true)
    (hx0 : x ≠ .nilBare ∧ x ≠ .nilSlice) (hx : wt g t false x = b ∧ view g t false x = o) :
    wt g t true x = b ∧ view g t true x = o := by
  rcases isBare_cases hb with ⟨ge, rfl⟩ | rfl | rfl | rfl <;> cases x <;>
    first | exact hx | exact absurd rfl hx0.1 | exact absurd rfl hx0.2

theorem wrapFor_slot {nul : Bool} {g g0 : GoTy} {t : Ty} {x : GoVal} {b : Bool} {o : Option TL}
    (h : unptr nul g = some g0) (hx0 : x ≠ .nilBare ∧ x ≠ .nilSlice)
    (hx : wt g0 t false x = b ∧ view g0 t false x = o) :
    wt g t nul (wrapFor g x) = b ∧ view g t nul (wrapFor g x) = o := by
  rcases unptr_some h with rfl | ⟨rfl, hn⟩ | ⟨rfl, hn, hnb⟩
  · exact hx
  · rw [wrapFor_ptr x hn]; exact hx
  · rw [wrapFor_notPtr x hn]
    cases nul
    · exact hx
    · exact bare_nul (hnb rfl) hx0 hx

theorem compatible_bare_nul {g : GoTy} (t : Ty) (hb : isBare g = true) :
    compatible g t true = compatible g t false := by
  rcases isBare_cases hb with ⟨ge, rfl⟩ | rfl | rfl | rfl <;> rfl

theorem compatible_notPtr_nul {g : GoTy} {t : Ty} (hn : notPtr g = true)
    (h : compatible g t true = true) : isBare g = true := by
  cases g <;> first | rfl | cases h | cases hn | skip
  rename_i lf
  cases lf <;> first | rfl | cases h

theorem compatible_of_unptr {nul : Bool} {g g0 : GoTy} (t : Ty) (h : unptr nul g = some g0)
    (hc : compatible g t nul = true) : compatible g0 t false = true := by
  rcases unptr_some h with rfl | ⟨rfl, _⟩ | ⟨rfl, _, hnb⟩
  · exact compatible_ptr (compatible_ptr hc)
  · exact compatible_ptr hc
  · cases nul
    · exact hc
    · rwa [compatible_bare_nul t (hnb rfl)] at hc

theorem compatible_unptr_some {g : GoTy} {t : Ty} {nul : Bool} (h : compatible g t nul = true) :
    ∃ g0, unptr nul g = some g0 ∧ compatible g0 t false = true ∧ notPtr g0 = true := by
  cases g with
  | ptr g1 =>
    rcases notPtr_cases g1 with ⟨b, rfl⟩ | hg1
    · rw [compatible_ptr_eq, compatible_ptr_eq] at h
      simp only [Bool.and_eq_true, notPtr, Bool.or_false, Bool.false_or] at h
      exact ⟨b, rfl, h.2.2, h.2.1⟩
    · exact ⟨g1, unptr_ptr nul hg1, compatible_ptr h, hg1⟩
  | _ =>
    cases nul
    · exact ⟨_, unptr_of_notPtr false rfl, h, rfl⟩
    · have hb := compatible_notPtr_nul rfl h
      exact ⟨_, unptr_bare true hb, by rwa [compatible_bare_nul _ hb] at h, rfl⟩

/-- the Go types without a pointer that each form of schema type is bound to -/
theorem compatible_base {g0 : GoTy} {t : Ty} : compatible g0 t false = true → notPtr g0 = true →
    match t with
    | .bool => g0 = .bool
    | .int => ∃ k, g0 = .int k
    | .float => g0 = .float
    | .str => g0 = .str
    | .bytes => g0 = .bytes
    | .link => ∃ f, g0 = .link f
    | .any => g0 = .node
    | .enum _ r => g0 = .str ∨ ∃ k, g0 = .int k ∧ r = .int
    | .list et enul => ∃ ge, g0 = .slice ge ∧ compatible ge et enul = true
    | .map vt vnul => ∃ gv, g0 = .omap gv ∧ compatible gv vt vnul = true
    | .struct fs _ => ∃ gfs, g0 = .struct gfs ∧ compatFields gfs fs.toList = true
    | .union ms _ => ∃ gfs, g0 = .struct gfs ∧ compatMembers gfs ms.toList = true := by
  intro hc hn
  cases g0 <;> first | (cases hn; done) | skip
  all_goals
    unfold compatible at hc
    split at hc <;> first | (cases hc; done) | exact rfl | exact ⟨_, rfl⟩ | exact ⟨_, rfl, hc⟩ | exact .inl rfl |
      exact .inr ⟨_, rfl, rfl⟩

theorem compatible_nul {g : GoTy} {t : Ty} (h : compatible g t true = true) :
    (∃ g1, g = .ptr g1) ∨ isBare g = true :=
  (notPtr_cases g).imp_right fun hg => compatible_notPtr_nul hg h

theorem fits_unsigned_nonneg (w : Bind.Width) (i : Int) (hs : w.signed = false) (h : Bind.fits w i = true) :
    0 ≤ i := by
  unfold Bind.fits at h
  rw [hs] at h
  exact (of_decide_eq_true h).1

theorem enumStore_eq_some (k : IntKind) (r i : Int) :
    enumStore k r = some i ↔ i = r ∧ Bind.fits k.width r = true := by
  unfold enumStore
  split
  · rename_i h; simp [h, eq_comm]
  · rename_i h; simp [h]

theorem enumStore_fits (k : IntKind) (r : Int) (h : Bind.fits k.width r = true) : enumStore k r = some r :=
  if_pos h

theorem lookupAll_self : (suf pre : List (Bytes × TL)) → ((pre ++ suf).map (·.1)).Nodup →
    lookupAll (pre ++ suf) (suf.map (·.1)) = some suf
  | [], _, _ => rfl
  | (k, v) :: suf, pre, hnd => by
    have hfind : (pre ++ (k, v) :: suf).lookup k = some v := by
      rw [lookup_eq_find?]
      have hmem : (k, v) ∈ pre ++ (k, v) :: suf := by simp
      have := find?_key_of_mem (α := Bytes × TL) (·.1) hnd (k, v) hmem
      simp only at this
      rw [this]; rfl
    have ih := lookupAll_self suf (pre ++ [(k, v)]) (by simpa [List.append_assoc] using hnd)
    simp only [List.append_assoc, List.singleton_append] at ih
    simp only [List.map_cons, lookupAll, hfind, ih, zipSome_some]

theorem lookupAll_total (tvs : List (Bytes × TL)) : (ks : List Bytes) → (∀ k ∈ ks, k ∈ tvs.map (·.1)) →
    ∃ es, lookupAll tvs ks = some es
  | [], _ => ⟨[], rfl⟩
  | k :: ks, h => by
    obtain ⟨es, hes⟩ := lookupAll_total tvs ks (fun k' hk' => h k' (List.mem_cons_of_mem _ hk'))
    obtain ⟨e, he, rfl⟩ := List.mem_map.1 (h k List.mem_cons_self)
    have : (tvs.lookup e.1).isSome = true := by
      rw [lookup_eq_find?, Option.isSome_map, List.find?_isSome]
      exact ⟨e, he, beq_self_eq_true _⟩
    obtain ⟨v, hv⟩ := Option.isSome_iff_exists.1 this
    exact ⟨(e.1, v) :: es, by rw [lookupAll, hv, hes]; rfl⟩

theorem lookupAll_spec (tvs : List (Bytes × TL)) : (ks : List Bytes) → (es : List (Bytes × TL)) →
    lookupAll tvs ks = some es → es.map (·.1) = ks ∧ ∀ e ∈ es, tvs.lookup e.1 = some e.2
  | [], es, h => by cases h; exact ⟨rfl, nofun⟩
  | k :: ks, es, h => by
    rw [lookupAll, zipSome_eq_some] at h
    obtain ⟨v, r, hv, hr, rfl⟩ := h
    obtain ⟨h1, h2⟩ := lookupAll_spec tvs ks r hr
    refine ⟨congrArg (k :: ·) h1, fun e he => ?_⟩
    rcases List.mem_cons.1 he with rfl | he
    · exact hv
    · exact h2 e he

theorem keysOf_getD (es : TLKVs) : (keysOf es).getD [] = es.toList.map (·.1) := by
  cases es <;> rfl

theorem keysOf_ofList (es : List (Bytes × TL)) :
    keysOf (TLKVs.ofList es) = if (es.map (·.1)).isEmpty then none else some (es.map (·.1)) := by
  cases es with
  | nil => rfl
  | cons e es => obtain ⟨k, v⟩ := e; simp [TLKVs.ofList, keysOf, TLKVs.toList]

theorem GoFields.get?_length : (gfs : GoFields) → (i : Nat) → (g : GoTy) → gfs.get? i = some g → i < gfs.length
  | .nil, _, _, h => by cases h
  | .cons _ _ rest, 0, _, _ => Nat.succ_pos _
  | .cons _ _ rest, i + 1, g, h => Nat.succ_lt_succ (GoFields.get?_length rest i g h)

theorem compatMembers_cons_inv {n : Bytes} {g : GoTy} {gfs : GoFields} {m : Member} {ms : List Member}
    (h : compatMembers (.cons n g gfs) (m :: ms) = true) :
    ∃ g1, g = .ptr g1 ∧ compatible g1 m.ty false = true ∧ compatMembers gfs ms = true := by
  unfold compatMembers at h
  simp only [Bool.and_eq_true] at h
  obtain ⟨⟨-, hg⟩, hr⟩ := h
  split at hg
  · exact ⟨_, rfl, hg, hr⟩
  · cases hg

theorem wtUnion_cons_ptr (n : Bytes) (g1 : GoTy) (gfs : GoFields) (m : Member) (ms : List Member) (w : GoVal)
    (xs : GoVals) :
    wtUnion (.cons n (.ptr g1) gfs) (m :: ms) (.cons (.ptr w) xs) = (wt g1 m.ty false w && allNil gfs ms xs) := rfl

theorem compatMembers_get : (gfs : GoFields) → (ms : List Member) → compatMembers gfs ms = true →
    (i : Nat) → (m : Member) → ms[i]? = some m →
    ∃ g1, gfs.get? i = some (.ptr g1) ∧ compatible g1 m.ty false = true
  | .nil, [], _, i, m, hm => by cases hm
  | .nil, _ :: _, h, _, _, _ | .cons _ _ _, [], h, _, _, _ => by cases h
  | .cons n g rest, m0 :: ms, h, i, m, hm => by
    obtain ⟨g1, rfl, hc, hr⟩ := compatMembers_cons_inv h
    cases i with
    | zero => cases hm; exact ⟨g1, rfl, hc⟩
    | succ i => exact compatMembers_get rest ms hr i m (by simpa only [List.getElem?_cons_succ] using hm)

theorem compatMembers_length : (gfs : GoFields) → (ms : List Member) → compatMembers gfs ms = true →
    gfs.length = ms.length
  | .nil, [], _ => rfl
  | .nil, _ :: _, h | .cons _ _ _, [], h => by cases h
  | .cons n g rest, m0 :: ms, h => by
    obtain ⟨_, _, _, hr⟩ := compatMembers_cons_inv h
    exact congrArg (· + 1) (compatMembers_length rest ms hr)

theorem viewUnion_nilPtrs : (gfs : GoFields) → (ms : List Member) → viewUnion gfs ms (nilPtrs gfs.length) = none
  | .nil, _ => rfl
  | .cons _ _ _, [] => rfl
  | .cons _ _ rest, _ :: ms => viewUnion_nilPtrs rest ms

theorem viewUnion_unionVals : (gfs : GoFields) → (ms : List Member) → (i : Nat) → (g1 : GoTy) → (m : Member) →
    (x : GoVal) → gfs.get? i = some (.ptr g1) → ms[i]? = some m →
    viewUnion gfs ms (unionVals gfs.length i x) =
      (view g1 m.ty false x).map fun a => .map (.cons m.name a .nil)
  | .nil, _, _, _, _, _, hg, _ => by cases hg
  | .cons _ _ _, [], _, _, _, _, _, hm => by cases hm
  | .cons n g rest, m0 :: ms, 0, g1, m, x, hg, hm => by
    cases hg
    cases hm
    rfl
  | .cons n g rest, m0 :: ms, i + 1, g1, m, x, hg, hm =>
    viewUnion_unionVals rest ms i g1 m x hg (by simpa only [List.getElem?_cons_succ] using hm)

theorem allNil_nilPtrs : (gfs : GoFields) → (ms : List Member) → compatMembers gfs ms = true →
    allNil gfs ms (nilPtrs gfs.length) = true
  | .nil, [], _ => rfl
  | .nil, _ :: _, h | .cons _ _ _, [], h => by cases h
  | .cons _ g gfs, m :: ms, h => by
    obtain ⟨g1, rfl, _, hr⟩ := compatMembers_cons_inv h
    exact allNil_nilPtrs gfs ms hr

theorem wtUnion_unionVals : (gfs : GoFields) → (ms : List Member) → compatMembers gfs ms = true →
    (i : Nat) → (g1 : GoTy) → (m : Member) → (x : GoVal) → gfs.get? i = some (.ptr g1) → ms[i]? = some m →
    wt g1 m.ty false x = true → wtUnion gfs ms (unionVals gfs.length i x) = true
  | .nil, _, _, _, _, _, _, hg, _, _ => by cases hg
  | .cons _ _ _, [], h, _, _, _, _, _, _, _ => by cases h
  | .cons n g rest, m0 :: ms, hc, 0, g1, m, x, hg, hm, hw => by
    obtain ⟨_, rfl, _, hr⟩ := compatMembers_cons_inv hc
    cases hg
    cases hm
    exact (wtUnion_cons_ptr ..).trans (by rw [hw, allNil_nilPtrs rest ms hr]; rfl)
  | .cons n g rest, m0 :: ms, hc, i + 1, g1, m, x, hg, hm, hw => by
    obtain ⟨_, rfl, _, hr⟩ := compatMembers_cons_inv hc
    exact wtUnion_unionVals rest ms hr i g1 m x hg (by simpa only [List.getElem?_cons_succ] using hm) hw

end GoBind
end Ipld

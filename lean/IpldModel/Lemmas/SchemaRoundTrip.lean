/-
  The round trip `toRepr` → representation builder by induction on the typed value (`rt_all`; `rt`, `rtList`, … are its
  components), its side condition `unambig`, and the assembly state a canonical struct value leaves (`absorb`).
-/
import IpldModel.Lemmas.SchemaMembers
import IpldModel.Lemmas.SchemaConf
namespace Ipld
namespace Schema

def absorb (g : Bytes → Option TL) : TLKVs → (Bytes → Option TL)
  | .nil => g
  | .cons k v es => absorb (if v = .absent then g else setFn g k v) es

theorem absorb_other : (es : TLKVs) → (g : Bytes → Option TL) → (n : Bytes) →
    (∀ e ∈ es.toList, e.1 ≠ n) → absorb g es n = g n
  | .nil, _, _, _ => rfl
  | .cons k v es, g, n, h => by
    have hk : k ≠ n := h (k, v) List.mem_cons_self
    rw [absorb, absorb_other es _ n fun e he => h e (List.mem_cons_of_mem _ he)]
    split
    · rfl
    · exact setFn_other fun h' => hk h'.symm

theorem absorb_spec {fs es vals g}
    (h : reprFields fs es = some vals) (hnd : (fs.map (·.name)).Nodup) (hg : ∀ f ∈ fs, g f.name = none) :
    fs.map (fun f => (f.name, (absorb g es f.name).getD .absent)) = es.toList ∧
    fs.all (fun f => f.opt || (absorb g es f.name).isSome) = true := by
  induction fs generalizing es vals g with
  | nil => obtain ⟨rfl, _⟩ := reprFields_nil_inv h; exact ⟨rfl, rfl⟩
  | cons f fs ih =>
    cases es with
    | nil => cases h
    | cons k v es =>
      obtain ⟨rfl, vals', hv, h2⟩ := reprFields_cons_inv h
      have hnot : ∀ e ∈ es.toList, e.1 ≠ f.name := by
        intro e he heq
        have hmem : e.1 ∈ es.toList.map (·.1) := List.mem_map_of_mem he
        rw [reprFields_keys fs es vals' hv, heq] at hmem
        exact (List.nodup_cons.1 hnd).1 hmem
      -- after the head entry the state holds `v` at `f` (nothing if `v` is absent) and nothing at the later fields
      have key : ∀ g1 : Bytes → Option TL, (∀ f' ∈ fs, g1 f'.name = none) →
          (g1 f.name).getD .absent = v → (f.opt || (g1 f.name).isSome) = true →
          (f :: fs).map (fun f' => (f'.name, (absorb g1 es f'.name).getD .absent))
            = (TLKVs.cons f.name v es).toList ∧
          (f :: fs).all (fun f' => f'.opt || (absorb g1 es f'.name).isSome) = true := by
        intro g1 hg1 hval hopt
        obtain ⟨ih1, ih2⟩ := ih (g := g1) hv (List.nodup_cons.1 hnd).2 hg1
        rw [List.map_cons, List.all_cons, absorb_other es g1 f.name hnot, ih1, ih2, hval, hopt]
        exact ⟨rfl, rfl⟩
      have hg0 : g f.name = none := hg f List.mem_cons_self
      rw [absorb]
      rcases h2 with ⟨rfl, ho, _⟩ | ⟨hne, _⟩
      · rw [if_pos rfl]
        exact key g (fun f' hf' => hg f' (List.mem_cons_of_mem _ hf')) (by rw [hg0]; rfl) (by rw [ho]; rfl)
      · rw [if_neg hne]
        exact key (setFn g f.name v) (unset_after hnd hg) (by rw [setFn_same]; rfl)
          (by rw [setFn_same]; exact Bool.or_true _)

theorem finish_absorb {fs es vals} (h : reprFields fs es = some vals) (hnd : (fs.map (·.name)).Nodup) :
    (SSt.ofFn fs (absorb (fun _ => none) es)).finish fs = .ok (.map es) := by
  have := absorb_spec (g := fun _ => none) h hnd fun _ _ => rfl
  rw [SSt.ofFn_finish, this.2, this.1, if_pos rfl, TLKVs.ofList_toList]

theorem absorb_all_absent {fs es n g} (h : reprFields fs es = some (List.replicate n none)) : absorb g es = g := by
  induction fs generalizing es n with
  | nil => obtain ⟨rfl, _⟩ := reprFields_nil_inv h; rfl
  | cons f fs ih =>
    cases es with
    | nil => cases h
    | cons k v es =>
      obtain ⟨_, vals', hv, h2⟩ := reprFields_cons_inv h
      cases n with
      | zero => rcases h2 with ⟨_, _, hvals⟩ | ⟨_, d, _, hvals⟩ <;> cases hvals
      | succ n =>
        rcases h2 with ⟨rfl, _, hvals⟩ | ⟨_, d, _, hvals⟩
        · cases hvals
          rw [absorb, if_pos rfl]
          exact ih hv
        · cases hvals

/-! Three representation strategies lose information on some values, in the model as in the library:
    * stringjoin: a field string that contains the delimiter (or ends in a way that makes the
      delimiter match earlier), and the struct with no field at all (`Split("", d)` has one part);
    * stringprefix: a discriminant that contains the delimiter; without delimiter, an earlier member
      whose discriminant is a prefix of the text;
    * kinded: a member listed under a kind that is not the kind of its representation.
  `unambig ty v` says that nowhere inside `v` one of these happens.  It is a decidable predicate on
  the value (`Bool`), true of every value whose type uses none of the three strategies. -/

/-- the parts a stringjoin struct value is joined from -/
def joinParts (fs : List Field) (es : TLKVs) : Option (List Bytes) :=
  match reprFields fs es with
  | some vals =>
    (match allSome vals with
     | some ds => allStr ds
     | none => none)
  | none => none

/-- the member the delimiter-less stringprefix builder picks for a text -/
def pickPrefix (ms : List Member) (s : Bytes) : Option Bytes :=
  (ms.find? fun m => isPrefix m.disc s).map (·.name)

/-- what reading the member's representation `d` back must get right -/
def unambigMember (ms : List Member) (ur : UnionRepr) (m : Member) (d : DM) : Bool :=
  match ur with
  | .keyed => true
  | .kinded => m.kind == d.kind
  | .stringprefix delim =>
    match d with
    | .str s =>
      if delim.isEmpty then pickPrefix ms (m.disc ++ s) == some m.name
      else splitFirst delim (m.disc ++ delim ++ s) == some (m.disc, s)
    | _ => true

mutual
def unambig (ty : Ty) : TL → Bool
  | .list xs => match ty with
    | .list ety _ => unambigList ety xs
    | _ => true
  | .map es => match ty with
    | .map vty _ => unambigMap vty es
    | .struct fs sr =>
      unambigFields fs.toList es &&
      (match sr with
       | .stringjoin delim =>
         (match joinParts fs.toList es with
          | some ss => splitAll delim (joinBytes delim ss) == ss
          | none => true)
       | _ => true)
    | .union ms ur =>
      match es with
      | .cons k v .nil =>
        match ms.toList.find? (fun m => m.name == k) with
        | none => true
        | some m =>
          unambig m.ty v &&
          (match toRepr m.ty false v with
           | none => true
           | some d => unambigMember ms.toList ur m d)
      | _ => true
    | _ => true
  | _ => true
def unambigList (ety : Ty) : TLs → Bool
  | .nil => true
  | .cons x xs => unambig ety x && unambigList ety xs
def unambigMap (vty : Ty) : TLKVs → Bool
  | .nil => true
  | .cons _ v es => unambig vty v && unambigMap vty es
def unambigFields : List Field → TLKVs → Bool
  | f :: fs, .cons _ v es => unambig f.ty v && unambigFields fs es
  | _, _ => true
end

theorem rt_prefix {ms delim nul} (hwf : (Ty.union ms (.stringprefix delim)).wf = true) {m : Member}
    (hm : m ∈ ms.toList) {v s} (ih : build Engine.ideal .repr m.ty false none (.str s) = .ok v)
    (hu : unambigMember ms.toList (.stringprefix delim) m (.str s) = true) :
    build Engine.ideal .repr (.union ms (.stringprefix delim)) nul none (.str (m.disc ++ delim ++ s))
      = .ok (wrapMember m.name v) := by
  have ih : buildScalar Engine.ideal .repr false (.str s) m.ty = .ok v := ih
  unfold unambigMember at hu
  rw [build_of_isScalar (d := .str _) rfl nofun, buildScalar_union_off rfl]
  simp only [] at hu ⊢
  by_cases hde : delim.isEmpty = true
  · rw [if_pos hde] at hu ⊢
    cases List.isEmpty_iff.1 hde
    rw [List.append_nil, buildPrefixNoDelim_find]
    -- the member picked has `m`'s name, so it is `m`
    obtain ⟨m', hm', hname⟩ := Option.map_eq_some_iff.1 (beq_iff_eq.1 hu)
    have h1 := find?_key_of_mem (·.name) (wf_union hwf).2 m hm
    have h2 := find?_key_of_mem (·.name) (wf_union hwf).2 m' (List.mem_of_find?_eq_some hm')
    rw [hname, h1] at h2
    cases h2
    rw [hm']
    show (buildScalar Engine.ideal .repr false (.str ((m.disc ++ s).drop m.disc.length)) m.ty).map _ = _
    rw [List.drop_left, ih]
    rfl
  · rw [if_neg hde] at hu ⊢
    rw [beq_iff_eq.1 hu]
    show buildPrefix Engine.ideal nul m.disc s ms = _
    rw [buildPrefix_find, find?_key_of_mem (·.disc) (wf_stringprefix hwf).1 m hm]
    show (buildScalar Engine.ideal .repr false (.str s) m.ty).map _ = _
    rw [ih]
    rfl

theorem unambigFields_cons (f : Field) (fs : List Field) (k : Bytes) (v : TL) (es : TLKVs) :
    unambigFields (f :: fs) (.cons k v es) = (unambig f.ty v && unambigFields fs es) := rfl

theorem fields_cons_inv {F : List Field} (hnd : (F.map (·.name)).Nodup) {f : Field} (hf : f ∈ F)
    {seen suf k v es vals}
    (hc : conformsStruct F seen (.cons k v es) = true) (hu : unambigFields (f :: suf) (.cons k v es) = true)
    (hv : reprFields (f :: suf) (.cons k v es) = some vals) :
    k = f.name ∧ conformsStruct F (f.name :: seen) es = true ∧ unambigFields suf es = true ∧
      ∃ vals', reprFields suf es = some vals' ∧
        ((v = .absent ∧ vals = none :: vals') ∨
         (v ≠ .absent ∧ conforms f.ty f.nullable v = true ∧ unambig f.ty v = true ∧
           ∃ d, toRepr f.ty f.nullable v = some d ∧ vals = some d :: vals')) := by
  obtain ⟨rfl, vals', hv', h2⟩ := reprFields_cons_inv hv
  obtain ⟨hfv, hc'⟩ := conformsStruct_cons_inv hnd hf hc
  obtain ⟨hu1, hu2⟩ := Bool.and_eq_true_iff.1 hu
  refine ⟨rfl, hc', hu2, vals', hv', ?_⟩
  rcases h2 with ⟨hva, _, hvals⟩ | ⟨hne, d, hd, hvals⟩
  · exact Or.inl ⟨hva, hvals⟩
  · exact Or.inr ⟨hne, fieldValOK_ne_absent f hne ▸ hfv, hu1, d, hd, hvals⟩

theorem buildStruct_assign {F : List Field} (hnd : (F.map (·.name)).Nodup) (hndr : (F.map (·.rename)).Nodup)
    {g : Bytes → Option TL} {f : Field} (hf : f ∈ F) (hg : g f.name = none) {d v}
    (hb : build Engine.ideal .repr f.ty f.nullable none d = .ok v) (rest : DMKVs) :
    buildStruct Engine.ideal .repr F (SSt.ofFn F g) (.cons f.rename d rest) =
      buildStruct Engine.ideal .repr F (SSt.ofFn F (setFn g f.name v)) rest := by
  have hff : fieldFor .repr F f.rename = some f := find?_key_of_mem Field.rename hndr f hf
  rw [buildStruct_ideal_cons hnd, hff]
  simp only [hg, hb]
  rfl

theorem buildPairs_assign {F : List Field} (hnd : (F.map (·.name)).Nodup)
    {g : Bytes → Option TL} {f : Field} (hf : f ∈ F) (hg : g f.name = none) {d v}
    (hb : build Engine.ideal .repr f.ty f.nullable none d = .ok v) (rest : DMs) :
    buildPairs Engine.ideal F (SSt.ofFn F g) (.cons (.list (.cons (.str f.name) (.cons d .nil))) rest) =
      buildPairs Engine.ideal F (SSt.ofFn F (setFn g f.name v)) rest := by
  rw [buildPairs_ideal_pair hnd, find?_key_of_mem (·.name) hnd f hf]
  simp only [hg, hb]
  rfl

theorem rt_atom (a : DM) (hn : a ≠ .null) (hs : isScalar a = true) {ty nul d} (hwf : ty.wf = true)
    (h : toRepr ty nul (TL.ofDM a) = some d) :
    build Engine.ideal .repr ty nul none d = .ok (TL.ofDM a) := by
  cases a with
  | null => exact absurd rfl hn
  | list _ => cases hs
  | map _ => cases hs
  | str s =>
    replace h : toRepr ty nul (.str s) = some d := h
    cases ty with
    | str => cases h; rfl
    | any => cases h; rfl
    | enum ms r =>
      rw [toRepr_enum] at h
      cases hm : ms.find? (fun m => m.name == s) with
      | none => rw [hm] at h; cases h
      | some m =>
        simp only [hm] at h
        obtain ⟨hmem, rfl⟩ := find?_mem_key hm
        cases r with
        | str =>
          cases h
          unfold build buildScalar
          simp only [find?_key_of_mem (·.rstr) (wf_enum_str hwf) m hmem]
          rfl
        | int =>
          cases h
          unfold build buildScalar
          simp only [find?_key_of_mem (·.rint) (wf_enum_int hwf) m hmem]
          rfl
    | _ => cases h
  | _ => clear hwf hn hs; cases ty <;> cases h <;> rfl

theorem rt_any {v nul d} (hn : v ≠ .null) (hc : anyOK v = true) (h : v.toDM? = some d) :
    build Engine.ideal .repr .any nul none d = .ok v := by
  cases ofDM_of_toDM h
  have hnd : d.noDupKeys = true := by rw [← anyOK_ofDM_eq]; exact hc
  cases d with
  | null => exact absurd rfl hn
  | list _ | map _ => exact congrArg (Outcome.map (wrapPath [])) (if_pos hnd)
  | _ => rfl

abbrev RoundTrips (v : TL) : Prop :=
  ∀ {ty nul}, ty.wf = true → conforms ty nul v = true → unambig ty v = true → ∀ {d}, toRepr ty nul v = some d →
    build Engine.ideal .repr ty nul none d = .ok v

/-- A union value: the member named by the one entry's key is the one its representation is dispatched back to
    (by key, kind or prefix), and that member rebuilds the entry's value. -/
theorem rt_union {ms : Members} {ur : UnionRepr} {nul : Bool} {k : Bytes} {v : TL} {d : DM}
    (hwf : (Ty.union ms ur).wf = true) (hc : conforms (.union ms ur) nul (.map (.cons k v .nil)) = true)
    (hu : unambig (.union ms ur) (.map (.cons k v .nil)) = true)
    (h : toRepr (.union ms ur) nul (.map (.cons k v .nil)) = some d) (ihv : RoundTrips v) :
    build Engine.ideal .repr (.union ms ur) nul none d = .ok (.map (.cons k v .nil)) := by
  rw [conforms_union_map] at hc
  unfold unambig at hu
  simp only [] at hu
  rw [toRepr_union] at h
  cases hm : ms.toList.find? (fun m => m.name == k) with
  | none => rw [hm] at hc; cases hc
  | some m =>
    obtain ⟨hmem, rfl⟩ := find?_mem_key hm
    simp only [hm] at hc hu h
    cases hd0 : toRepr m.ty false v with
    | none => simp only [hd0] at h; cases h
    | some d0 =>
      simp only [hd0] at h hu
      obtain ⟨hu1, hu2⟩ := Bool.and_eq_true_iff.1 hu
      have ihm := ihv ((wf_union hwf).1 m hmem) hc hu1 hd0
      cases ur with
      | keyed =>
        cases h
        rw [build_map_eq ideal_nodeOff]
        show (buildUnion Engine.ideal .repr ms.toList none 0 (.cons m.disc d0 .nil)).map (wrapPath []) = _
        rw [buildUnion_cons, memberByKey_ideal]
        simp only [memberFor, find?_key_of_mem (·.disc) (wf_keyed hwf) m hmem]
        rw [ihm]
        rfl
      | kinded =>
        cases h
        have hd : d ≠ .null := by rintro rfl; cases ihm
        rw [build_kinded_eq hd, ← beq_iff_eq.1 hu2,
          find?_key_of_mem (·.kind) (wf_kinded hwf) m hmem]
        simp only [ihm]; rfl
      | stringprefix delim =>
        cases d0 with
        | str s => cases h; exact rt_prefix hwf hmem ihm hu2
        | _ => cases h

/-- The round trip, by induction on the typed value.  Of a value: `rt`.  Of list elements: `rtList`.  Of map
    entries `es`, one conjunct per way a type reads them: a typed map (`rtMap`); a struct whose entries are handed
    over one by one, for ANY encoding `enc` of a field's representation as an input item and ANY builder `B` with
    its `nil` equation and its step on one unset field (the struct-as-map walk and `rtPairs` are its two
    instances); a tuple (`rtTuple`); a stringjoin (`rtJoin`); last, the value's own fact for the first entry's
    value, which a union value needs. -/
theorem rt_all :
    (∀ v, RoundTrips v) ∧
    (∀ xs ety enul, ety.wf = true → conformsList ety enul xs = true → unambigList ety xs = true → ∀ ys,
      reprList ety enul xs = some ys → ∀ acc,
      buildList Engine.ideal .repr ety enul acc (DMs.ofList ys) = .ok (acc ++ xs.toList)) ∧
    ∀ es,
      (∀ vty vnul, vty.wf = true → ∀ seen, conformsMap vty vnul seen es = true → unambigMap vty es = true →
        ∀ ys, reprMap vty vnul es = some ys → ∀ acc, (∀ k, seen.contains k = acc.any (fun p => p.1 == k)) →
        buildMap Engine.ideal .repr vty vnul acc (DMKVs.ofList ys) = .ok (acc ++ es.toList)) ∧
      (∀ {X : Type} (enc : Field → DM → X) (B : SSt → List X → Outcome TL) (F : List Field),
        (∀ f ∈ F, f.ty.wf = true) → (F.map (·.name)).Nodup → (∀ st, B st [] = st.finish F) →
        (∀ g f d v rest, f ∈ F → g f.name = none → build Engine.ideal .repr f.ty f.nullable none d = .ok v →
          B (SSt.ofFn F g) (enc f d :: rest) = B (SSt.ofFn F (setFn g f.name v)) rest) →
        ∀ suf, (∀ f ∈ suf, f ∈ F) → (suf.map (·.name)).Nodup → ∀ seen, conformsStruct F seen es = true →
        unambigFields suf es = true → ∀ vals, reprFields suf es = some vals → ∀ g, (∀ f ∈ suf, g f.name = none) →
        B (SSt.ofFn F g) ((suf.zip vals).filterMap fun (f, ov) => ov.map (enc f))
          = (SSt.ofFn F (absorb g es)).finish F) ∧
      (∀ F, (∀ f ∈ F, f.ty.wf = true) → (F.map (·.name)).Nodup → ∀ pre suf, F = pre ++ suf → ∀ seen,
        conformsStruct F seen es = true → unambigFields suf es = true → ∀ vals, reprFields suf es = some vals →
        ∀ ds n, vals = ds.map some ++ List.replicate n none → ∀ g, (∀ f ∈ suf, g f.name = none) →
        buildTuple Engine.ideal F (SSt.ofFn F g) pre.length (DMs.ofList ds)
          = (SSt.ofFn F (absorb g es)).finish F) ∧
      (∀ fs, fs.wf = true → (∀ f ∈ fs.toList, f.nullable = false) → ∀ F, (F.map (·.name)).Nodup →
        (∀ f ∈ fs.toList, f ∈ F) → ∀ seen, conformsStruct F seen es = true → unambigFields fs.toList es = true →
        ∀ vals, reprFields fs.toList es = some vals → ∀ ds, allSome vals = some ds → ∀ ss, allStr ds = some ss →
        buildJoin Engine.ideal fs ss = .ok es.toList) ∧
      ∀ k v rest, es = .cons k v rest → RoundTrips v := by
  refine TL.value_induct ?_ ?_ ?_ ?_ ?_ ?_ ?_ ?_ ?_ ?_ ?_ ?_ ?_ ?_
  · intro _ _ _ _ _ _ h; cases h
  · intro ty nul _ _ _ d h
    cases nul with
    | false => cases h
    | true => cases h; exact build_null_ideal .repr ty true none
  · intro b _ _ hwf _ _ _ h; exact rt_atom (.bool b) nofun rfl hwf h
  · intro i _ _ hwf _ _ _ h; exact rt_atom (.int i) nofun rfl hwf h
  · intro x _ _ hwf _ _ _ h; exact rt_atom (.float x) nofun rfl hwf h
  · intro s _ _ hwf _ _ _ h; exact rt_atom (.str s) nofun rfl hwf h
  · intro b _ _ hwf _ _ _ h; exact rt_atom (.bytes b) nofun rfl hwf h
  · intro c _ _ hwf _ _ _ h; exact rt_atom (.link c) nofun rfl hwf h
  · intro xs ihs ty nul hwf hc hu d h
    cases ty with
    | list ety enul =>
      obtain ⟨ys, hys, rfl⟩ := Option.map_eq_some_iff.1 h
      rw [build_list_eq]
      show ((buildList Engine.ideal .repr ety enul [] (DMs.ofList ys)).map fun ys => TL.list (TLs.ofList ys)).map
        (wrapPath []) = _
      rw [ihs ety enul hwf hc hu ys hys [], List.nil_append, Outcome.map_ok, TLs.ofList_toList]; rfl
    | any => exact rt_any nofun hc h
    | _ => cases h
  · intro es ih ty nul hwf hc hu d h
    cases ty with
    | map vty vnul =>
      obtain ⟨ys, hys, rfl⟩ := Option.map_eq_some_iff.1 h
      rw [build_map_eq ideal_nodeOff]
      show ((buildMap Engine.ideal .repr vty vnul [] (DMKVs.ofList ys)).map fun ys => TL.map (TLKVs.ofList ys)).map
        (wrapPath []) = _
      rw [ih.1 vty vnul hwf [] hc hu ys hys [] fun _ => rfl, List.nil_append, Outcome.map_ok,
        TLKVs.ofList_toList]; rfl
    | any => exact rt_any nofun hc h
    | struct fs sr =>
      have hw := wf_struct hwf
      have hu1 : unambigFields fs.toList es = true := (Bool.and_eq_true_iff.1 hu).1
      cases sr with
      | map =>
        rw [toRepr_struct_map] at h
        obtain ⟨vals, hv, rfl⟩ := Option.map_eq_some_iff.1 h
        exact congrArg (Outcome.map (wrapPath [])) <|
          (ih.2.1 (fun f d => (f.rename, d))
            (fun st l => buildStruct Engine.ideal .repr fs.toList st (DMKVs.ofList l)) fs.toList hw.1 hw.2.1
            (fun _ => rfl) (fun _ _ _ _ _ hf hg hb => buildStruct_assign hw.2.1 hw.2.2 hf hg hb _)
            fs.toList (fun _ h => h) hw.2.1 [] hc hu1 vals hv (fun _ => none) fun _ _ => rfl).trans
          (finish_absorb hv hw.2.1)
      | listpairs =>
        rw [toRepr_struct_listpairs] at h
        obtain ⟨vals, hv, rfl⟩ := Option.map_eq_some_iff.1 h
        exact congrArg (Outcome.map (wrapPath [])) <|
          (ih.2.1 (fun f d => DM.list (.cons (.str f.name) (.cons d .nil)))
            (fun st l => buildPairs Engine.ideal fs.toList st (DMs.ofList l)) fs.toList hw.1 hw.2.1
            (fun _ => rfl) (fun _ _ _ _ _ hf hg hb => buildPairs_assign hw.2.1 hf hg hb _)
            fs.toList (fun _ h => h) hw.2.1 [] hc hu1 vals hv (fun _ => none) fun _ _ => rfl).trans
          (finish_absorb hv hw.2.1)
      | tuple =>
        rw [toRepr_struct_tuple] at h
        cases hv : reprFields fs.toList es with
        | none => rw [hv] at h; cases h
        | some vals =>
          rw [hv] at h
          obtain ⟨ds, hds, rfl⟩ := Option.map_eq_some_iff.1 h
          obtain ⟨n, hn⟩ := tuple_vals hds
          exact congrArg (Outcome.map (wrapPath [])) <|
            (ih.2.2.1 fs.toList hw.1 hw.2.1 [] fs.toList rfl [] hc hu1 vals hv ds n hn (fun _ => none)
              fun _ _ => rfl).trans (finish_absorb hv hw.2.1)
      | stringjoin delim =>
        rw [toRepr_struct_stringjoin] at h
        unfold unambig at hu
        unfold joinParts at hu
        cases hv : reprFields fs.toList es with
        | none => rw [hv] at h; cases h
        | some vals =>
          cases hds : allSome vals with
          | none => simp only [hv, hds] at h; cases h
          | some ds =>
            simp only [hv, hds] at h hu
            obtain ⟨ss, hss, rfl⟩ := Option.map_eq_some_iff.1 h
            simp only [hss] at hu
            have hsplit : splitAll delim (joinBytes delim ss) = ss := beq_iff_eq.1 (Bool.and_eq_true_iff.1 hu).2
            have hlen : ss.length = fs.toList.length := by
              rw [allStr_length hss, ← reprFields_length hv, allSome_eq_some hds, List.length_map]
            rw [build_of_isScalar (d := .str _) rfl nofun, buildScalar_struct]
            show (if (splitAll delim (joinBytes delim ss)).length != fs.toList.length then Outcome.reject
              else (buildJoin Engine.ideal fs (splitAll delim (joinBytes delim ss))).map fun es =>
                TL.map (TLKVs.ofList es)) = _
            rw [hsplit, hlen, ih.2.2.2.1 fs ((Fields.wf_iff fs).2 hw.1) (fun f hf => ((wf_stringjoin hwf).2 f hf).2.1)
                fs.toList hw.2.1 (fun _ h => h) [] hc hu1 vals hv ds hds ss hss, Outcome.map_ok, TLKVs.ofList_toList,
              bne_self_eq_false]
            rfl
    | union ms ur =>
      cases es with
      | nil => cases hc
      | cons k v rest =>
        cases rest with
        | nil => exact rt_union hwf hc hu h (ih.2.2.2.2 k v .nil rfl)
        | cons _ _ _ => cases hc
    | _ => cases h
  · intro _ _ _ _ _ ys h acc
    cases h; exact congrArg Outcome.ok (List.append_nil acc).symm
  · intro x xs ihx ihs ety enul hwf hc hu ys h acc
    obtain ⟨hc1, hc2⟩ := Bool.and_eq_true_iff.1 hc
    obtain ⟨hu1, hu2⟩ := Bool.and_eq_true_iff.1 hu
    unfold reprList at h
    split at h
    · next d ds hd hds =>
      cases h
      rw [DMs.ofList_cons, buildList_ideal_cons, ihx hwf hc1 hu1 hd, Outcome.bind_ok,
        ihs ety enul hwf hc2 hu2 ds hds (acc ++ [x]), List.append_assoc]
      rfl
    · cases h
  · refine ⟨?_, ?_, ?_, ?_, fun _ _ _ h => nomatch h⟩
    · intro _ _ _ _ _ _ ys h acc _
      cases h; exact congrArg Outcome.ok (List.append_nil acc).symm
    · intro _ _ B F _ _ hnil _ suf _ _ _ _ _ vals hv g _
      cases suf with
      | nil => cases hv; exact hnil _
      | cons f suf => cases hv
    · intro F _ _ pre suf _ _ _ _ vals hv ds n hvals g _
      cases suf with
      | nil =>
        cases hv
        cases ds with
        | nil => exact buildTuple_nil_ideal F _ _
        | cons _ _ => cases hvals
      | cons f suf => cases hv
    · intro fs _ _ F _ _ _ _ _ vals hv ds hds ss hss
      cases fs with
      | nil => cases hv; cases hds; cases hss; rfl
      | cons _ _ _ _ _ _ => cases hv
  · intro k v es ihv ih
    refine ⟨?_, ?_, ?_, ?_, fun _ _ _ h => by cases h; exact ihv⟩
    · intro vty vnul hwf seen hc hu ys h acc hseen
      unfold conformsMap at hc
      simp only [Bool.and_eq_true, Bool.not_eq_true'] at hc
      obtain ⟨hu1, hu2⟩ := Bool.and_eq_true_iff.1 hu
      unfold reprMap at h
      split at h
      · next d ds hd hds =>
        cases h
        have hfresh : acc.any (fun p => p.1 == k) = false := by rw [← hseen k]; exact hc.1.1
        have h2 := ih.1 vty vnul hwf (k :: seen) hc.2 hu2 ds hds (acc ++ [(k, v)]) (seen_append hseen k v)
        rw [DMKVs.ofList_cons, buildMap_ideal_cons, hfresh, ihv hwf hc.1.2 hu1 hd, Outcome.bind_ok, h2,
          List.append_assoc]
        rfl
      · cases h
    · intro X enc B F hwf hnd hnil hstep suf hsub hsnd seen hc hu vals hv g hg
      cases suf with
      | nil => cases hv
      | cons f suf =>
        have hfF : f ∈ F := hsub f List.mem_cons_self
        have hsub' : ∀ f' ∈ suf, f' ∈ F := fun f' hf' => hsub f' (List.mem_cons_of_mem _ hf')
        obtain ⟨rfl, hc', hu', vals', hv', h2⟩ := fields_cons_inv hnd hfF hc hu hv
        rw [absorb]
        rcases h2 with ⟨rfl, rfl⟩ | ⟨hne, hcv, huv, d, hd, rfl⟩
        · rw [if_pos rfl]
          exact ih.2.1 enc B F hwf hnd hnil hstep suf hsub' (List.nodup_cons.1 hsnd).2 _ hc' hu' vals' hv' g
            fun f' hf' => hg f' (List.mem_cons_of_mem _ hf')
        · rw [if_neg hne]
          show B (SSt.ofFn F g) (enc f d :: (suf.zip vals').filterMap fun (f, ov) => ov.map (enc f)) = _
          rw [hstep g f d v _ hfF (hg f List.mem_cons_self) (ihv (hwf f hfF) hcv huv hd)]
          exact ih.2.1 enc B F hwf hnd hnil hstep suf hsub' (List.nodup_cons.1 hsnd).2 _ hc' hu' vals' hv' _
            (unset_after hsnd hg)
    · intro F hwf hnd pre suf hF seen hc hu vals hv ds n hvals g hg
      cases ds with
      | nil =>
        -- only absent fields are left
        cases hvals
        rw [absorb_all_absent hv]
        exact buildTuple_nil_ideal F _ _
      | cons d ds =>
        cases suf with
        | nil => cases hv
        | cons f suf =>
          have hfF : f ∈ F := hF ▸ List.mem_append_right pre List.mem_cons_self
          have hsnd : ((f :: suf).map (·.name)).Nodup := by
            rw [hF, List.map_append] at hnd
            exact (List.nodup_append.1 hnd).2.1
          obtain ⟨rfl, hc', hu', vals', hv', h2⟩ := fields_cons_inv hnd hfF hc hu hv
          rw [absorb]
          rcases h2 with ⟨rfl, rfl⟩ | ⟨hne, hcv, huv, d', hd, rfl⟩
          · cases hvals
          · obtain ⟨hdd, hvals'⟩ := List.cons.inj hvals
            cases hdd
            have hiF : F[pre.length]? = some f := by
              rw [hF, List.getElem?_append_right (Nat.le_refl _), Nat.sub_self]; rfl
            have := ih.2.2.1 F hwf hnd (pre ++ [f]) suf (by rw [hF, List.append_assoc]; rfl) _ hc' hu' vals' hv' ds n
              hvals' (setFn g f.name v) (unset_after hsnd hg)
            rw [List.length_append] at this
            rw [if_neg hne, DMs.ofList_cons, buildTuple_ideal_cons hnd, hiF]
            simp only [ihv (hwf f hfF) hcv huv hd, Outcome.bind_ok]
            exact this
    · intro fs hwf hnn F hnd hsub seen hc hu vals hv ds hds ss hss
      cases fs with
      | nil => cases hv
      | cons n rn o nu t rest =>
        have hfF : (⟨n, rn, o, nu, t⟩ : Field) ∈ F := hsub _ List.mem_cons_self
        obtain ⟨hw1, hw2⟩ := Bool.and_eq_true_iff.1 hwf
        obtain ⟨hk, hc', hu', vals', hv', h2⟩ :=
          fields_cons_inv hnd hfF hc hu hv
        cases hk
        cases (hnn ⟨n, rn, o, nu, t⟩ List.mem_cons_self : nu = false)
        rcases h2 with ⟨rfl, rfl⟩ | ⟨hne, hcv, huv, d, hd, rfl⟩
        · cases hds
        · obtain ⟨ds', hds', rfl⟩ := allSome_cons_some hds
          obtain ⟨p, ss', rfl, hss', rfl⟩ := allStr_cons hss
          have hb : buildScalar Engine.ideal .repr false (.str p) t = .ok v := ihv hw1 hcv huv hd
          rw [buildJoin_cons, hb, Outcome.bind_ok,
            ih.2.2.2.1 rest hw2 (fun f hf => hnn f (List.mem_cons_of_mem _ hf)) F hnd
              (fun f hf => hsub f (List.mem_cons_of_mem _ hf)) _ hc' hu' vals' hv' ds' hds' ss' hss']
          rfl

theorem rt {v : TL} : RoundTrips v := rt_all.1 v

theorem rtList : (xs : TLs) → (ety : Ty) → (enul : Bool) → ety.wf = true →
    conformsList ety enul xs = true → unambigList ety xs = true → (ys : List DM) →
    reprList ety enul xs = some ys → (acc : List TL) →
    buildList Engine.ideal .repr ety enul acc (DMs.ofList ys) = .ok (acc ++ xs.toList) := rt_all.2.1

theorem rtMap : (es : TLKVs) → (vty : Ty) → (vnul : Bool) → vty.wf = true → (seen : List Bytes) →
    conformsMap vty vnul seen es = true → unambigMap vty es = true → (ys : List (Bytes × DM)) →
    reprMap vty vnul es = some ys → (acc : List (Bytes × TL)) →
    (∀ k, seen.contains k = acc.any (fun p => p.1 == k)) →
    buildMap Engine.ideal .repr vty vnul acc (DMKVs.ofList ys) = .ok (acc ++ es.toList) :=
  fun es => (rt_all.2.2 es).1

theorem rtPairs : (es : TLKVs) → (F : List Field) → (∀ f ∈ F, f.ty.wf = true) →
    (F.map (·.name)).Nodup → (suf : List Field) → (∀ f ∈ suf, f ∈ F) →
    (suf.map (·.name)).Nodup →
    (seen : List Bytes) → conformsStruct F seen es = true → unambigFields suf es = true →
    (vals : List (Option DM)) → reprFields suf es = some vals → (g : Bytes → Option TL) →
    (∀ f ∈ suf, g f.name = none) →
    buildPairs Engine.ideal F (SSt.ofFn F g) (DMs.ofList (pairEntries suf vals))
      = (SSt.ofFn F (absorb g es)).finish F :=
  fun es F hwf hnd =>
    (rt_all.2.2 es).2.1 (fun f d => DM.list (.cons (.str f.name) (.cons d .nil)))
      (fun st l => buildPairs Engine.ideal F st (DMs.ofList l)) F hwf hnd (fun _ => rfl)
      fun _ _ _ _ _ hf hg hb => buildPairs_assign hnd hf hg hb _

theorem rtTuple : (es : TLKVs) → (F : List Field) → (∀ f ∈ F, f.ty.wf = true) →
    (F.map (·.name)).Nodup → (pre suf : List Field) → F = pre ++ suf →
    (seen : List Bytes) → conformsStruct F seen es = true → unambigFields suf es = true →
    (vals : List (Option DM)) → reprFields suf es = some vals → (ds : List DM) → (n : Nat) →
    vals = ds.map some ++ List.replicate n none → (g : Bytes → Option TL) →
    (∀ f ∈ suf, g f.name = none) →
    buildTuple Engine.ideal F (SSt.ofFn F g) pre.length (DMs.ofList ds)
      = (SSt.ofFn F (absorb g es)).finish F :=
  fun es => (rt_all.2.2 es).2.2.1

theorem rtJoin : (es : TLKVs) → (fs : Fields) → fs.wf = true →
    (∀ f ∈ fs.toList, f.nullable = false) → (F : List Field) → (F.map (·.name)).Nodup →
    (∀ f ∈ fs.toList, f ∈ F) → (seen : List Bytes) → conformsStruct F seen es = true →
    unambigFields fs.toList es = true → (vals : List (Option DM)) →
    reprFields fs.toList es = some vals → (ds : List DM) → allSome vals = some ds →
    (ss : List Bytes) → allStr ds = some ss →
    buildJoin Engine.ideal fs ss = .ok es.toList :=
  fun es => (rt_all.2.2 es).2.2.2.1

end Schema
end Ipld

/-
  `Sel.sliceBounds` through its two clamped bounds: a window it returns lies inside `[0, len]`.
-/
import IpldModel.Model.Selector
namespace Ipld
namespace Sel

def clampTo (to length : Int) : Int := if to < 0 then length + to else if length < to then length else to
def clampFrom (from_ length : Int) : Int :=
  if from_ < 0 then (if length + from_ < 0 then 0 else length + from_) else from_

theorem sliceBounds_eq (f t len : Int) : sliceBounds f t len =
    if clampFrom f len > clampTo t len ∨ clampFrom f len ≥ len then (false, 0, 0)
    else (true, clampFrom f len, clampTo t len) := rfl

theorem clampFrom_nonneg (f len : Int) : 0 ≤ clampFrom f len := by
  unfold clampFrom; split <;> (try split) <;> omega

theorem clampTo_le (t len : Int) : clampTo t len ≤ len := by
  unfold clampTo; split <;> (try split) <;> omega

theorem sliceBounds_true {f t len a z : Int} (h : sliceBounds f t len = (true, a, z)) :
    0 ≤ a ∧ a ≤ z ∧ z ≤ len ∧ a < len := by
  rw [sliceBounds_eq] at h
  by_cases hc : clampFrom f len > clampTo t len ∨ clampFrom f len ≥ len
  · rw [if_pos hc] at h; simp at h
  · rw [if_neg hc] at h
    simp only [Prod.mk.injEq, true_and] at h
    obtain ⟨rfl, rfl⟩ := h
    exact ⟨clampFrom_nonneg f len, Int.not_lt.1 fun h => hc (.inl h), clampTo_le t len,
      Int.not_le.1 fun h => hc (.inr h)⟩

theorem sliceBounds_false {f t len a z : Int} (h : sliceBounds f t len = (false, a, z)) :
    a = 0 ∧ z = 0 := by
  rw [sliceBounds_eq] at h
  by_cases hc : clampFrom f len > clampTo t len ∨ clampFrom f len ≥ len
  · rw [if_pos hc] at h
    simp only [Prod.mk.injEq, true_and] at h; exact ⟨h.1.symm, h.2.symm⟩
  · rw [if_neg hc] at h; simp at h

end Sel
end Ipld

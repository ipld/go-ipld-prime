/-
  When does the unrestricted walk succeed?  Exactly when the selection is clean (`Spec.cleanFrom`: no ADL
  clause, no failing `Explore`, every explored link loadable, finite depth) and the fuel suffices: `d * (W + 3)`
  for a selection clean to depth `d` whose positions try at most `W` segments each.
-/
import IpldModel.Lemmas.WalkComplete
namespace Ipld
namespace Walk
open Sel Spec

theorem clean_of_walk_ok {cfg : Cfg} (hu : Unrestricted cfg) (hstore : StoreNoDup cfg.store) {root : DM}
    (hroot : root.NoDup) {s : S} {fuel : Nat} (hok : (walk cfg fuel none none root s).outcome = .ok ()) :
    cleanFrom cfg.store fuel root s = true :=
  ((complete_all cfg hu hstore fuel).1 false [] root s _ hok ⟨rfl, rfl⟩ hroot fuel (Nat.le_refl _)).1

theorem clean_step {store : Store} {d : Nat} {n : DM} {s : S} (hc : cleanFrom store (d + 1) n s = true) {seg : Seg}
    {v : DM} {s' : S} (hm : seg ∈ segsAt n s) (hl : lookupBySegment n seg = some v)
    (hx : explore s n seg = .ok (some s')) : ∃ n', deref store v = some n' ∧ cleanFrom store d n' s' = true := by
  rw [cleanFrom_succ, Bool.and_eq_true, List.all_eq_true] at hc
  have := hc.2 seg hm
  simp only [childAt, hm, if_true, hl, cleanChild, hx] at this
  cases hd : deref store v with
  | none => rw [hd] at this; cases this
  | some n' => rw [hd] at this; exact ⟨n', rfl, this⟩

def WidthLe (store : Store) (W : Nat) (n : DM) (s : S) : Prop :=
  ∀ q n' s', selectorAt store s n q = some (n', s') → (segsAt n' s').length ≤ W

theorem WidthLe.step {store : Store} {W : Nat} {n : DM} {s : S} (h : WidthLe store W n s) {seg : Seg} {n' : DM}
    {s' : S} (hstep : stepAt store n s seg = some (n', s')) : WidthLe store W n' s' := by
  exact fun q n2 s2 hq => h (seg :: q) n2 s2 (selectorAt_cons_some.2 ⟨_, hstep, hq⟩)

theorem cleanChild_step {store : Store} {d : Nat} {n : DM} (hn : n.NoDup) {s : S} {ps : Seg} {v : DM} {s' : S}
    (hmem : (ps, v) ∈ childList n s) (hc : cleanChild store d n s (ps, v) = true)
    (hx : explore s n ps = .ok (some s')) :
    ∃ n', deref store v = some n' ∧ cleanFrom store d n' s' = true ∧ stepAt store n s ps = some (n', s') := by
  unfold cleanChild at hc
  simp only [hx] at hc
  cases hd : deref store v with
  | none => rw [hd] at hc; cases hc
  | some n' => rw [hd] at hc; exact ⟨n', rfl, hc, stepAt_of_child hn hmem hx hd⟩

/-- `W + 3` units of fuel per level: one for `walkAdv`, one for `exploreChild`, and `W + 1` for the loop over at
    most `W` children and its end. -/
theorem ok_all (cfg : Cfg) (hu : Unrestricted cfg) (hstore : StoreNoDup cfg.store) (W : Nat) (fuel : Nat) : WalkAll cfg
    (fun f _ _ n s st r => Plain st → n.NoDup → ∀ d, cleanFrom cfg.store d n s = true →
      WidthLe cfg.store W n s → d * (W + 3) ≤ f → r.2 = .ok ())
    (fun f _ n s l _ st r => Plain st → n.NoDup → ∀ d,
      (∀ x ∈ l, x ∈ childList n s ∧ cleanChild cfg.store d n s x = true) → WidthLe cfg.store W n s →
      d * (W + 3) + 2 + l.length ≤ f → r.2 = .ok ())
    (fun f _ _ n s ps v st r => Plain st → n.NoDup → ∀ d, (ps, v) ∈ childList n s →
      cleanChild cfg.store d n s (ps, v) = true → WidthLe cfg.store W n s → d * (W + 3) + 1 ≤ f → r.2 = .ok ())
    fuel := by
  refine walk_ind cfg
    ?fuelA (fun _ _ _ _ _ hf => absurd hf (by omega)) (fun _ _ _ _ _ _ hf => absurd hf (by omega))
    ?stop (fun _ _ _ _ _ _ _ _ => rfl) ?inner (fun _ _ _ _ _ _ => rfl) ?skip ?consErr ?cons ?unexplored ?linkStop
    ?linkGo ?child fuel
  case fuelA =>
    refine fun _ _ d hc _ hf => ?_
    obtain ⟨d, rfl⟩ := cleanFrom_pos hc
    rw [Nat.succ_mul] at hf
    omega
  case stop =>
    refine fun h hp hn d hc _ _ => ?_
    obtain ⟨d, rfl⟩ := cleanFrom_pos hc
    rw [enterNode_plain hu.startAt hp, ((cleanFrom_iff hn).1 hc).1] at h
    cases h
  case inner =>
    intro _ _ _ n s _ _ _ h _ hC hp hn d hc hw hf
    obtain ⟨d, rfl⟩ := cleanFrom_pos hc
    obtain ⟨hi, hcl⟩ := (cleanFrom_iff hn).1 hc
    rw [enterNode_plain hu.startAt hp, hi] at h
    cases h
    have hlen : (childList n s).length ≤ (segsAt n s).length := by
      rw [childList_eq_lookup hn]; exact List.length_filterMap_le _ _
    have hW := hw [] n s rfl
    rw [Nat.succ_mul] at hf
    exact hC hp hn d (fun x hx => ⟨hx, hcl x hx⟩) hw (by omega)
  case skip =>
    refine fun hk => ?_
    rw [loopStep_noStart cfg hu.startAt] at hk
    cases hk
  case consErr =>
    refine fun _ hE hp hn d hl hw hf => ?_
    rw [List.length_cons] at hf
    exact hE hp hn d (hl _ List.mem_cons_self).1 (hl _ List.mem_cons_self).2 hw (by omega)
  case cons =>
    intro f path n s ps v _ _ lp' st _ _ _ heq _ hC hp hn d hl hw hf
    have hpl := (plain_all cfg f).2.2 lp'.past path n s ps v st hp
    rw [heq] at hpl
    rw [List.length_cons] at hf
    exact hC hpl hn d (fun x hx => hl x (List.mem_cons_of_mem _ hx)) hw (by omega)
  case unexplored =>
    refine fun h _ _ d _ hc _ _ => ?_
    unfold cleanChild at hc
    generalize explore _ _ _ = x at h hc
    cases h with
    | panic => cases hc
    | selector => cases hc
    | none => rfl
  case linkStop =>
    refine fun hx h hp hn d hmem hc _ _ => ?_
    obtain ⟨n', hd, _, _⟩ := cleanChild_step hn hmem hc hx
    rw [linkStep_plain hu.linkOnce hp] at h
    simp only [fetch, hu.skip, List.contains_nil, Bool.false_eq_true, if_false, storeGet_eq_lookup,
      show cfg.store.lookup _ = some n' from hd] at h
    cases h
  case linkGo =>
    refine fun hx hb hA hp hn d hmem hc hw hf => ?_
    obtain ⟨n', hd, hc', hstep⟩ := cleanChild_step hn hmem hc hx
    obtain ⟨hs, _, _⟩ := linkStep_some hb
    rw [deref_link hs] at hd
    cases hd
    exact hA (by rw [linkStep_plain hu.linkOnce hp]; exact hp) (hstore _ _ hs) d hc' (hw.step hstep)
      (Nat.le_of_succ_le_succ hf)
  case child =>
    refine fun hx hnl hA hp hn d hmem hc hw hf => ?_
    obtain ⟨n', hd, hc', hstep⟩ := cleanChild_step hn hmem hc hx
    rw [deref_nonlink hnl] at hd
    cases hd
    exact hA hp (childList_noDup hn hmem) d hc' (hw.step hstep) (Nat.le_of_succ_le_succ hf)

/-- a checkable form of `WidthLe` for selections of bounded depth -/
def widthWithin (store : Store) (W : Nat) : Nat → DM → S → Bool
  | 0, _, _ => true
  | depth + 1, n, s =>
    decide ((segsAt n s).length ≤ W) && (segsAt n s).all fun seg =>
      match stepAt store n s seg with
      | some (n', s') => widthWithin store W depth n' s'
      | none => true

theorem widthLe_of_within (store : Store) (W : Nat) : ∀ (d : Nat) (n : DM) (s : S),
    cleanFrom store d n s = true → widthWithin store W d n s = true → WidthLe store W n s
  | 0, _, _, hc, _ => by simp [cleanFrom] at hc
  | d + 1, n, s, hc, hw => by
    rw [widthWithin, Bool.and_eq_true, List.all_eq_true] at hw
    intro q n2 s2 hq
    cases q with
    | nil => rw [selectorAt_nil] at hq; cases hq; simpa using hw.1
    | cons seg rest =>
      obtain ⟨⟨n', s'⟩, hstep, hq⟩ := selectorAt_cons_some.1 hq
      obtain ⟨v, hm, hl, hx, hd⟩ := stepAt_some hstep
      obtain ⟨n'', hd', hc'⟩ := clean_step hc hm hl hx
      rw [hd] at hd'; cases hd'
      have hw' := hw.2 seg hm
      rw [hstep] at hw'
      exact widthLe_of_within store W d n' s' hc' hw' rest n2 s2 hq

end Walk
end Ipld

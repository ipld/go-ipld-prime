/-
  Representation-level assemblers: an accepted copy of a node (`putNode`) and every plan of that node (`Asm.Plan`; the
  canonical one is `Asm.planOf`: `AssembleEntry` for every map entry) end in the same state, the plan accepted call by call.
-/
import IpldModel.Lemmas.ReprAssemblerNode
import IpldModel.Lemmas.CopyPlan
namespace Ipld
namespace RAsm
open Ipld.Asm (Op Out ErrClass Plan planOf planList planKVs)
open Ipld.Schema (Ty Fields Members Field Member TL TLs TLKVs canonFields wrapPath Outcome)
open Ipld.TAsm (Phase Pos hasKey inInt64 Call int64s int64sL int64sM)

theorem stepPrim_hint (e : Engine) (s : St) (n m : Int) :
    stepPrim e s (.beginList n) = stepPrim e s (.beginList m) ∧
    stepPrim e s (.beginMap n) = stepPrim e s (.beginMap m) := by
  obtain ⟨T, fr, r, tt⟩ := s
  cases fr with
  | nil => cases r <;> exact ⟨rfl, rfl⟩
  | cons f rest =>
    cases f with
    | list _ _ _ mid _ | tuple _ _ mid _ => cases mid <;> exact ⟨rfl, rfl⟩
    | map _ _ _ ph _ | struct _ _ ph _ | union _ _ ph _ | dead ph => cases ph <;> exact ⟨rfl, rfl⟩

/-- `AssembleEntry(k)` is `AssembleKey().AssignString(k)` followed by `AssembleValue()` -/
theorem assembleEntry_of_key {e : Engine} (he : e.keyAsmDupMapKey = false) {s s1 s2 s3 : St} {k : Bytes}
    (h1 : stepPrim e s .assembleKey = (s1, .ok)) (h2 : stepPrim e s1 (.assign (.str k)) = (s2, .ok))
    (h3 : stepPrim e s2 .assembleValue = (s3, .ok)) : stepPrim e s (.assembleEntry k) = (s3, .ok) := by
  obtain ⟨f, f', rest, hf, hek, rfl⟩ := stepPrim_assembleKey_ok h1
  obtain ⟨t, fr, r, tt⟩ := s1
  simp only at hf; subst hf
  cases f with
  | list | tuple => cases hek
  | map vty vnul es ph w =>
    cases ph <;> cases hek
    simp only [stepPrim, keyPrim, supplyKey, he, Bool.not_false, Bool.and_true] at h2 ⊢
    split at h2
    · cases h2
    · rename_i hk
      cases h2; cases h3; simp [hk]
  | struct fs es ph w =>
    cases ph <;> cases hek
    simp only [stepPrim, keyPrim, supplyKey] at h2 ⊢
    split at h2
    · split at h2
      · cases h2
      · rename_i hu
        cases h2; cases h3; simp [hu]
    · split at h2
      · cases h2
      · rename_i hk
        cases h2; cases h3; simp [hk]
  | union ms cur ph w =>
    cases ph <;> cases hek
    simp only [stepPrim, keyPrim, supplyKey] at h2 ⊢
    split at h2
    · cases h2
    · rename_i hc
      cases h2; cases h3; simp [hc]
  | dead ph =>
    cases ph <;> cases hek
    simp only [stepPrim, errPrim, Asm.isScalar, if_true] at h2
    cases h2

theorem planCalls {e : Engine} (he : e.keyAsmDupMapKey = false) : (mach e).PlanCalls where
  tainted_prim s op := (stepPrim_hdr e s op).2
  hint := stepPrim_hint e
  entry := assembleEntry_of_key he

theorem plan_runs {e : Engine} (he : e.keyAsmDupMapKey = false) {d : DM} {ops : List Op} (hp : Plan d ops) {s s' : St}
    (ht : s.tainted = false) (h : putNode e s d = (s', .ok)) : Runs e s ops s' :=
  runs_iff_mach.2 (Mach.plan_runs (planCalls he) hp s s' ht ((putNode_eq e d s).symm.trans h))

theorem planList_runs {e : Engine} (he : e.keyAsmDupMapKey = false) : (xs : DMs) → (s s' : St) →
    s.tainted = false → putList e s xs = (s', .ok) → Runs e s (planList xs) s' := fun xs s s' ht h =>
  runs_iff_mach.2
    (Mach.planList_runs (planCalls he) (Asm.planList_planList xs) s s' ht ((putList_eq e xs s).symm.trans h))

theorem planKVs_runs {e : Engine} (he : e.keyAsmDupMapKey = false) : (es : DMKVs) → (s s' : St) →
    s.tainted = false → putKVs e s es = (s', .ok) → Runs e s (planKVs es) s' := fun es s s' ht h =>
  runs_iff_mach.2
    (Mach.planKVs_runs (planCalls he) (Asm.planKVs_planKVs es) s s' ht ((putKVs_eq e es s).symm.trans h))

theorem plan_builds {e : Engine} (he : e.keyAsmDupMapKey = false) {ty : Ty} (hwf : ty.wf = true)
    (hpl : plainR ty = true) {d : DM} {v : TL} (hb : Schema.build Schema.Engine.ideal .repr ty false none d = .ok v)
    (hi : int64s d = true) : Runs e (init ty) (planOf d) ⟨ty, [], some v, false⟩ := by
  have hspec := putNode_spec he d (init ty) ty false rfl hwf hpl hi
  rw [hb] at hspec
  exact plan_runs he (Asm.plan_planOf d) rfl hspec

end RAsm
end Ipld

/-
  Typed assemblers (Model/TypedAssembler.lean), call by call: the form of the state (`Shape`) decides which handler
  answers, and what a call other than `AssignNode` can answer (`Answer`) is proved once per handler.  `step` is
  `Mach.step` of `stepPrim` (`step_eq`), so what `AssignNode`, the mark and whole histories add comes from
  Lemmas/CopyMachine.lean.
-/
import IpldModel.Model.TypedAssembler
import IpldModel.Lemmas.BytesEq
import IpldModel.Lemmas.SchemaValues
import IpldModel.Lemmas.EraseHistory
import IpldModel.Lemmas.CopyMachine
namespace Ipld
namespace TAsm
open Ipld.Asm (Op Out ErrClass)
open Ipld.Schema (Ty Fields Field TL TLs TLKVs canonFields conforms)

theorem andThen_ok (s : St) (f : St → St × Out) : andThen (s, .ok) f = f s := rfl
theorem andThen_err (s : St) (c : ErrClass) (f : St → St × Out) : andThen (s, .err c) f = (s, .err c) := rfl
theorem andThen_panic (s : St) (f : St → St × Out) : andThen (s, .panic) f = (s, .panic) := rfl

theorem scalarOut_ok {ty : Ty} {nul : Bool} {d : DM} (h : scalarOut ty nul d = .ok) :
    Asm.isScalar d = true ∧ conforms ty nul (TL.ofDM d) = true ∧ int64s d = true := by
  cases d with
  | list _ => cases h
  | map _ => cases h
  | null =>
    simp only [scalarOut] at h
    split at h
    · rename_i hn; exact ⟨rfl, hn, rfl⟩
    · cases h
  | int i =>
    simp only [scalarOut] at h
    split at h
    · split at h
      · rename_i hi; exact ⟨rfl, rfl, hi⟩
      · cases h
    · cases h
  | _ =>
    simp only [scalarOut] at h
    split at h
    · exact ⟨rfl, rfl, rfl⟩
    · cases h

theorem scalarOut_of_conforms {ty : Ty} (hp : plain ty = true) {nul : Bool} {d : DM} (hs : Asm.isScalar d = true)
    (hc : conforms ty nul (TL.ofDM d) = true) : scalarOut ty nul d = if int64s d then .ok else .err .other := by
  -- a plain type a scalar conforms to is the scalar's own type
  cases d with
  | list _ | map _ => cases hs
  | null => simp only [scalarOut, show nul = true from hc, int64s, if_true]
  | bool _ => rcases Schema.conforms_bool_cases hc with rfl | rfl <;> first | rfl | cases hp
  | int _ => rcases Schema.conforms_int_cases hc with rfl | rfl <;> first | rfl | cases hp
  | float _ => rcases Schema.conforms_float_cases hc with rfl | rfl <;> first | rfl | cases hp
  | str _ => rcases Schema.conforms_str_cases hc with rfl | rfl | ⟨_, _, rfl, _⟩ <;> first | rfl | cases hp
  | bytes _ => rcases Schema.conforms_bytes_cases hc with rfl | rfl <;> first | rfl | cases hp
  | link _ => rcases Schema.conforms_link_cases hc with rfl | rfl <;> first | rfl | cases hp

theorem scalarOut_ok_iff {ty : Ty} (hp : plain ty = true) (nul : Bool) {d : DM} (hs : Asm.isScalar d = true) :
    scalarOut ty nul d = .ok ↔ (conforms ty nul (TL.ofDM d) && int64s d) = true := by
  constructor
  · intro h
    rw [(scalarOut_ok h).2.1, (scalarOut_ok h).2.2]; rfl
  · intro h
    simp only [Bool.and_eq_true] at h
    rw [scalarOut_of_conforms hp hs h.1, if_pos h.2]

theorem scalarOut_ne_panic {ty : Ty} {nul : Bool} {d : DM} (hs : Asm.isScalar d = true) :
    scalarOut ty nul d ≠ .panic := by
  cases d with
  | list _ => cases hs
  | map _ => cases hs
  | int i =>
    simp only [scalarOut]
    split
    · split <;> exact nofun
    · exact nofun
  | null => simp only [scalarOut]; split <;> exact nofun
  | _ => simp only [scalarOut]; split <;> exact nofun

/-- the current object is a key assembler -/
def inKey (s : St) : Bool :=
  match s.frames with
  | .map _ _ _ .midKey :: _ => true
  | .struct _ _ .midKey :: _ => true
  | _ => false

/-- The states, by the kind of the current object: `Shape s p` lists the forms a state `s` with `pos s = p` has. -/
inductive Shape : St → Pos → Prop
  | root (T : Ty) (tt : Bool) : Shape ⟨T, [], none, tt⟩ (.value T false)
  | elem (T : Ty) (ety : Ty) (enul : Bool) (xs : List TL) (rest : List Frame) (r : Option TL) (tt : Bool) :
      Shape ⟨T, .list ety enul xs true :: rest, r, tt⟩ (.value ety enul)
  | mapValue (T : Ty) (vty : Ty) (vnul : Bool) (es : List (Bytes × TL)) (k : Bytes) (rest : List Frame)
      (r : Option TL) (tt : Bool) : Shape ⟨T, .map vty vnul es (.midValue k) :: rest, r, tt⟩ (.value vty vnul)
  | field (T : Ty) {fs : List Field} (es : List (Bytes × TL)) {k : Bytes} {f : Field} (hf : fieldOf fs k = some f)
      (rest : List Frame) (r : Option TL) (tt : Bool) :
      Shape ⟨T, .struct fs es (.midValue k) :: rest, r, tt⟩ (.value f.ty f.nullable)
  | noField (T : Ty) {fs : List Field} (es : List (Bytes × TL)) {k : Bytes} (hf : fieldOf fs k = none)
      (rest : List Frame) (r : Option TL) (tt : Bool) : Shape ⟨T, .struct fs es (.midValue k) :: rest, r, tt⟩ .errAsm
  | mapKey (T : Ty) (vty : Ty) (vnul : Bool) (es : List (Bytes × TL)) (rest : List Frame) (r : Option TL) (tt : Bool) :
      Shape ⟨T, .map vty vnul es .midKey :: rest, r, tt⟩ .key
  | structKey (T : Ty) (fs : List Field) (es : List (Bytes × TL)) (rest : List Frame) (r : Option TL) (tt : Bool) :
      Shape ⟨T, .struct fs es .midKey :: rest, r, tt⟩ .key
  | built (T : Ty) (v : TL) (tt : Bool) : Shape ⟨T, [], some v, tt⟩ .other
  | list (T : Ty) (ety : Ty) (enul : Bool) (xs : List TL) (rest : List Frame) (r : Option TL) (tt : Bool) :
      Shape ⟨T, .list ety enul xs false :: rest, r, tt⟩ .other
  | mapInit (T : Ty) (vty : Ty) (vnul : Bool) (es : List (Bytes × TL)) (rest : List Frame) (r : Option TL) (tt : Bool) :
      Shape ⟨T, .map vty vnul es .init :: rest, r, tt⟩ .other
  | mapExpect (T : Ty) (vty : Ty) (vnul : Bool) (es : List (Bytes × TL)) (k : Bytes) (rest : List Frame)
      (r : Option TL) (tt : Bool) : Shape ⟨T, .map vty vnul es (.expectValue k) :: rest, r, tt⟩ .other
  | structInit (T : Ty) (fs : List Field) (es : List (Bytes × TL)) (rest : List Frame) (r : Option TL) (tt : Bool) :
      Shape ⟨T, .struct fs es .init :: rest, r, tt⟩ .other
  | structExpect (T : Ty) (fs : List Field) (es : List (Bytes × TL)) (k : Bytes) (rest : List Frame)
      (r : Option TL) (tt : Bool) : Shape ⟨T, .struct fs es (.expectValue k) :: rest, r, tt⟩ .other

theorem shape (s : St) : Shape s (pos s) := by
  obtain ⟨T, fr, r, tt⟩ := s
  cases fr with
  | nil => cases r <;> constructor
  | cons f rest =>
    cases f with
    | list ety enul xs mid => cases mid <;> constructor
    | map vty vnul es ph => cases ph <;> constructor
    | struct fs es ph =>
      cases ph with
      | midValue k =>
        cases hf : fieldOf fs k with
        | none => simp only [pos, posOf, hf]; exact .noField T es hf rest r tt
        | some f => simp only [pos, posOf, hf]; exact .field T es hf rest r tt
      | _ => constructor

theorem shape_of_pos {s : St} {p : Pos} (hp : pos s = p) : Shape s p := hp ▸ shape s

theorem stepPrim_at_value {e : Engine} {s : St} {ty : Ty} {nul : Bool} (hp : pos s = .value ty nul) (op : Op) :
    stepPrim e s op = valuePrim s ty nul op := by
  cases shape_of_pos hp with
  | field _ _ hf => simp only [stepPrim, hf]
  | _ => rfl

theorem stepPrim_at_key {e : Engine} {s : St} (hp : pos s = .key) (op : Op) :
    stepPrim e s op = keyPrim e s op := by
  cases shape_of_pos hp <;> rfl

theorem stepPrim_at_errAsm {e : Engine} {s : St} (hp : pos s = .errAsm) (op : Op) :
    stepPrim e s op = errPrim s op := by
  cases shape_of_pos hp with
  | noField _ _ hf => simp only [stepPrim, hf]

theorem pos_key_iff_inKey (s : St) : pos s = .key ↔ inKey s = true := by
  have h := shape s
  generalize pos s = p at h
  cases h <;> simp [inKey]

theorem deliver_ok_of_pos {s : St} {ty : Ty} {nul : Bool} (hp : pos s = .value ty nul) {v : TL} :
    (deliver s v).2 = .ok := by
  cases shape_of_pos hp with
  | field _ _ hf => simp only [deliver, hf]
  | _ => rfl

theorem deliver_struct {T : Ty} {fs : List Field} {es : List (Bytes × TL)} {k : Bytes} {rest : List Frame}
    {r : Option TL} {tt : Bool} {f : Field} (hf : fieldOf fs k = some f) (w : TL) :
    deliver ⟨T, .struct fs es (.midValue k) :: rest, r, tt⟩ w =
      (⟨T, .struct fs (es ++ [(k, w)]) .init :: rest, r, tt⟩, .ok) := by
  simp only [deliver, hf]

theorem errPrim_cases (s : St) (op : Op) : errPrim s op = (s, .err .other) ∨ errPrim s op = (s, .panic) := by
  cases op with
  | assign v =>
    simp only [errPrim]
    split
    · exact .inl rfl
    · exact .inr rfl
  | beginMap n => exact .inl rfl
  | beginList n => exact .inl rfl
  | _ => exact .inr rfl

theorem errPrim_state (s : St) (op : Op) : (errPrim s op).1 = s := by
  rcases errPrim_cases s op with h | h <;> rw [h]

theorem errPrim_ne_ok {s s' : St} {op : Op} : errPrim s op ≠ (s', .ok) := by
  rcases errPrim_cases s op with h | h <;> rw [h] <;> exact nofun

theorem plain_conforms_list {t : Ty} {nul : Bool} {xs : TLs} (hpl : plain t = true)
    (hc : conforms t nul (.list xs) = true) : ∃ ety enul, t = .list ety enul := by
  rcases Schema.conforms_list_cases hc with ⟨ety, enul, rfl, _⟩ | ⟨rfl, _⟩
  · exact ⟨_, _, rfl⟩
  · cases hpl

theorem plain_conforms_map {t : Ty} {nul : Bool} {es : TLKVs} (hpl : plain t = true)
    (hc : conforms t nul (.map es) = true) : (∃ vty vnul, t = .map vty vnul) ∨ ∃ F r, t = .struct F r := by
  rcases Schema.conforms_map_cases hc with ⟨_, _, rfl, _⟩ | ⟨_, _, rfl, _⟩ | ⟨_, _, _, _, _, rfl, _⟩ | ⟨rfl, _⟩
  · exact .inl ⟨_, _, rfl⟩
  · exact .inr ⟨_, _, rfl⟩
  · cases hpl
  · cases hpl

theorem valuePrim_beginList_refused {s : St} {t : Ty} {nul : Bool} (h : ¬∃ ety enul, t = .list ety enul) (n : Int) :
    valuePrim s t nul (.beginList n) = (s, .err .wrongKind) := by
  simp only [valuePrim]
  split
  · exact absurd ⟨_, _, rfl⟩ h
  · rfl

theorem valuePrim_beginMap_refused {s : St} {t : Ty} {nul : Bool}
    (h : ¬((∃ vty vnul, t = .map vty vnul) ∨ ∃ F r, t = .struct F r)) (n : Int) :
    valuePrim s t nul (.beginMap n) = (s, .err .wrongKind) := by
  simp only [valuePrim]
  split
  · exact absurd (.inl ⟨_, _, rfl⟩) h
  · exact absurd (.inr ⟨_, _, rfl⟩) h
  · rfl

/-- the frame `BeginMap` / `BeginList` opens at a value assembler of the type -/
inductive Begins : Ty → Op → Frame → Prop
  | map (vty : Ty) (vnul : Bool) (n : Int) : Begins (.map vty vnul) (.beginMap n) (.map vty vnul [] .init)
  | struct (fs : Fields) (r : Schema.StructRepr) (n : Int) :
      Begins (.struct fs r) (.beginMap n) (.struct fs.toList [] .init)
  | list (ety : Ty) (enul : Bool) (n : Int) : Begins (.list ety enul) (.beginList n) (.list ety enul [] false)

theorem valuePrim_cases (s : St) (ty : Ty) (nul : Bool) (op : Op) :
    (∃ v, op = .assign v ∧ scalarOut ty nul v = .ok ∧ valuePrim s ty nul op = deliver s (TL.ofDM v)) ∨
    (∃ g, Begins ty op g ∧ valuePrim s ty nul op = ({ s with frames := g :: s.frames }, .ok)) ∨
    (∃ o, o ≠ .ok ∧ valuePrim s ty nul op = (s, o)) := by
  cases op with
  | assign v =>
    simp only [valuePrim]
    cases ho : scalarOut ty nul v with
    | ok => exact .inl ⟨v, rfl, ho, rfl⟩
    | err c => exact .inr (.inr ⟨.err c, nofun, rfl⟩)
    | panic => exact .inr (.inr ⟨.panic, nofun, rfl⟩)
  | beginMap n =>
    simp only [valuePrim]
    split
    · exact .inr (.inl ⟨_, .map _ _ n, rfl⟩)
    · exact .inr (.inl ⟨_, .struct _ _ n, rfl⟩)
    · exact .inr (.inr ⟨.err .wrongKind, nofun, rfl⟩)
  | beginList n =>
    simp only [valuePrim]
    split
    · exact .inr (.inl ⟨_, .list _ _ n, rfl⟩)
    · exact .inr (.inr ⟨.err .wrongKind, nofun, rfl⟩)
  | _ => exact .inr (.inr ⟨.panic, nofun, rfl⟩)

def SameHdr (s s' : St) : Prop := s'.ty = s.ty ∧ s'.tainted = s.tainted

theorem SameHdr.refl {s : St} : SameHdr s s := ⟨rfl, rfl⟩

theorem SameHdr.trans {a b c : St} (h1 : SameHdr a b) (h2 : SameHdr b c) : SameHdr a c :=
  ⟨h2.1.trans h1.1, h2.2.trans h1.2⟩

/-- `s'` is `s` with its key assembler ended: the map / struct assembler is back where it was before
    `AssembleKey`. -/
def KeyReset (s s' : St) : Prop :=
  (∃ vty vnul es rest, s.frames = .map vty vnul es .midKey :: rest ∧
      s' = { s with frames := .map vty vnul es .init :: rest }) ∨
  (∃ fs es rest, s.frames = .struct fs es .midKey :: rest ∧
      s' = { s with frames := .struct fs es .init :: rest })

theorem KeyReset.inKey {s s' : St} (h : KeyReset s s') : inKey s = true := by
  rcases h with ⟨_, _, _, _, hf, _⟩ | ⟨_, _, _, hf, _⟩ <;> simp [TAsm.inKey, hf]

theorem KeyReset.not_inKey {s s' : St} (h : KeyReset s s') : TAsm.inKey s' = false := by
  rcases h with ⟨_, _, _, _, _, rfl⟩ | ⟨_, _, _, _, rfl⟩ <;> simp [TAsm.inKey]

theorem KeyReset.unique {s s1 s2 : St} (h1 : KeyReset s s1) (h2 : KeyReset s s2) : s1 = s2 := by
  rcases h1 with ⟨_, _, _, _, hf1, rfl⟩ | ⟨_, _, _, hf1, rfl⟩ <;>
  rcases h2 with ⟨_, _, _, _, hf2, rfl⟩ | ⟨_, _, _, hf2, rfl⟩ <;>
  (rw [hf1] at hf2; cases hf2 <;> rfl)

theorem KeyReset.hdr {s s' : St} (h : KeyReset s s') : SameHdr s s' := by
  rcases h with ⟨_, _, _, _, _, rfl⟩ | ⟨_, _, _, _, rfl⟩ <;> exact ⟨rfl, rfl⟩

/-- The answers to a call other than `AssignNode` made in state `s`: misuse; a refusal, which leaves the state as it was
    or ends the key assembler (a repeated key; a name that is no field, for an engine with `unknownAtKey`); acceptance,
    after which no key assembler is out - unless the call was `AssembleKey`, which hands one out.  The builder's type and
    the mark stay throughout. -/
inductive Answer (e : Engine) (s : St) (op : Op) : St × Out → Prop
  | panic {s' : St} : SameHdr s s' → Answer e s op (s', .panic)
  | refused (c : ErrClass) : Answer e s op (s, .err c)
  | keyEnded {s' : St} {c : ErrClass} : KeyReset s s' → (c = .repeatedKey ∨ (c = .other ∧ e.unknownAtKey = true)) →
      Answer e s op (s', .err c)
  | ok {s' : St} : op ≠ .assembleKey → SameHdr s s' → inKey s' = false → Answer e s op (s', .ok)
  | key {s' : St} : op = .assembleKey → KeyReset s' s → Answer e s op (s', .ok)

theorem deliver_cases (s : St) (v : TL) :
    deliver s v = (s, .panic) ∨ ∃ s', deliver s v = (s', .ok) ∧ SameHdr s s' ∧ inKey s' = false := by
  unfold deliver
  split
  · rename_i hf
    split
    · exact .inr ⟨_, rfl, ⟨rfl, rfl⟩, by simp only [inKey, hf]⟩
    · exact .inl rfl
  · exact .inr ⟨_, rfl, ⟨rfl, rfl⟩, rfl⟩
  · exact .inr ⟨_, rfl, ⟨rfl, rfl⟩, rfl⟩
  · split
    · exact .inr ⟨_, rfl, ⟨rfl, rfl⟩, rfl⟩
    · exact .inl rfl
  · exact .inl rfl

theorem Answer.of_deliver {e : Engine} {s s0 : St} {op : Op} {v : TL} (hop : op ≠ .assembleKey) (h : SameHdr s s0) :
    Answer e s op (deliver s0 v) := by
  rcases deliver_cases s0 v with hd | ⟨s', hd, hs, hk⟩ <;> rw [hd]
  · exact .panic h
  · exact .ok hop (h.trans hs) hk

theorem valuePrim_answer (e : Engine) (s : St) (ty : Ty) (nul : Bool) {op : Op} (hop : op ≠ .assembleKey) :
    Answer e s op (valuePrim s ty nul op) := by
  rcases valuePrim_cases s ty nul op with ⟨v, _, _, h1⟩ | ⟨g, hg, h1⟩ | ⟨o, _, h1⟩ <;> rw [h1]
  · exact .of_deliver hop SameHdr.refl
  · exact .ok hop ⟨rfl, rfl⟩ (by cases hg <;> rfl)
  · cases o with
    | ok => contradiction
    | err c => exact .refused c
    | panic => exact .panic SameHdr.refl

theorem valuePrim_err {s s' : St} {ty : Ty} {nul : Bool} {op : Op} {c : ErrClass}
    (h : valuePrim s ty nul op = (s', .err c)) : s' = s := by
  rcases valuePrim_cases s ty nul op with ⟨v, _, _, h1⟩ | ⟨g, _, h1⟩ | ⟨o, _, h1⟩ <;> rw [h1] at h
  · rcases deliver_cases s (TL.ofDM v) with hd | ⟨_, hd, _⟩ <;> rw [hd] at h <;> cases h
  · cases h
  · exact (Prod.mk.inj h).1.symm

theorem supplyKey_answer (e : Engine) (s : St) (k : Bytes) {op : Op} (hop : op ≠ .assembleKey) :
    Answer e s op (supplyKey e s k) := by
  unfold supplyKey
  split
  · rename_i vty vnul es rest hf
    split
    · exact .keyEnded (Or.inl ⟨vty, vnul, es, rest, hf, rfl⟩) (Or.inl rfl)
    · exact .ok hop ⟨rfl, rfl⟩ rfl
  · rename_i fs es rest hf
    split
    · split
      · rename_i hu
        exact .keyEnded (Or.inr ⟨fs, es, rest, hf, rfl⟩) (Or.inr ⟨rfl, hu⟩)
      · exact .ok hop ⟨rfl, rfl⟩ rfl
    · split
      · exact .keyEnded (Or.inr ⟨fs, es, rest, hf, rfl⟩) (Or.inl rfl)
      · exact .ok hop ⟨rfl, rfl⟩ rfl
  · exact .panic SameHdr.refl

theorem stepPrim_answer (e : Engine) (s : St) (op : Op) : Answer e s op (stepPrim e s op) := by
  by_cases hop : op = .assembleKey
  · subst hop
    have h := shape s
    generalize pos s = p at h
    cases h with
    | mapInit T vty vnul es rest => exact .key rfl (.inl ⟨vty, vnul, es, rest, rfl, rfl⟩)
    | structInit T fs es rest => exact .key rfl (.inr ⟨fs, es, rest, rfl, rfl⟩)
    | field _ _ hf => simp only [stepPrim, hf]; exact .panic SameHdr.refl
    | noField _ _ hf => simp only [stepPrim, hf]; exact .panic SameHdr.refl
    | _ => exact .panic SameHdr.refl
  · cases hpos : pos s with
    | value t nul => rw [stepPrim_at_value hpos]; exact valuePrim_answer e s t nul hop
    | key =>
      rw [stepPrim_at_key hpos]
      unfold keyPrim
      split
      · exact supplyKey_answer e s _ hop
      all_goals first | exact .refused _ | exact .panic SameHdr.refl
    | errAsm =>
      rw [stepPrim_at_errAsm hpos]
      rcases errPrim_cases s op with h | h <;> rw [h]
      · exact .refused _
      · exact .panic SameHdr.refl
    | other =>
      cases shape_of_pos hpos with
      | built => exact .panic SameHdr.refl
      | list =>
        simp only [stepPrim]
        split
        · exact .ok hop ⟨rfl, rfl⟩ rfl
        · exact .of_deliver hop ⟨rfl, rfl⟩
        · exact .panic SameHdr.refl
      | mapInit =>
        simp only [stepPrim]
        split
        · exact absurd rfl hop
        · split
          · exact .refused _
          · exact .ok hop ⟨rfl, rfl⟩ rfl
        · exact .of_deliver hop ⟨rfl, rfl⟩
        · exact .panic SameHdr.refl
      | mapExpect =>
        simp only [stepPrim]
        split
        · exact .ok hop ⟨rfl, rfl⟩ rfl
        · exact .panic SameHdr.refl
      | structInit =>
        simp only [stepPrim]
        split
        · exact absurd rfl hop
        · split <;> split <;> first | exact .refused _ | exact .ok hop ⟨rfl, rfl⟩ rfl
        · split
          · exact .of_deliver hop ⟨rfl, rfl⟩
          · exact .refused _
        · exact .panic SameHdr.refl
      | structExpect =>
        simp only [stepPrim]
        split
        · exact .ok hop ⟨rfl, rfl⟩ rfl
        · exact .panic SameHdr.refl

theorem stepPrim_err {e : Engine} {s s' : St} {op : Op} {c : ErrClass} (h : stepPrim e s op = (s', .err c)) :
    s' = s ∨ (KeyReset s s' ∧ (c = .repeatedKey ∨ (c = .other ∧ e.unknownAtKey = true))) := by
  have := stepPrim_answer e s op
  rw [h] at this
  cases this with
  | refused => exact Or.inl rfl
  | keyEnded hk hc => exact Or.inr ⟨hk, hc⟩

theorem stepPrim_ok_not_inKey {e : Engine} {s s' : St} {op : Op} (h : stepPrim e s op = (s', .ok))
    (hop : op ≠ .assembleKey) : inKey s' = false := by
  have := stepPrim_answer e s op
  rw [h] at this
  cases this with
  | ok _ _ hk => exact hk
  | key hop' => exact absurd hop' hop

theorem stepPrim_hdr (e : Engine) (s : St) (op : Op) : SameHdr s (stepPrim e s op).1 := by
  have h := stepPrim_answer e s op
  generalize stepPrim e s op = r at h
  cases h with
  | panic hs => exact hs
  | refused => exact SameHdr.refl
  | keyEnded hk => exact hk.hdr
  | ok _ hs => exact hs
  | key _ hk => exact ⟨hk.hdr.1.symm, hk.hdr.2.symm⟩

@[reducible] def mach (e : Engine) : Mach St :=
  ⟨stepPrim e, (·.tainted), fun s => { s with tainted := true }, e.anPartial⟩

theorem andThen_eq (r : St × Out) (f : St → St × Out) : andThen r f = Mach.andThen r f := by
  obtain ⟨s, o⟩ := r
  cases o <;> rfl

mutual
theorem putNode_eq (e : Engine) : (v : DM) → (s : St) → putNode e s v = (mach e).putNode s v
  | .list xs => fun s => by simp only [putNode, Mach.putNode, andThen_eq, putList_eq e xs]
  | .map es => fun s => by simp only [putNode, Mach.putNode, andThen_eq, putKVs_eq e es]
  | .null | .bool _ | .int _ | .float _ | .str _ | .bytes _ | .link _ => fun s => rfl
theorem putList_eq (e : Engine) : (xs : DMs) → (s : St) → putList e s xs = (mach e).putList s xs
  | .nil => fun s => rfl
  | .cons x xs => fun s => by simp only [putList, Mach.putList, andThen_eq, putNode_eq e x, putList_eq e xs]
theorem putKVs_eq (e : Engine) : (es : DMKVs) → (s : St) → putKVs e s es = (mach e).putKVs s es
  | .nil => fun s => rfl
  | .cons k v es => fun s => by simp only [putKVs, Mach.putKVs, andThen_eq, putNode_eq e v, putKVs_eq e es]
end

theorem step_eq (e : Engine) : step e = (mach e).step := by
  funext s op
  unfold step Mach.step stepU Mach.stepU
  cases op with
  | assignNode v =>
    simp only [putNode_eq]
    rcases (mach e).putNode s v with ⟨s', _ | _ | _⟩ <;> rfl
  | _ => rfl

theorem step_prim {e : Engine} {s : St} (ht : s.tainted = false) {op : Op} {r : St × Out} (h : stepPrim e s op = r)
    (hop : ∀ v, op ≠ .assignNode v) : step e s op = r := by
  rw [step_eq]
  exact Mach.step_prim ht h hop

theorem keyed (e : Engine) :
    (mach e).Keyed inKey KeyReset fun c => c = .repeatedKey ∨ (c = .other ∧ e.unknownAtKey = true) where
  err := stepPrim_err
  ok := stepPrim_ok_not_inKey
  key {s s'} h := by
    have ha := stepPrim_answer e s .assembleKey
    rw [show stepPrim e s .assembleKey = (s', .ok) from h] at ha
    cases ha with
    | ok hop => exact absurd rfl hop
    | key _ hk => exact hk
  ended h := ⟨h.inKey, h.not_inKey⟩
  unique := KeyReset.unique
  marked _ := rfl

theorem step_case (e : Engine) (s : St) (op : Op) : Mach.StepCase (mach e) s op (step e s op) :=
  step_eq e ▸ Mach.step_case (mach e) s op

/-- What a refused call leaves behind (`typed_reject_no_effect`, Props/C12typed.lean, says it of `step_err` below), with
    the class of the error on which a key assembler ends: a repeated key, or (`unknownAtKey`) a name that is no field. -/
theorem step_refused {e : Engine} {s s' : St} {op : Op} {c : ErrClass} (h : step e s op = (s', .err c)) :
    s' = s ∨ (KeyReset s s' ∧ (c = .repeatedKey ∨ (c = .other ∧ e.unknownAtKey = true))) ∨
    (e.anPartial = true ∧ s' = { s with tainted := true } ∧ ∃ v, op = .assignNode v ∧ isRec v = true) :=
  (keyed e).step_err (step_eq e ▸ h)

theorem step_err {e : Engine} {s s' : St} {op : Op} {c : ErrClass} (h : step e s op = (s', .err c)) :
    s' = s ∨ KeyReset s s' ∨
    (e.anPartial = true ∧ s' = { s with tainted := true } ∧ ∃ v, op = .assignNode v ∧ isRec v = true) :=
  (step_refused h).imp_right (Or.imp_left And.left)

theorem not_tainted_of_no_panic {e : Engine} {s s' : St} {op : Op} {o : Out} (h : step e s op = (s', o))
    (ho : o ≠ .panic) : s.tainted = false := by
  unfold step at h
  split at h
  · exact absurd (Prod.mk.inj h).2.symm ho
  · rename_i ht
    simpa using ht

theorem step_of_not_tainted {e : Engine} {s : St} (ht : s.tainted = false) (op : Op) :
    step e s op = stepU e s op := by
  unfold step
  simp [ht]

def Runs (e : Engine) (s : St) (ops : List Op) (s' : St) : Prop :=
  run e s ops = (s', List.replicate ops.length .ok)

theorem run_eq_hist (e : Engine) : run e = Hist.run (step e) := by
  funext s h
  induction h generalizing s with
  | nil => rfl
  | cons op ops ih =>
    simp only [run, Hist.run, ih]
    rcases step e s op with ⟨s', _ | _ | _⟩ <;> rfl

theorem runs_iff_mach {e : Engine} {s s' : St} {ops : List Op} : Runs e s ops s' ↔ Hist.Runs (mach e).step s ops s' := by
  unfold Runs Hist.Runs
  rw [run_eq_hist, step_eq]

theorem Runs.single {e : Engine} {s s1 : St} {op : Op} (h1 : step e s op = (s1, .ok)) : Runs e s [op] s1 :=
  runs_iff_mach.2 (Hist.Runs.cons (step_eq e ▸ h1) rfl)

theorem Runs.append {e : Engine} {s s1 s' : St} {a b : List Op} (h1 : Runs e s a s1) (h2 : Runs e s1 b s') :
    Runs e s (a ++ b) s' :=
  runs_iff_mach.2 (Hist.Runs.append (runs_iff_mach.1 h1) (runs_iff_mach.1 h2))

theorem putList_hdr (e : Engine) : (xs : DMs) → (s : St) → SameHdr s (putList e s xs).1 := fun xs s =>
  putList_eq e xs s ▸ Mach.putList_state (mach e) (P := SameHdr s)
    (fun s1 op h => h.trans (stepPrim_hdr e s1 op)) xs s SameHdr.refl

theorem putKVs_hdr (e : Engine) : (es : DMKVs) → (s : St) → SameHdr s (putKVs e s es).1 := fun es s =>
  putKVs_eq e es s ▸ Mach.putKVs_state (mach e) (P := SameHdr s)
    (fun s1 op h => h.trans (stepPrim_hdr e s1 op)) es s SameHdr.refl

theorem step_hdr (e : Engine) (s : St) (op : Op) :
    (step e s op).1.ty = s.ty ∧ ((step e s op).1.tainted = s.tainted ∨ e.anPartial = true) := by
  rw [step_eq]
  exact ⟨Mach.step_state (mach e) (P := fun x => x.ty = s.ty) (fun s1 op h => (stepPrim_hdr e s1 op).1.trans h)
      (fun _ h => h) s op rfl,
    Mach.step_tainted (mach e) (fun s1 op => (stepPrim_hdr e s1 op).2) s op⟩

theorem run_ty (e : Engine) (s : St) (h : List Op) : (run e s h).1.ty = s.ty :=
  run_eq_hist e ▸ Hist.run_state (P := fun s' => s'.ty = s.ty) (fun s1 op h1 => (step_hdr e s1 op).1.trans h1) h s rfl

theorem run_not_tainted {e : Engine} (he : e.anPartial = false) (s : St) (h : List Op) :
    (run e s h).1.tainted = s.tainted :=
  run_eq_hist e ▸ Hist.run_state (P := fun s' => s'.tainted = s.tainted)
    (fun s1 op h1 => ((step_hdr e s1 op).2.resolve_right (by rw [he]; nofun)).trans h1) h s rfl

end TAsm
end Ipld

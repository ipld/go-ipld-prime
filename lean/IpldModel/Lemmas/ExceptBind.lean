/-
  `Except ε` as the decoders use it: what `>>=` does on `ok`, on `error` and under an `if`, and what a
  successful `>>=` or `if` says of its parts.
-/
namespace Ipld

variable {ε α β : Type}

theorem ok_bind (a : α) (f : α → Except ε β) : (Except.ok a >>= f) = f a := rfl

theorem error_bind (e : ε) (f : α → Except ε β) : ((Except.error e : Except ε α) >>= f) = .error e := rfl

theorem ite_bind {c : Prop} [Decidable c] (a b : Except ε α) (f : α → Except ε β) :
    ((if c then a else b) >>= f) = if c then a >>= f else b >>= f := by split <;> rfl

theorem bind_ok {x : Except ε α} {f : α → Except ε β} {b : β} (h : (x >>= f) = .ok b) :
    ∃ a, x = .ok a ∧ f a = .ok b := by
  cases x with
  | error e => cases h
  | ok a => exact ⟨a, rfl, h⟩

theorem bind_congr_ok {x : Except ε α} {f g : α → Except ε β} (h : ∀ a, x = .ok a → f a = g a) :
    (x >>= f) = (x >>= g) := by
  cases x with
  | error e => rfl
  | ok a => exact h a rfl

theorem eq_ok_of_toOption {e : Except ε α} {a : α} (h : e.toOption = some a) : e = .ok a := by
  cases e with
  | error _ => cases h
  | ok _ => exact congrArg Except.ok (Option.some.inj h)

theorem ite_ok {c : Prop} [Decidable c] {x y : Except ε α} {a : α} {P : Prop}
    (h : (if c then x else y) = .ok a) (h1 : c → x = .ok a → P) (h2 : ¬ c → y = .ok a → P) : P := by
  split at h
  · exact h1 ‹_› h
  · exact h2 ‹_› h

theorem ite_cases {α : Sort _} {c : Prop} [Decidable c] {x y z : α} (h1 : c → x = z) (h2 : ¬ c → y = z) :
    (if c then x else y) = z := by
  split
  · exact h1 ‹_›
  · exact h2 ‹_›

theorem bind_ne_error {x : Except ε α} {f : α → Except ε β} {e : ε} (hx : x ≠ .error e)
    (hf : ∀ a, f a ≠ .error e) : x >>= f ≠ .error e := by
  cases x with
  | error e' => exact fun h => hx (congrArg Except.error (Except.error.inj h))
  | ok a => exact hf a

end Ipld

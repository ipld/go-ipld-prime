/-
  The model encoder (sort the encoded entries, then emit) against the Spec's canonical encoder (order the value,
  then write it): both list the entries of a map alike (`CanonBy.toList` at `canonCbor`).
-/
import IpldModel.Lemmas.CanonOrder
namespace Ipld
namespace Cbor

theorem encode_eq_some {cfg : EncCfg} {v : DM} {b : Bytes} (h : encode cfg v = some b) :
    encodable cfg v = true ∧ b = enc cfg v := by
  unfold encode at h
  split at h
  · exact ⟨‹_›, (Option.some.inj h).symm⟩
  · cases h

theorem encKVs_eq_map (cfg : EncCfg) : (es : DMKVs) →
    encKVs cfg es = es.toList.map (fun e => (e.1, enc cfg e.2))
  | .nil => rfl
  | .cons k v es => by simp [encKVs, DMKVs.toList, encKVs_eq_map cfg es]

theorem encKVs_keys (cfg : EncCfg) (es : DMKVs) : (encKVs cfg es).map (·.1) = es.keys := by
  rw [encKVs_eq_map]; simp [DMKVs.keys, List.map_map, Function.comp_def]

theorem encList_eq (cfg : EncCfg) : (xs : DMs) →
    encList cfg xs = (xs.toList.map (enc cfg)).flatten
  | .nil => rfl
  | .cons x xs => by simp [encList, DMs.toList, encList_eq cfg xs]

theorem flattenPairs_length_perm {l₁ l₂ : List (Bytes × Bytes)} (p : l₁.Perm l₂) :
    (flattenPairs l₁).length = (flattenPairs l₂).length :=
  (p.flatMap_right _).length_eq

theorem encInt_length (i : Int) : (encInt i).length = (if 0 ≤ i then uintLength i.toNat else uintLength (-1 - i).toNat) := by
  unfold encInt; split <;> simp [head_length]

mutual
theorem enc_length (cfg : EncCfg) : (d : DM) → (enc cfg d).length = encodedLength d
  | .null | .bool true | .bool false => rfl
  | .int i => by simp only [enc, encodedLength]; exact encInt_length i
  | .float b => by simp [enc, encodedLength, encFloat, beBytes_length]
  | .str s => by simp [enc, encodedLength, encStr, head_length]
  | .bytes s => by simp [enc, encodedLength, encBytes, head_length]
  | .link c => by simp [enc, encodedLength, encLink, head_length]; omega
  | .list xs => by
    simp only [enc, encodedLength, List.length_append, head_length, encList_length cfg xs]
  | .map es => by
    simp only [enc, encodedLength, List.length_append, head_length]
    rw [flattenPairs_length_perm (sortPairs_perm cfg.sort _), encKVs_length cfg es]
theorem encList_length (cfg : EncCfg) : (xs : DMs) → (encList cfg xs).length = encodedLengthList xs
  | .nil => rfl
  | .cons x xs => by simp [encList, encodedLengthList, enc_length cfg x, encList_length cfg xs]
theorem encKVs_length (cfg : EncCfg) : (es : DMKVs) → (flattenPairs (encKVs cfg es)).length = encodedLengthKVs es
  | .nil => rfl
  | .cons k v es => by
    have ih := encKVs_length cfg es
    simp only [flattenPairs, encKVs, List.flatMap_cons, List.length_append, encodedLengthKVs] at ih ⊢
    rw [ih, enc_length cfg v]; simp [encStr, head_length]
end

theorem encOrderedKVs_eq : (es : DMKVs) →
    Spec.encOrderedKVs es = flattenPairs (es.toList.map (fun e => (e.1, Spec.encOrdered e.2)))
  | .nil => rfl
  | .cons k v es => by
    have ih := encOrderedKVs_eq es
    simp only [Spec.encOrderedKVs, DMKVs.toList, List.map_cons, flattenPairs, List.flatMap_cons] at ih ⊢
    rw [ih]
    simp [encStr, head_eq_shortest, List.append_assoc]

mutual
theorem enc_eq_canon : (d : DM) → d.NoDup → enc dagcborEnc d = Spec.canonEncode d
  | .null, _ | .bool true, _ | .bool false, _ => rfl
  | .int i, _ => by simp [enc, Spec.canonEncode, Spec.canon, Spec.encOrdered, encInt, head_eq_shortest]
  | .float b, _ => by simp [enc, Spec.canonEncode, Spec.canon, Spec.encOrdered, encFloat, spec_be_eq]
  | .str s, _ => by simp [enc, Spec.canonEncode, Spec.canon, Spec.encOrdered, encStr, head_eq_shortest]
  | .bytes s, _ => by simp [enc, Spec.canonEncode, Spec.canon, Spec.encOrdered, encBytes, head_eq_shortest]
  | .link c, _ => by
    simp only [enc, Spec.canonEncode, Spec.canon, Spec.encOrdered, encLink, ← head_eq_shortest]
    rfl
  | .list xs, h => by
    have ih := encList_eq_canon xs h
    simp only [enc, Spec.canonEncode, Spec.canon, Spec.encOrdered, ← head_eq_shortest, canonCbor.cL_length] at ih ⊢
    rw [ih]
  | .map es, h => by
    obtain ⟨hk, hv⟩ := h
    simp only [enc, Spec.canonEncode, Spec.canon, Spec.encOrdered, ← head_eq_shortest, canonCbor.cK_length]
    congr 1
    rw [encOrderedKVs_eq, canonCbor.toList es hk, sortPairs_map, List.map_map, encKVs_eq_canon es hv]
    rfl
theorem encList_eq_canon : (xs : DMs) → xs.NoDup → encList dagcborEnc xs = Spec.encOrderedList (Spec.canonList xs)
  | .nil, _ => rfl
  | .cons x xs, h => by
    have h1 := enc_eq_canon x h.1
    have h2 := encList_eq_canon xs h.2
    simp only [Spec.canonEncode] at h1
    simp [encList, Spec.canonList, Spec.encOrderedList, h1, h2]
theorem encKVs_eq_canon : (es : DMKVs) → es.NoDupVals →
    encKVs dagcborEnc es = es.toList.map (fun e => (e.1, Spec.encOrdered (Spec.canon e.2)))
  | .nil, _ => rfl
  | .cons k v es, h => by
    have h1 := enc_eq_canon v h.1
    have h2 := encKVs_eq_canon es h.2
    simp only [Spec.canonEncode] at h1
    simp [encKVs, DMKVs.toList, h1, h2]
end

end Cbor
end Ipld

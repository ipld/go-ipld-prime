/-
  `hstep` as a relation over the heap-level building blocks (`HStep`): a step changes phases, pushes a fresh container,
  appends to or completes the last cell of the innermost frame's object, copies a finished header, or marks the
  innermost object finished and delivers it; the builder invariant `HInvO` and the building blocks that keep it.
-/
import IpldModel.Lemmas.HeapInv
namespace Ipld
namespace Heap
open Asm

def valuePos (st : HSt) : Bool :=
  match st.frames with
  | [] => st.root.isNone
  | .map _ .midValue :: _ => true
  | .list _ .midValue :: _ => true
  | _ => false

def pushMap (st : HSt) (hint : Int) : HSt :=
  { st with h := hNewMap st.h (hintCap hint), frames := .map st.h.objs.length .init :: st.frames }

def pushList (st : HSt) (hint : Int) : HSt :=
  { st with h := hNewList st.h (hintCap hint), frames := .list st.h.objs.length .init :: st.frames }

def appendTop (st : HSt) (id : Nat) (c : Cell) (f' : HFrame) (rest : List HFrame) : HSt :=
  { st with h := hAppend st.h id c, frames := f' :: rest,
            written := (appendSlice st.h (objAt st.h id).slice c).2.2 ++ [.objHdr id] ++ st.written }

def addEntry (st : HSt) (id : Nat) (k : Bytes) (ph : MPhase) (rest : List HFrame) : HSt :=
  appendTop st id (.entry k none) (.map id ph) rest

/-- `Finish`, first half: object `id` is marked finished and its frame popped (the second half delivers `.obj id`) -/
def markFin (st : HSt) (id : Nat) (rest : List HFrame) : HSt :=
  { st with h := hFinish st.h id, frames := rest }

/-- `*na.w = *v2`: a new finished object with a copy of `src`'s header becomes the root -/
def doShortcut (st : HSt) (src : Nat) : HSt :=
  { st with h := hCopy st.h src, root := some (.obj st.h.objs.length) }

/-- What `hdeliver st v` may do: nothing, set the root, complete the last entry of the innermost map, or append to the
    innermost list.  `noop` has no hypothesis, so the relation holds of more than `hdeliver` does. -/
inductive HDeliver (st : HSt) (v : NRef) : HSt → Prop
  | noop : HDeliver st v st
  | root : st.frames = [] → HDeliver st v { st with root := some v }
  | map (id rest t m k) : st.frames = .map id .midValue :: rest → objAt st.h id = .map t m →
      HDeliver st v { st with h := hSetLast st.h t m k v, frames := .map id .init :: rest,
                              written := [.arrCell t.arr (t.len - 1), .gomap m] ++ st.written }
  | list (id rest) : st.frames = .list id .midValue :: rest →
      HDeliver st v (appendTop st id (.item v) (.list id .init) rest)

/-- A builder state by its current object: the root builder (still empty, or holding its value), a map assembler
    between entries, its key assembler, the map assembler after a key, its value assembler, a list assembler between
    items, its value assembler. -/
@[elab_as_elim]
theorem HSt.posCases {motive : HSt → Prop}
    (rootEmpty : ∀ h w, motive ⟨h, [], none, w⟩) (rootDone : ∀ h v w, motive ⟨h, [], some v, w⟩)
    (mapInit : ∀ h id rest rt w, motive ⟨h, .map id .init :: rest, rt, w⟩)
    (mapKey : ∀ h id rest rt w, motive ⟨h, .map id .midKey :: rest, rt, w⟩)
    (mapExpect : ∀ h id rest rt w, motive ⟨h, .map id .expectValue :: rest, rt, w⟩)
    (mapValue : ∀ h id rest rt w, motive ⟨h, .map id .midValue :: rest, rt, w⟩)
    (listInit : ∀ h id rest rt w, motive ⟨h, .list id .init :: rest, rt, w⟩)
    (listValue : ∀ h id rest rt w, motive ⟨h, .list id .midValue :: rest, rt, w⟩) : ∀ st, motive st
  | ⟨h, [], none, w⟩ => rootEmpty h w
  | ⟨h, [], some v, w⟩ => rootDone h v w
  | ⟨h, .map id .init :: rest, rt, w⟩ => mapInit h id rest rt w
  | ⟨h, .map id .midKey :: rest, rt, w⟩ => mapKey h id rest rt w
  | ⟨h, .map id .expectValue :: rest, rt, w⟩ => mapExpect h id rest rt w
  | ⟨h, .map id .midValue :: rest, rt, w⟩ => mapValue h id rest rt w
  | ⟨h, .list id .init :: rest, rt, w⟩ => listInit h id rest rt w
  | ⟨h, .list id .midValue :: rest, rt, w⟩ => listValue h id rest rt w

theorem appendTop_eq {st : HSt} {id : Nat} {o : Obj} {c : Cell} {f' : HFrame} {rest : List HFrame}
    (ho : objAt st.h id = o) :
    appendTop st id c f' rest =
      { st with h := setObj (appendSlice st.h o.slice c).1 id (o.withSlice (appendSlice st.h o.slice c).2.1),
                frames := f' :: rest,
                written := (appendSlice st.h o.slice c).2.2 ++ [.objHdr id] ++ st.written } := by
  subst ho; rfl

theorem hdeliver_map {st : HSt} {id : Nat} {rest : List HFrame} (v : NRef)
    (hf : st.frames = .map id .midValue :: rest) :
    hdeliver st v =
      match objAt st.h id with
      | .map t m =>
        match (arrAt st.h t.arr).getD (t.len - 1) .empty with
        | .entry k _ => { st with h := hSetLast st.h t m k v, frames := .map id .init :: rest,
                                  written := [.arrCell t.arr (t.len - 1), .gomap m] ++ st.written }
        | _ => st
      | _ => st := by
  obtain ⟨h, fr, rt, w⟩ := st
  cases hf; rfl

theorem hdeliver_list {st : HSt} {id : Nat} {rest : List HFrame} (v : NRef)
    (hf : st.frames = .list id .midValue :: rest) :
    hdeliver st v =
      match objAt st.h id with
      | .list _ => appendTop st id (.item v) (.list id .init) rest
      | _ => st := by
  obtain ⟨h, fr, rt, w⟩ := st
  cases hf
  show (match h.objs.getD id default with | .list x => _ | _ => _) = match objAt h id with | .list _ => _ | _ => _
  cases ho : objAt h id with
  | map t m => rw [show h.objs.getD id default = .map t m from ho]
  | list x => rw [show h.objs.getD id default = .list x from ho, appendTop_eq ho]; rfl

theorem hdeliver_rel (st : HSt) (v : NRef) : HDeliver st v (hdeliver st v) := by
  cases st using HSt.posCases with
  | rootEmpty h w => exact .root rfl
  | rootDone h r w => exact .root rfl
  | mapValue h id rest rt w =>
    rw [hdeliver_map v rfl]
    split
    · rename_i t m ho
      split
      · rename_i k o hc; exact .map id rest t m k rfl ho
      · exact .noop
    · exact .noop
  | listValue h id rest rt w =>
    rw [hdeliver_list v rfl]
    split
    · exact .list id rest rfl
    · exact .noop
  | _ => exact .noop

def HFrame.isMap : HFrame → Bool
  | .map _ _ => true
  | .list _ _ => false

/-- what a frame is apart from its phase: the object it builds and whether that is a map (not a map key) -/
def HFrame.key (f : HFrame) : Nat × Bool := (f.id, f.isMap)

/-- the objects under construction, innermost first -/
def frameIds (fr : List HFrame) : List Nat := fr.map HFrame.id

/-- nodes handed to `AssignNode` (and to the shortcut) are finished nodes -/
def OpWf (st : HSt) : HOp → Prop
  | .assignNode (.obj id) => id ∈ st.h.finished
  | .assignNodeShortcut src => src ∈ st.h.finished
  | _ => True

theorem opWf_assignNode_obj {st : HSt} {id : Nat} : OpWf st (.assignNode (.obj id)) ↔ id ∈ st.h.finished := by
  simp only [OpWf]

/-- What a builder call may do to the state.  `phase` covers every call that leaves the heap alone: the changes of
    phase, and misuse, which changes nothing - with one exception that falls under `finish`: `Finish` on a frame whose
    parent is not waiting for a value still marks the object finished and pops its frame; only the delivery does
    nothing.  The call `op` enters only through `OpWf`, which gives
    the hypotheses on the nodes handed in; the constructors do not say which call has which effect
    (nor which size hint `beginMap`/`beginList` got), so the relation holds of more than `hstep` does. -/
inductive HStep (st : HSt) (op : HOp) : HSt → Prop
  | phase {fr'} : fr'.map HFrame.key = st.frames.map HFrame.key → HStep st op { st with frames := fr' }
  | reset : HStep st op { st with frames := [], root := none }
  | beginMap (hint) : HStep st op (pushMap st hint)
  | beginList (hint) : HStep st op (pushList st hint)
  | deliver (v) : (OpWf st op → RefOk st.h.finished v) → HStep st op (hdeliver st v)
  | shortcut (src) : (OpWf st op → src ∈ st.h.finished) → HStep st op (doShortcut st src)
  | addEntry (id rest k ph0 ph) : st.frames = .map id ph0 :: rest → HStep st op (addEntry st id k ph rest)
  | finish (f rest) : st.frames = f :: rest → HStep st op (hdeliver (markFin st f.id rest) (.obj f.id))

theorem hstep_beginMap (st : HSt) (hint : Int) :
    hstep st (.beginMap hint) = if valuePos st then pushMap st hint else st := by
  cases st using HSt.posCases <;> rfl

theorem hstep_beginList (st : HSt) (hint : Int) :
    hstep st (.beginList hint) = if valuePos st then pushList st hint else st := by
  cases st using HSt.posCases <;> rfl

theorem hstep_assignScalar (st : HSt) (d : DM) :
    hstep st (.assignScalar d) = if valuePos st then hdeliver st (.scalar d) else st := by
  cases st using HSt.posCases <;> rfl

theorem hstep_assignNode (st : HSt) (r : NRef) :
    hstep st (.assignNode r) = if valuePos st then hdeliver st r else st := by
  cases st using HSt.posCases <;> rfl

theorem hstep_shortcut (st : HSt) (src : Nat) :
    hstep st (.assignNodeShortcut src) =
      if st.frames.isEmpty && st.root.isNone then doShortcut st src else st := by
  cases st using HSt.posCases <;> rfl

/-! A key offered to a map assembler, by `AssembleEntry` between entries or by the key assembler: the two equations
    differ in the phases and in what a repeated key does, and are proved alike. -/

theorem hstep_assembleEntry {st : HSt} {id : Nat} {rest : List HFrame} (k : Bytes)
    (hf : st.frames = .map id .init :: rest) :
    hstep st (.assembleEntry k) =
      match objAt st.h id with
      | .map _ m => if gomapHas st.h m k then st else addEntry st id k .midValue rest
      | _ => st := by
  obtain ⟨h, fr, rt, w⟩ := st
  cases hf
  show (match h.objs.getD id default with | .map t m => _ | _ => _) = match objAt h id with | .map _ m => _ | _ => _
  cases ho : objAt h id with
  | map t m => rw [show h.objs.getD id default = .map t m from ho, addEntry, appendTop_eq ho]; rfl
  | list x => rw [show h.objs.getD id default = .list x from ho]

theorem hstep_keyString {st : HSt} {id : Nat} {rest : List HFrame} (k : Bytes)
    (hf : st.frames = .map id .midKey :: rest) :
    hstep st (.keyString k) =
      match objAt st.h id with
      | .map _ m => if gomapHas st.h m k then { st with frames := .map id .init :: rest }
                    else addEntry st id k .expectValue rest
      | _ => st := by
  obtain ⟨h, fr, rt, w⟩ := st
  cases hf
  show (match h.objs.getD id default with | .map t m => _ | _ => _) = match objAt h id with | .map _ m => _ | _ => _
  cases ho : objAt h id with
  | map t m => rw [show h.objs.getD id default = .map t m from ho, addEntry, appendTop_eq ho]; rfl
  | list x => rw [show h.objs.getD id default = .list x from ho]

theorem hstep_rel (st : HSt) (op : HOp) : HStep st op (hstep st op) := by
  cases op with
  | reset => exact .reset
  | beginMap hint =>
    rw [hstep_beginMap]; split
    · exact .beginMap hint
    · exact .phase rfl
  | beginList hint =>
    rw [hstep_beginList]; split
    · exact .beginList hint
    · exact .phase rfl
  | assignScalar d =>
    rw [hstep_assignScalar]; split
    · exact .deliver _ (fun _ => trivial)
    · exact .phase rfl
  | assignNode r =>
    rw [hstep_assignNode]; split
    · refine .deliver r (fun hw => ?_)
      cases r with
      | scalar d => trivial
      | obj id => exact hw
    · exact .phase rfl
  | assignNodeShortcut src =>
    rw [hstep_shortcut]; split
    · exact .shortcut src (fun hw => hw)
    · exact .phase rfl
  | assembleKey => cases st using HSt.posCases <;> exact .phase rfl
  | assembleValue => cases st using HSt.posCases <;> exact .phase rfl
  | finish =>
    cases st using HSt.posCases with
    | mapInit h id rest rt w => exact .finish (.map id .init) rest rfl
    | listInit h id rest rt w => exact .finish (.list id .init) rest rfl
    | _ => exact .phase rfl
  | assembleEntry k =>
    cases st using HSt.posCases with
    | mapInit h id rest rt w =>
      rw [hstep_assembleEntry k rfl]
      split
      · split
        · exact .phase rfl
        · exact .addEntry id rest k _ _ rfl
      · exact .phase rfl
    | _ => exact .phase rfl
  | keyString k =>
    cases st using HSt.posCases with
    | mapKey h id rest rt w =>
      rw [hstep_keyString k rfl]
      split
      · split
        · exact .phase rfl
        · exact .addEntry id rest k _ _ rfl
      · exact .phase rfl
    | _ => exact .phase rfl

def HistWf (st : HSt) : List HOp → Prop
  | [] => True
  | op :: ops => OpWf st op ∧ HistWf (hstep st op) ops

theorem hrun_append (st : HSt) (a b : List HOp) : hrun st (a ++ b) = hrun (hrun st a) b := by
  induction a generalizing st with
  | nil => rfl
  | cons op ops ih => simp only [List.cons_append, hrun, ih]

theorem HistWf.append {st : HSt} {a b : List HOp} :
    HistWf st (a ++ b) ↔ HistWf st a ∧ HistWf (hrun st a) b := by
  induction a generalizing st with
  | nil => simp [HistWf, hrun]
  | cons op ops ih => simp only [List.cons_append, HistWf, hrun, ih, and_assoc]

/-- The invariant of a builder working on a heap on which other builders may be working too:
    `others` are the objects the other builders have under construction. -/
structure HInvO (others : List Nat) (s : HSt) : Prop where
  heap : HeapInv s.h
  ids_lt : ∀ id ∈ frameIds s.frames ++ others, id < s.h.objs.length
  ids_unfin : ∀ id ∈ frameIds s.frames ++ others, id ∉ s.h.finished
  ids_nodup : (frameIds s.frames ++ others).Nodup
  /-- a map assembler works on a map object, a list assembler on a list object -/
  kinds : ∀ p ∈ s.frames.map HFrame.key, (objAt s.h p.1).isMap = p.2
  root : ∀ v, s.root = some v → RefOk s.h.finished v

abbrev HInv (s : HSt) : Prop := HInvO [] s

theorem hinv_fresh {h : H} (hh : HeapInv h) : HInv { h := h } where
  heap := hh
  ids_lt := by intro id h; cases h
  ids_unfin := by intro id h; cases h
  ids_nodup := List.nodup_nil
  kinds := by intro p h; cases h
  root := by intro v h; cases h

theorem hinv_init : HInv {} := hinv_fresh heapInv_empty

theorem HInvO.frame_lt {others : List Nat} {s : HSt} (hi : HInvO others s) {f : HFrame}
    (hf : f ∈ s.frames) : f.id < s.h.objs.length :=
  hi.ids_lt f.id (List.mem_append_left _ (List.mem_map.2 ⟨f, hf, rfl⟩))

theorem HInvO.top {others : List Nat} {s : HSt} {f : HFrame} {rest : List HFrame}
    (hi : HInvO others s) (hf : s.frames = f :: rest) :
    f.id ∈ frameIds s.frames ∧ f.id < s.h.objs.length ∧ f.id ∉ s.h.finished ∧
      (objAt s.h f.id).isMap = f.isMap := by
  have hid : f.id ∈ frameIds s.frames := by rw [hf]; exact List.mem_cons_self ..
  exact ⟨hid, hi.ids_lt _ (List.mem_append_left _ hid), hi.ids_unfin _ (List.mem_append_left _ hid),
    hi.kinds f.key (by rw [hf]; exact List.mem_cons_self ..)⟩

theorem HInvO.top_map {others : List Nat} {s : HSt} {id : Nat} {ph : MPhase} {rest : List HFrame}
    (hi : HInvO others s) (hf : s.frames = .map id ph :: rest) : ∃ t m, objAt s.h id = .map t m :=
  Obj.eq_map_of_isMap (hi.top hf).2.2.2

theorem HInvO.top_list {others : List Nat} {s : HSt} {id : Nat} {ph : LPhase} {rest : List HFrame}
    (hi : HInvO others s) (hf : s.frames = .list id ph :: rest) : ∃ x, objAt s.h id = .list x :=
  Obj.eq_list_of_not_isMap (hi.top hf).2.2.2

theorem HInvO.mod_append {others : List Nat} {s : HSt} {f : HFrame} {rest : List HFrame} {c : Cell}
    (hi : HInvO others s) (hf : s.frames = f :: rest) (hc : CellGood s.h.finished f.isMap c) :
    Mod s.h (hAppend s.h f.id c) f.id := by
  obtain ⟨_, hlt, hnf, hk⟩ := hi.top hf
  exact hAppend_mod hi.heap hlt hnf (by rw [hk]; exact hc)

theorem HInvO.mod_setLast {others : List Nat} {s : HSt} {id : Nat} {ph : MPhase} {rest : List HFrame}
    {t : Slice} {m : Nat} {v : NRef} (k : Bytes) (hi : HInvO others s) (hf : s.frames = .map id ph :: rest)
    (ho : objAt s.h id = .map t m) (hv : RefOk s.h.finished v) : Mod s.h (hSetLast s.h t m k v) id := by
  obtain ⟨_, hlt, hnf, _⟩ := hi.top hf
  exact hSetLast_mod hi.heap hlt hnf ho hv

theorem Mod.isMap_all {h h' : H} {id : Nat} (hm : Mod h h' id) {j : Nat} (hj : j < h.objs.length) :
    (objAt h' j).isMap = (objAt h j).isMap := by
  by_cases e : j = id
  · subst e; exact hm.isMap
  · rw [(hm.other j hj e).obj]

/-- What a change of state that adds no frame must respect to keep the invariant: the heap invariant;
    existing objects keep their kind; nothing still under construction becomes finished; the root is
    a scalar or a finished node. -/
theorem HInvO.transfer {others : List Nat} {st st' : HSt} (hi : HInvO others st) (hh : HeapInv st'.h)
    (hlen : st.h.objs.length ≤ st'.h.objs.length)
    (hkind : ∀ j, j < st.h.objs.length → (objAt st'.h j).isMap = (objAt st.h j).isMap)
    (hfr : (st'.frames.map HFrame.key).Sublist (st.frames.map HFrame.key))
    (hfin : ∀ x ∈ st'.h.finished, x ∈ st.h.finished ∨ x ∉ frameIds st'.frames ++ others)
    (hroot : ∀ v, st'.root = some v → RefOk st'.h.finished v) : HInvO others st' := by
  have hids : (frameIds st'.frames ++ others).Sublist (frameIds st.frames ++ others) := by
    have := (hfr.map Prod.fst).append_right others
    simpa [frameIds, List.map_map, HFrame.key, Function.comp_def] using this
  exact {
    heap := hh
    ids_lt := fun j hj => Nat.lt_of_lt_of_le (hi.ids_lt j (hids.subset hj)) hlen
    ids_unfin := fun j hj hf => (hfin j hf).elim (hi.ids_unfin j (hids.subset hj)) (fun hn => hn hj)
    ids_nodup := hids.nodup hi.ids_nodup
    kinds := by
      intro p hp
      have hp' := hfr.subset hp
      obtain ⟨f, hf, rfl⟩ := List.mem_map.1 hp'
      show (objAt st'.h f.id).isMap = _
      rw [hkind _ (hi.frame_lt hf)]; exact hi.kinds _ hp'
    root := hroot }

theorem HInvO.of_mod {others : List Nat} {st : HSt} {h' : H} {id : Nat} {fr' : List HFrame}
    {w' : List Loc} (hi : HInvO others st) (hm : Mod st.h h' id) (hid : id ∈ frameIds st.frames)
    (hk : fr'.map HFrame.key = st.frames.map HFrame.key) :
    HInvO others { st with h := h', frames := fr', written := w' } :=
  hi.transfer
    (hm.heapInv hi.heap (hi.ids_lt id (List.mem_append_left _ hid)) (hi.ids_unfin id (List.mem_append_left _ hid)))
    (Nat.le_of_eq hm.objs_len.symm) (fun _ hj => hm.isMap_all hj) (hk ▸ List.Sublist.refl _)
    (fun _ hx => Or.inl (hm.fin ▸ hx)) (fun v hv => hm.fin ▸ hi.root v hv)

theorem markFin_inv {others : List Nat} {st : HSt} {rest : List HFrame} {f : HFrame}
    (hi : HInvO others st) (hf : st.frames = f :: rest) : HInvO others (markFin st f.id rest) := by
  have hnd := hi.ids_nodup
  rw [hf] at hnd
  have hnd : f.id ∉ frameIds rest ++ others := (List.nodup_cons.1 hnd).1
  refine hi.transfer (hFinish_inv hi.heap (hi.top hf).2.1) (Nat.le_refl _) (fun _ _ => rfl)
    (by rw [hf]; exact List.sublist_cons_self _ _) ?_
    (fun v hv => (hi.root v hv).mono fun x hx => List.mem_cons_of_mem _ hx)
  intro x hx
  rcases List.mem_cons.1 hx with rfl | hx
  · exact Or.inr hnd
  · exact Or.inl hx

theorem push_inv {others : List Nat} {st : HSt} {h' : H} {o : Obj} {f : HFrame} (hi : HInvO others st)
    (he : Ext st.h h' o) (hh : HeapInv h') (hfin : h'.finished = st.h.finished)
    (hfid : f.id = st.h.objs.length) (hfk : o.isMap = f.isMap) :
    HInvO others { st with h := h', frames := f :: st.frames } where
  heap := hh
  ids_lt := by
    intro j hj
    simp only [he.objs_len]
    rcases List.mem_cons.1 hj with e | hj
    · omega
    · exact Nat.lt_succ_of_lt (hi.ids_lt j hj)
  ids_unfin := by
    intro j hj
    simp only [hfin]
    rcases List.mem_cons.1 hj with e | hj
    · intro hjf; have := hi.heap.fin_lt j hjf; omega
    · exact hi.ids_unfin j hj
  ids_nodup := by
    refine List.nodup_cons.2 ⟨?_, hi.ids_nodup⟩
    intro hm; have := hi.ids_lt _ hm; omega
  kinds := by
    intro p hp
    rcases List.mem_cons.1 hp with e | hp
    · subst e; simp only [HFrame.key, hfid, he.objAt_new]; exact hfk
    · obtain ⟨g, hg, rfl⟩ := List.mem_map.1 hp
      show (objAt h' g.id).isMap = _
      rw [he.objAt_old (hi.frame_lt hg)]; exact hi.kinds _ hp
  root := by intro v hv; simp only [hfin]; exact hi.root v hv

theorem shortcut_inv {others : List Nat} {st : HSt} {src : Nat} (hi : HInvO others st)
    (hs : src ∈ st.h.finished) : HInvO others (doShortcut st src) := by
  have e := hCopy_ext st.h src
  refine hi.transfer (hCopy_inv hi.heap hs) e.objs_le (fun _ hj => congrArg Obj.isMap (e.objAt_old hj))
    (List.Sublist.refl _) ?_ ?_
  · intro x hx
    rcases List.mem_cons.1 hx with rfl | hx
    · exact Or.inr fun hm => Nat.lt_irrefl _ (hi.ids_lt _ hm)
    · exact Or.inl hx
  · intro v hv; cases hv; exact List.mem_cons_self ..

end Heap
end Ipld

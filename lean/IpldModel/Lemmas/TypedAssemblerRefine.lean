/-
  Typed assemblers refine the generic ones, call by call: on the calls the typed machine accepts, the generic machine
  of Model/Assembler.lean accepts too, and holds a SOURCE of what the typed machine holds - a data-model tree that
  conforms to the position's type and whose `Schema.normalize` is the typed value.
-/
import IpldModel.Lemmas.TypedAssemblerNode
import IpldModel.Lemmas.AsmInv
namespace Ipld
namespace TAsm
open Ipld.Asm (Op Out ErrClass)
open Ipld.Schema (Ty Fields Field TL TLs TLKVs canonFields conforms conformsList conformsMap conformsStruct
  normalize normalizeList normalizeMap normalizeStruct)

/-- `d` is a source of the typed value `w` at a position of type `t` -/
def SrcV (t : Ty) (nul : Bool) (d : DM) (w : TL) : Prop := okV t nul d ∧ w = normalize t (TL.ofDM d)

theorem int64sL_ofList {l : List DM} (h : ∀ d ∈ l, int64s d = true) : int64sL (DMs.ofList l) = true := by
  rw [int64sL_toList, DMs.toList_ofList]; exact List.all_eq_true.2 h

theorem int64sM_ofList {l : List (Bytes × DM)} (h : ∀ p ∈ l, int64s p.2 = true) : int64sM (DMKVs.ofList l) = true := by
  rw [int64sM_toList, DMKVs.toList_ofList]; exact List.all_eq_true.2 h

theorem srcV_list {ety : Ty} {enul : Bool} (nul : Bool) {x : List DM} (h : ∀ d ∈ x, okV ety enul d) :
    SrcV (.list ety enul) nul (.list (DMs.ofList x))
      (.list (TLs.ofList (x.map fun d => normalize ety (TL.ofDM d)))) := by
  refine ⟨?_, ?_⟩
  · unfold okV
    simp only [TL.ofDM, int64s, Bool.and_eq_true, Schema.ofDMs_ofList]
    refine ⟨?_, int64sL_ofList (fun d hd => (h d hd).ints)⟩
    apply Schema.conforms_list_ofList
    intro y hy
    obtain ⟨d, hd, rfl⟩ := List.mem_map.1 hy
    exact (h d hd).conf
  · simp only [TL.ofDM, normalize, Schema.ofDMs_ofList, Schema.normalizeList_map, List.map_map]
    rfl

theorem srcV_map {vty : Ty} {vnul : Bool} (nul : Bool) {des : List (Bytes × DM)} (hnd : (des.map (·.1)).Nodup)
    (h : ∀ p ∈ des, okV vty vnul p.2) :
    SrcV (.map vty vnul) nul (.map (DMKVs.ofList des))
      (.map (TLKVs.ofList (des.map fun p => (p.1, normalize vty (TL.ofDM p.2))))) := by
  refine ⟨?_, ?_⟩
  · unfold okV
    simp only [TL.ofDM, int64s, Bool.and_eq_true, Schema.ofDMKVs_ofList]
    refine ⟨?_, int64sM_ofList (fun p hp => (h p hp).ints)⟩
    apply Schema.conforms_map_ofList
    · rw [List.map_map]; exact hnd
    · intro e he
      obtain ⟨p, hp, rfl⟩ := List.mem_map.1 he
      exact (h p hp).conf
  · simp only [TL.ofDM, normalize, Schema.ofDMKVs_ofList, Schema.normalizeMap_map, List.map_map]
    rfl

theorem nfield_keys (fs : List Field) (des : List (Bytes × DM)) : (des.map (nfield fs)).map (·.1) = des.map (·.1) := by
  rw [List.map_map]; rfl

theorem srcV_struct {F : Fields} (r : Schema.StructRepr) (nul : Bool) {des : List (Bytes × DM)}
    (hnd : (des.map (·.1)).Nodup)
    (h : ∀ p ∈ des, ∃ f, fieldOf F.toList p.1 = some f ∧ okV f.ty f.nullable p.2)
    (hreq : F.toList.all (fun f => f.opt || hasKey (des.map (nfield F.toList)) f.name) = true) :
    SrcV (.struct F r) nul (.map (DMKVs.ofList des))
      (.map (TLKVs.ofList (canonFields F.toList (des.map (nfield F.toList))))) := by
  refine ⟨?_, ?_⟩
  · unfold okV
    simp only [TL.ofDM, int64s, Bool.and_eq_true, Schema.ofDMKVs_ofList]
    refine ⟨?_, int64sM_ofList (fun p hp => by obtain ⟨f, _, hf⟩ := h p hp; exact hf.ints)⟩
    unfold conforms
    rw [Schema.conformsStruct_iff, Schema.TLKVs.toList_ofList]
    refine ⟨by rw [List.map_map]; exact hnd, fun _ _ => List.not_mem_nil, fun e he => ?_, fun f hf => ?_⟩
    · obtain ⟨p, hp, rfl⟩ := List.mem_map.1 he
      obtain ⟨f, hf, hok⟩ := h p hp
      refine ⟨f, hf, ?_⟩
      simp only [Schema.fieldValOK_ofDM]
      exact hok.conf
    · have := (List.all_eq_true.1 hreq) f hf
      simp only [Bool.or_eq_true] at this
      refine this.imp_right fun h1 => .inr ?_
      have := hasKey_iff.1 h1
      rw [nfield_keys] at this
      simpa [List.map_map] using this
  · simp only [TL.ofDM, normalize, Schema.ofDMKVs_ofList, normalizeStruct_map, Schema.TLKVs.toList_ofList]

theorem srcV_scalar {t : Ty} {nul : Bool} {d : DM} (h : scalarOut t nul d = .ok) : SrcV t nul d (TL.ofDM d) := by
  obtain ⟨hs, hc, hi⟩ := scalarOut_ok h
  refine ⟨?_, (normalize_ofDM_scalar hs).symm⟩
  unfold okV
  rw [hc, hi]; rfl

/-- the generic map assembler's entry table for accepted entries `des` in the typed frame's phase -/
def tableOf (des : List (Bytes × DM)) : Phase → List (Bytes × Option DM)
  | .expectValue k => Asm.doneEntries des ++ [(k, none)]
  | .midValue k => Asm.doneEntries des ++ [(k, none)]
  | _ => Asm.doneEntries des

/-- the generic map assembler's phase for a typed map / struct frame's -/
def gphase : Phase → Asm.MPhase
  | .init => .init
  | .midKey => .midKey
  | .expectValue _ => .expectValue
  | .midValue _ => .midValue

/-- a typed frame and the generic frame that holds its sources -/
def FrameR : Frame → Asm.Frame → Prop
  | .list ety enul xs mid, .list x ph =>
      ph = (if mid then Asm.LPhase.midValue else Asm.LPhase.init) ∧
      xs = x.map (fun d => normalize ety (TL.ofDM d)) ∧ ∀ d ∈ x, okV ety enul d
  | .map vty vnul es ph, .map t m gph =>
      ∃ des, t = tableOf des ph ∧ gph = gphase ph ∧
        es = des.map (fun p => (p.1, normalize vty (TL.ofDM p.2))) ∧
        (∀ p ∈ des, okV vty vnul p.2) ∧ ∀ k, Asm.mapHas m k = hasKey es k
  | .struct fs es ph, .map t m gph =>
      ∃ des, t = tableOf des ph ∧ gph = gphase ph ∧ es = des.map (nfield fs) ∧
        (∀ p ∈ des, ∃ f, fieldOf fs p.1 = some f ∧ okV f.ty f.nullable p.2) ∧ ∀ k, Asm.mapHas m k = hasKey es k
  | _, _ => False

theorem FrameR.list_intro {ety : Ty} {enul : Bool} {x : List DM} (mid : Bool) (h : ∀ d ∈ x, okV ety enul d) :
    FrameR (.list ety enul (x.map fun d => normalize ety (TL.ofDM d)) mid)
      (.list x (if mid then Asm.LPhase.midValue else Asm.LPhase.init)) := by
  unfold FrameR; exact ⟨rfl, rfl, h⟩

theorem FrameR.map_intro {vty : Ty} {vnul : Bool} {des : List (Bytes × DM)} {m : List (Bytes × DM)} (ph : Phase)
    (hok : ∀ p ∈ des, okV vty vnul p.2)
    (hm : ∀ k, Asm.mapHas m k = hasKey (des.map fun p => (p.1, normalize vty (TL.ofDM p.2))) k) :
    FrameR (.map vty vnul (des.map fun p => (p.1, normalize vty (TL.ofDM p.2))) ph)
      (.map (tableOf des ph) m (gphase ph)) := by
  unfold FrameR; exact ⟨des, rfl, rfl, rfl, hok, hm⟩

theorem FrameR.struct_intro {fs : List Field} {des : List (Bytes × DM)} {m : List (Bytes × DM)} (ph : Phase)
    (hok : ∀ p ∈ des, ∃ f, fieldOf fs p.1 = some f ∧ okV f.ty f.nullable p.2)
    (hm : ∀ k, Asm.mapHas m k = hasKey (des.map (nfield fs)) k) :
    FrameR (.struct fs (des.map (nfield fs)) ph) (.map (tableOf des ph) m (gphase ph)) := by
  unfold FrameR; exact ⟨des, rfl, rfl, rfl, hok, hm⟩

inductive FramesR : List Frame → List Asm.Frame → Prop
  | nil : FramesR [] []
  | cons {f : Frame} {gf : Asm.Frame} {rest : List Frame} {grest : List Asm.Frame} :
      FrameR f gf → FramesR rest grest → FramesR (f :: rest) (gf :: grest)

/-- The simulation relation.  The generic machine is basicnode's Any builder throughout (`proto`): a typed builder is
    compared with the builder that takes anything.  Its frames hold sources of the typed frames' values, its root a source
    of the typed root. -/
structure Sim (ts : St) (gs : Asm.St) : Prop where
  proto : gs.proto = .any
  frames : FramesR ts.frames gs.frames
  root : (ts.root = none ∧ gs.root = none) ∨ ∃ d w, gs.root = some d ∧ ts.root = some w ∧ SrcV ts.ty false d w

theorem sim_init (ty : Ty) : Sim (init ty) (Asm.init .any) :=
  ⟨rfl, FramesR.nil, Or.inl ⟨rfl, rfl⟩⟩

theorem doneEntries_append (a b : List (Bytes × DM)) :
    Asm.doneEntries (a ++ b) = Asm.doneEntries a ++ Asm.doneEntries b := by
  simp [Asm.doneEntries]

theorem map_snoc_norm (vty : Ty) (des : List (Bytes × DM)) (k : Bytes) (d : DM) :
    (des.map fun p => (p.1, normalize vty (TL.ofDM p.2))) ++ [(k, normalize vty (TL.ofDM d))] =
      (des ++ [(k, d)]).map fun p => (p.1, normalize vty (TL.ofDM p.2)) := by simp

theorem map_snoc_nfield {fs : List Field} {f0 : Field} {k : Bytes} (hf : fieldOf fs k = some f0)
    (des : List (Bytes × DM)) (d : DM) :
    des.map (nfield fs) ++ [(k, normalize f0.ty (TL.ofDM d))] = (des ++ [(k, d)]).map (nfield fs) := by
  have hf' : fs.find? (fun f => f.name == k) = some f0 := hf
  simp [nfield, hf']

theorem gdeliver_map {p : Asm.Proto} {des : List (Bytes × DM)} {k : Bytes} {m : List (Bytes × DM)}
    {grest : List Asm.Frame} {gr : Option DM} {d : DM} :
    Asm.deliver ⟨p, .map (Asm.doneEntries des ++ [(k, none)]) m .midValue :: grest, gr⟩ d =
      (⟨p, .map (Asm.doneEntries (des ++ [(k, d)])) (Asm.mapInsert m k d) .init :: grest, gr⟩, .ok) := by
  rw [doneEntries_append]
  exact Asm.deliver_mapValue d rfl

theorem FramesR.list_elim {ety : Ty} {enul : Bool} {xs : List TL} {mid : Bool} {rest : List Frame} {gfr : List Asm.Frame}
    (h : FramesR (.list ety enul xs mid :: rest) gfr) :
    ∃ x grest, gfr = .list x (if mid then Asm.LPhase.midValue else Asm.LPhase.init) :: grest ∧
      xs = x.map (fun d => normalize ety (TL.ofDM d)) ∧ (∀ d ∈ x, okV ety enul d) ∧ FramesR rest grest := by
  cases h with
  | @cons _ gf _ grest hf hrest =>
    cases gf with
    | map _ _ _ => unfold FrameR at hf; exact hf.elim
    | list x ph =>
      unfold FrameR at hf
      obtain ⟨rfl, h2, h3⟩ := hf
      exact ⟨x, grest, rfl, h2, h3, hrest⟩

theorem FramesR.map_elim {vty : Ty} {vnul : Bool} {es : List (Bytes × TL)} {ph : Phase} {rest : List Frame}
    {gfr : List Asm.Frame} (h : FramesR (.map vty vnul es ph :: rest) gfr) :
    ∃ des m grest, gfr = .map (tableOf des ph) m (gphase ph) :: grest ∧
      es = des.map (fun p => (p.1, normalize vty (TL.ofDM p.2))) ∧
      (∀ p ∈ des, okV vty vnul p.2) ∧ (∀ k, Asm.mapHas m k = hasKey es k) ∧ FramesR rest grest := by
  cases h with
  | @cons _ gf _ grest hf hrest =>
    cases gf with
    | list _ _ => unfold FrameR at hf; exact hf.elim
    | map t m gph =>
      unfold FrameR at hf
      obtain ⟨des, rfl, rfl, h3, h4, h5⟩ := hf
      exact ⟨des, m, grest, rfl, h3, h4, h5, hrest⟩

theorem FramesR.struct_elim {fs : List Field} {es : List (Bytes × TL)} {ph : Phase} {rest : List Frame}
    {gfr : List Asm.Frame} (h : FramesR (.struct fs es ph :: rest) gfr) :
    ∃ des m grest, gfr = .map (tableOf des ph) m (gphase ph) :: grest ∧ es = des.map (nfield fs) ∧
      (∀ p ∈ des, ∃ f, fieldOf fs p.1 = some f ∧ okV f.ty f.nullable p.2) ∧ (∀ k, Asm.mapHas m k = hasKey es k) ∧
      FramesR rest grest := by
  cases h with
  | @cons _ gf _ grest hf hrest =>
    cases gf with
    | list _ _ => unfold FrameR at hf; exact hf.elim
    | map t m gph =>
      unfold FrameR at hf
      obtain ⟨des, rfl, rfl, h3, h4, h5⟩ := hf
      exact ⟨des, m, grest, rfl, h3, h4, h5, hrest⟩

theorem sim_deliver {ts : St} {gs : Asm.St} (h : Sim ts gs) {t : Ty} {nul : Bool} (hp : pos ts = .value t nul)
    {d : DM} {w : TL} (hs : SrcV t nul d w) :
    ∃ gs', Asm.deliver gs d = (gs', .ok) ∧ Sim (deliver ts w).1 gs' := by
  obtain ⟨p, gfr, gr⟩ := gs
  have hproto := h.proto
  have hfr := h.frames
  have hroot := h.root
  cases shape_of_pos hp with
  | root =>
    cases hfr
    exact ⟨⟨p, [], some d⟩, rfl, ⟨hproto, FramesR.nil, Or.inr ⟨d, w, rfl, rfl, hs⟩⟩⟩
  | elem T ety enul xs =>
    obtain ⟨x, grest, rfl, rfl, hok, hrest⟩ := hfr.list_elim
    refine ⟨⟨p, .list (x ++ [d]) .init :: grest, gr⟩, rfl, ⟨hproto, FramesR.cons ?_ hrest, hroot⟩⟩
    have hx : (x.map fun d => normalize t (TL.ofDM d)) ++ [w] = (x ++ [d]).map fun d => normalize t (TL.ofDM d) := by
      simp [hs.2]
    rw [hx]
    exact FrameR.list_intro false (forall_mem_snoc hok hs.1)
  | mapValue T vty vnul es k =>
    obtain ⟨des, m, grest, rfl, rfl, hok, hm, hrest⟩ := hfr.map_elim
    refine ⟨_, gdeliver_map, ⟨hproto, FramesR.cons ?_ hrest, hroot⟩⟩
    rw [hs.2, map_snoc_norm]
    refine FrameR.map_intro .init (forall_mem_snoc hok hs.1) fun k' => ?_
    rw [Asm.mapHas_mapInsert, ← map_snoc_norm, hasKey_append, hm]
  | @field T fs es k f0 hf0 rest r tt =>
    obtain ⟨des, m, grest, rfl, rfl, hok, hm, hrest⟩ := hfr.struct_elim
    rw [deliver_struct hf0]
    refine ⟨_, gdeliver_map, ⟨hproto, FramesR.cons ?_ hrest, hroot⟩⟩
    rw [hs.2, map_snoc_nfield hf0]
    refine FrameR.struct_intro .init (forall_mem_snoc hok ⟨f0, hf0, hs.1⟩) fun k' => ?_
    rw [Asm.mapHas_mapInsert, ← map_snoc_nfield hf0, hasKey_append, hm]

theorem gstep_at_value {ts : St} {gs : Asm.St} (h : Sim ts gs) {t : Ty} {nul : Bool} (hp : pos ts = .value t nul) :
    (∀ v, Asm.isScalar v = true → Asm.step gs (.assign v) = Asm.deliver gs v) ∧
    (∀ v, Asm.step gs (.assignNode v) = Asm.deliver gs v) ∧
    (∀ n, Asm.step gs (.beginMap n) = ({ gs with frames := .map [] [] .init :: gs.frames }, .ok)) ∧
    (∀ n, Asm.step gs (.beginList n) = ({ gs with frames := .list [] .init :: gs.frames }, .ok)) := by
  obtain ⟨p, gfr, gr⟩ := gs
  obtain rfl : p = .any := h.proto
  have hfr := h.frames
  -- the generic machine's current object is a value assembler too: of the root, of a list element, of a map value
  have hg : (gfr = [] ∧ gr = none) ∨ (∃ x grest, gfr = .list x .midValue :: grest) ∨
      ∃ t m grest, gfr = .map t m .midValue :: grest := by
    cases shape_of_pos hp with
    | root =>
      cases hfr
      rcases h.root with ⟨_, h2⟩ | ⟨_, _, _, h2, _⟩
      · exact .inl ⟨rfl, h2⟩
      · cases h2
    | elem =>
      obtain ⟨x, grest, rfl, -, -, -⟩ := hfr.list_elim
      exact .inr (.inl ⟨x, grest, rfl⟩)
    | mapValue =>
      obtain ⟨des, m, grest, rfl, -, -, -, -⟩ := hfr.map_elim
      exact .inr (.inr ⟨_, m, grest, rfl⟩)
    | field =>
      obtain ⟨des, m, grest, rfl, -, -, -, -⟩ := hfr.struct_elim
      exact .inr (.inr ⟨_, m, grest, rfl⟩)
  rcases hg with ⟨rfl, rfl⟩ | ⟨x, grest, rfl⟩ | ⟨t, m, grest, rfl⟩ <;>
    exact ⟨fun v hv => by simp [Asm.step, Asm.valueCall, hv, Asm.Proto.accepts],
      fun v => by simp [Asm.step, Asm.valueCall, Asm.Proto.accepts],
      fun n => by simp [Asm.step, Asm.valueCall, Asm.Proto.accepts],
      fun n => by simp [Asm.step, Asm.valueCall, Asm.Proto.accepts]⟩

theorem Sim.push {ts : St} {gs : Asm.St} (h : Sim ts gs) {f : Frame} {gf : Asm.Frame} (hf : FrameR f gf) :
    Sim { ts with frames := f :: ts.frames } { gs with frames := gf :: gs.frames } :=
  ⟨h.proto, FramesR.cons hf h.frames, h.root⟩

theorem sim_valuePrim {ts : St} {gs : Asm.St} (h : Sim ts gs) {t : Ty} {nul : Bool} (hp : pos ts = .value t nul)
    {op : Op} {ts' : St} (hs : valuePrim ts t nul op = (ts', .ok)) :
    ∃ gs', Asm.step gs op = (gs', .ok) ∧ Sim ts' gs' := by
  obtain ⟨g1, _, g3, g4⟩ := gstep_at_value h hp
  rcases valuePrim_cases ts t nul op with ⟨v, rfl, hok, h1⟩ | ⟨g, hg, h1⟩ | ⟨o, ho, h1⟩ <;> rw [h1] at hs
  · obtain ⟨gs', hg, hsim⟩ := sim_deliver h hp (srcV_scalar hok)
    rw [hs] at hsim
    exact ⟨gs', (g1 v (scalarOut_ok hok).1).trans hg, hsim⟩
  · obtain rfl := (Prod.mk.inj hs).1
    cases hg with
    | map vty vnul n => exact ⟨_, g3 n, h.push (FrameR.map_intro (des := []) (m := []) .init (by simp) fun k => rfl)⟩
    | struct fs rp n => exact ⟨_, g3 n, h.push (FrameR.struct_intro (des := []) (m := []) .init (by simp) fun k => rfl)⟩
    | list ety enul n => exact ⟨_, g4 n, h.push (FrameR.list_intro (x := []) false (by simp))⟩
  · exact absurd (Prod.mk.inj hs).2 ho

theorem Sim.replaceTop {T : Ty} {f g : Frame} {rest : List Frame} {r : Option TL} {tt : Bool} {p : Asm.Proto}
    {gf gg : Asm.Frame} {grest : List Asm.Frame} {gr : Option DM}
    (h : Sim ⟨T, f :: rest, r, tt⟩ ⟨p, gf :: grest, gr⟩) (hg : FrameR g gg) :
    Sim ⟨T, g :: rest, r, tt⟩ ⟨p, gg :: grest, gr⟩ := by
  refine ⟨h.proto, ?_, h.root⟩
  have := h.frames
  cases this with
  | cons _ hrest => exact FramesR.cons hg hrest

/-- A struct assembler takes the key `k` - given to the key assembler or to `AssembleEntry` - only if no entry has it:
    a name that is no field has no entry, and one that is a field is checked. -/
theorem struct_key_new {e : Engine} {fs : List Field} {es : List (Bytes × TL)} {k : Bytes}
    (hes : EntriesOK fs es) {sa sb s2 ts' : St} {ca cb : ErrClass}
    (hs : (match fieldOf fs k with
      | none => if e.unknownAtKey = true then (sa, Out.err ca) else (s2, .ok)
      | some _ => if hasKey es k = true then (sb, .err cb) else (s2, .ok)) = (ts', .ok)) :
    hasKey es k = false ∧ ts' = s2 := by
  split at hs
  · rename_i hnone
    split at hs
    · cases hs
    · exact ⟨hasKey_of_no_field hes hnone, (Prod.mk.inj hs).1.symm⟩
  · split at hs
    · cases hs
    · rename_i hc
      exact ⟨Bool.eq_false_iff.2 hc, (Prod.mk.inj hs).1.symm⟩

theorem sim_supplyKey {e : Engine} (he : e.keyAsmDupMapKey = false) {ts : St} {gs : Asm.St} (h : Sim ts gs)
    (hi : Inv ts) {k : Bytes} {ts' : St} (hs : supplyKey e ts k = (ts', .ok)) :
    ∃ gs', Asm.step gs (.assign (.str k)) = (gs', .ok) ∧ Asm.step gs (.assignNode (.str k)) = (gs', .ok) ∧
      Sim ts' gs' := by
  obtain ⟨p, gfr, gr⟩ := gs
  have hsh := shape ts
  generalize pos ts = q at hsh
  cases hsh with
  | mapKey T vty vnul es rest r tt =>
    obtain ⟨des, m, grest, rfl, rfl, hok, hm, -⟩ := h.frames.map_elim
    simp only [supplyKey] at hs
    split at hs
    · cases hs
    · rename_i hc
      simp only [he, Bool.not_false, Bool.and_true, Bool.not_eq_true] at hc
      obtain rfl := (Prod.mk.inj hs).1
      have hmk : Asm.mapHas m k = false := by rw [hm, hc]
      exact ⟨_, Asm.step_key_assign rfl hmk, Asm.step_key_assignNode rfl hmk,
        h.replaceTop (FrameR.map_intro (.expectValue k) hok hm)⟩
  | structKey T fs es rest r tt =>
    obtain ⟨_, _, _, hes, _⟩ := hi.top
    obtain ⟨des, m, grest, rfl, rfl, hok, hm, -⟩ := h.frames.struct_elim
    simp only [supplyKey] at hs
    obtain ⟨hk, rfl⟩ := struct_key_new hes hs
    have hmk : Asm.mapHas m k = false := by rw [hm, hk]
    exact ⟨_, Asm.step_key_assign rfl hmk, Asm.step_key_assignNode rfl hmk,
      h.replaceTop (FrameR.struct_intro (.expectValue k) hok hm)⟩
  | _ => cases hs

theorem gfinish_map {p : Asm.Proto} {des m : List (Bytes × DM)} {grest : List Asm.Frame} {gr : Option DM} :
    Asm.step ⟨p, .map (Asm.doneEntries des) m .init :: grest, gr⟩ .finish =
      Asm.deliver ⟨p, grest, gr⟩ (.map (DMKVs.ofList des)) :=
  (Asm.step_finish_map rfl).trans (by rw [Asm.tableEntries_doneEntries])

theorem Sim.pop {T : Ty} {f : Frame} {rest : List Frame} {r : Option TL} {tt : Bool} {p : Asm.Proto}
    {gf : Asm.Frame} {grest : List Asm.Frame} {gr : Option DM}
    (h : Sim ⟨T, f :: rest, r, tt⟩ ⟨p, gf :: grest, gr⟩) : Sim ⟨T, rest, r, tt⟩ ⟨p, grest, gr⟩ := by
  refine ⟨h.proto, ?_, h.root⟩
  have := h.frames
  cases this with
  | cons _ hrest => exact hrest

section
variable {e : Engine} {T : Ty} {rest : List Frame} {r : Option TL} {tt : Bool} {ts' : St} {gs : Asm.St} {op : Op}

theorem Sim.finish {f : Frame} {p : Asm.Proto} {gf : Asm.Frame} {grest : List Asm.Frame} {gr : Option DM}
    (h : Sim ⟨T, f :: rest, r, tt⟩ ⟨p, gf :: grest, gr⟩) (hi : Inv ⟨T, f :: rest, r, tt⟩) {d : DM} {w : TL}
    (hsrc : ∀ ty nul, FrameFor f ty → SrcV ty nul d w) (hs : deliver ⟨T, rest, r, tt⟩ w = (ts', .ok)) :
    ∃ gs', Asm.deliver ⟨p, grest, gr⟩ d = (gs', .ok) ∧ Sim ts' gs' := by
  obtain ⟨pty, pnul, hppos, hfor⟩ := hi.parent
  obtain ⟨gs', hg, hsim⟩ := sim_deliver h.pop hppos (hsrc pty pnul hfor)
  rw [hs] at hsim
  exact ⟨gs', hg, hsim⟩

theorem sim_mapCall {vty : Ty} {vnul : Bool} {es : List (Bytes × TL)}
    (h : Sim ⟨T, .map vty vnul es .init :: rest, r, tt⟩ gs) (hi : Inv ⟨T, .map vty vnul es .init :: rest, r, tt⟩)
    (hs : stepPrim e ⟨T, .map vty vnul es .init :: rest, r, tt⟩ op = (ts', .ok)) :
    ∃ gs', Asm.step gs op = (gs', .ok) ∧ Sim ts' gs' := by
  obtain ⟨p, gfr, gr⟩ := gs
  obtain ⟨_, hkeys, _, _⟩ := hi.top
  obtain ⟨des, m, grest, rfl, rfl, hok, hm, -⟩ := h.frames.map_elim
  simp only [stepPrim] at hs
  split at hs
  · obtain rfl := (Prod.mk.inj hs).1
    exact ⟨_, Asm.step_assembleKey rfl, h.replaceTop (FrameR.map_intro .midKey hok hm)⟩
  · rename_i k
    split at hs
    · cases hs
    · rename_i hc
      simp only [Bool.not_eq_true] at hc
      obtain rfl := (Prod.mk.inj hs).1
      have hmk : Asm.mapHas m k = false := by rw [hm, hc]
      exact ⟨_, Asm.step_assembleEntry rfl hmk, h.replaceTop (FrameR.map_intro (.midValue k) hok hm)⟩
  · have hnd : (des.map (·.1)).Nodup := by rwa [List.map_map] at hkeys
    obtain ⟨gs', hg, hsim⟩ := h.finish hi (fun ty nul hfor => by cases hfor; exact srcV_map nul hnd hok) hs
    exact ⟨gs', gfinish_map.trans hg, hsim⟩
  · cases hs

theorem sim_structCall {fs : List Field} {es : List (Bytes × TL)}
    (h : Sim ⟨T, .struct fs es .init :: rest, r, tt⟩ gs) (hi : Inv ⟨T, .struct fs es .init :: rest, r, tt⟩)
    (hs : stepPrim e ⟨T, .struct fs es .init :: rest, r, tt⟩ op = (ts', .ok)) :
    ∃ gs', Asm.step gs op = (gs', .ok) ∧ Sim ts' gs' := by
  obtain ⟨p, gfr, gr⟩ := gs
  obtain ⟨_, _, hkeys, hes, _⟩ := hi.top
  obtain ⟨des, m, grest, rfl, rfl, hok, hm, -⟩ := h.frames.struct_elim
  simp only [stepPrim] at hs
  split at hs
  · obtain rfl := (Prod.mk.inj hs).1
    exact ⟨_, Asm.step_assembleKey rfl, h.replaceTop (FrameR.struct_intro .midKey hok hm)⟩
  · rename_i k
    obtain ⟨hk, rfl⟩ := struct_key_new hes hs
    have hmk : Asm.mapHas m k = false := by rw [hm, hk]
    exact ⟨_, Asm.step_assembleEntry rfl hmk, h.replaceTop (FrameR.struct_intro (.midValue k) hok hm)⟩
  · split at hs
    · rename_i hreq
      have hnd : (des.map (·.1)).Nodup := by rwa [nfield_keys] at hkeys
      obtain ⟨gs', hg, hsim⟩ := h.finish hi
        (fun ty nul hfor => by obtain ⟨F, rp, rfl, rfl⟩ := hfor; exact srcV_struct rp nul hnd hok hreq) hs
      exact ⟨gs', gfinish_map.trans hg, hsim⟩
    · cases hs
  · cases hs

end

theorem sim_stepPrim {e : Engine} (he : e.keyAsmDupMapKey = false) {ts : St} {gs : Asm.St} (h : Sim ts gs)
    (hi : Inv ts) {op : Op} {ts' : St} (hs : stepPrim e ts op = (ts', .ok)) :
    ∃ gs', Asm.step gs op = (gs', .ok) ∧ Sim ts' gs' := by
  cases hpos : pos ts with
  | value t nul =>
    rw [stepPrim_at_value hpos] at hs
    exact sim_valuePrim h hpos hs
  | errAsm =>
    rw [stepPrim_at_errAsm hpos] at hs
    exact absurd hs errPrim_ne_ok
  | key =>
    rw [stepPrim_at_key hpos] at hs
    unfold keyPrim at hs
    split at hs
    · obtain ⟨gs', h1, _, h3⟩ := sim_supplyKey he h hi hs
      exact ⟨gs', h1, h3⟩
    all_goals cases hs
  | other =>
    cases shape_of_pos hpos with
    | built => cases hs
    | list T ety enul xs rest r tt =>
      obtain ⟨p, gfr, gr⟩ := gs
      obtain ⟨x, grest, rfl, rfl, hok, -⟩ := h.frames.list_elim
      simp only [stepPrim] at hs
      split at hs
      · obtain rfl := (Prod.mk.inj hs).1
        exact ⟨⟨p, .list x .midValue :: grest, gr⟩, rfl, h.replaceTop (FrameR.list_intro true hok)⟩
      · exact h.finish hi (fun ty nul hfor => by cases hfor; exact srcV_list nul hok) hs
      · cases hs
    | mapInit => exact sim_mapCall h hi hs
    | structInit => exact sim_structCall h hi hs
    | mapExpect T vty vnul es k rest r tt =>
      obtain ⟨p, gfr, gr⟩ := gs
      obtain ⟨des, m, grest, rfl, rfl, hok, hm, -⟩ := h.frames.map_elim
      simp only [stepPrim] at hs
      split at hs
      · obtain rfl := (Prod.mk.inj hs).1
        exact ⟨_, Asm.step_assembleValue_map rfl, h.replaceTop (FrameR.map_intro (.midValue k) hok hm)⟩
      · cases hs
    | structExpect T fs es k rest r tt =>
      obtain ⟨p, gfr, gr⟩ := gs
      obtain ⟨des, m, grest, rfl, rfl, hok, hm, -⟩ := h.frames.struct_elim
      simp only [stepPrim] at hs
      split at hs
      · obtain rfl := (Prod.mk.inj hs).1
        exact ⟨_, Asm.step_assembleValue_map rfl, h.replaceTop (FrameR.struct_intro (.midValue k) hok hm)⟩
      · cases hs

/- The next three lemmas only recover the position of the typed machine inside the `AssignNode` case of `sim_step`: an
   accepted `AssignNode` was made on a value assembler, or - a string node - on a key assembler. -/

theorem stepPrim_other_value_call {e : Engine} {ts : St} (hp : pos ts = .other) {op : Op}
    (hc : TAsm.valueCall op = true) : (stepPrim e ts op).2 = .panic := by
  cases shape_of_pos hp <;> cases op <;> first | rfl | cases hc

theorem valueCall_ok_pos {e : Engine} {s : St} (op : Op) (hc : TAsm.valueCall op = true)
    (h : (stepPrim e s op).2 = .ok) :
    (∃ t nul, pos s = .value t nul) ∨ (pos s = .key ∧ ∃ k, op = .assign (.str k)) := by
  cases hpos : pos s with
  | value t nul => exact .inl ⟨t, nul, rfl⟩
  | errAsm =>
    rw [stepPrim_at_errAsm hpos] at h
    exact absurd (Prod.ext rfl h : errPrim s op = ((errPrim s op).1, .ok)) errPrim_ne_ok
  | key =>
    rw [stepPrim_at_key hpos] at h
    refine .inr ⟨rfl, ?_⟩
    cases op with
    | assign v => cases v <;> first | exact ⟨_, rfl⟩ | cases h
    | _ => cases h
  | other => rw [stepPrim_other_value_call hpos hc] at h; cases h

theorem assignNode_ok_first {e : Engine} {s s' : St} {v : DM} (h : step e s (.assignNode v) = (s', .ok)) :
    (isRec v = true ∧ (stepPrim e s (beginOp v)).2 = .ok) ∨ (isRec v = false ∧ stepPrim e s (.assign v) = (s', .ok)) := by
  rcases h ▸ step_case e s (.assignNode v) with hr | ⟨hop, _⟩ | ⟨_, hv, hr', hr⟩ | ⟨_, _, hv, hrec, hp, _⟩ | ⟨_, hr⟩ |
    ⟨_, _, _, _, _, hr⟩
  · cases hr
  · exact absurd rfl (hop v)
  · cases hv; exact .inr ⟨hr', hr.symm⟩
  · cases hv
    refine .inl ⟨hrec, ?_⟩
    -- an accepted copy begins with its accepted `Begin…`
    cases v with
    | list xs =>
      simp only [Mach.putNode] at hp
      obtain ⟨s1, h1, _⟩ := Mach.andThen_eq_ok hp
      exact congrArg Prod.snd h1
    | map es =>
      simp only [Mach.putNode] at hp
      obtain ⟨s1, h1, _⟩ := Mach.andThen_eq_ok hp
      exact congrArg Prod.snd h1
    | _ => cases hrec
  · cases hr
  · cases hr

theorem sim_step {e : Engine} (he : e.keyAsmDupMapKey = false) {ts : St} {gs : Asm.St} (h : Sim ts gs)
    (hi : Inv ts) {op : Op} {ts' : St} (hs : step e ts op = (ts', .ok)) :
    ∃ gs', Asm.step gs op = (gs', .ok) ∧ Sim ts' gs' := by
  have ht := not_tainted_of_no_panic hs nofun
  cases op with
  | assignNode v =>
    have hpos : (∃ t nul, pos ts = .value t nul) ∨ (pos ts = .key ∧ ∃ k, v = .str k) := by
      rcases assignNode_ok_first hs with ⟨_, hb⟩ | ⟨hr, hb⟩
      · rcases valueCall_ok_pos (beginOp v) (by cases v <;> rfl) hb with h1 | ⟨_, k, hk⟩
        · exact .inl h1
        · cases v <;> cases hk
      · rcases valueCall_ok_pos (.assign v) (by simpa [TAsm.valueCall, isRec_eq] using hr) (by rw [hb]) with h1 | ⟨hp, k, hk⟩
        · exact .inl h1
        · exact .inr ⟨hp, k, by cases hk; rfl⟩
    rcases hpos with ⟨t, nul, hpos⟩ | ⟨hpos, k, rfl⟩
    · obtain ⟨h1, h2⟩ := step_assignNode_spec he ht hpos (hi.pos_wf hpos).2 v
      cases hc : (conforms t nul (TL.ofDM v) && int64s v) with
      | true =>
        rw [h1 hc] at hs
        obtain rfl := (Prod.mk.inj hs).1
        obtain ⟨gs', hg, hsim⟩ := sim_deliver h hpos (d := v) ⟨hc, rfl⟩
        obtain ⟨_, gnode, _, _⟩ := gstep_at_value h hpos
        exact ⟨gs', (gnode v).trans hg, hsim⟩
      | false =>
        obtain ⟨c, h3 | ⟨_, h3⟩⟩ := h2 hc <;> (rw [h3] at hs; cases hs)
    · have hk : supplyKey e ts k = (ts', .ok) := by
        rw [← hs, step_of_not_tainted ht]; exact (stepPrim_at_key (e := e) hpos (.assign (.str k))).symm
      obtain ⟨gs', _, h2, h3⟩ := sim_supplyKey he h hi hk
      exact ⟨gs', h2, h3⟩
  | _ =>
    rw [step_of_not_tainted ht] at hs
    exact sim_stepPrim he h hi hs

theorem sim_run {e : Engine} (he : e.keyAsmDupMapKey = false) : (ops : List Op) → {ts ts' : St} → {gs : Asm.St} →
    Sim ts gs → Inv ts → Hist.Runs (step e) ts ops ts' → ∃ gs', Asm.Runs gs ops gs' ∧ Sim ts' gs'
  | [], ts, _, gs, h, _, hr => by cases hr; exact ⟨gs, rfl, h⟩
  | op :: ops, ts, ts', gs, h, hi, hr => by
    obtain ⟨ts1, hst, hr'⟩ := hr.of_cons
    obtain ⟨gs1, hg1, hsim1⟩ := sim_step he h hi hst
    have hi1 : Inv ts1 := by have := step_inv he _ op hi; rwa [hst] at this
    obtain ⟨gs', hg', hsim'⟩ := sim_run he ops hsim1 hi1 hr'
    exact ⟨gs', Asm.Runs.cons hg1 hg', hsim'⟩

end TAsm
end Ipld

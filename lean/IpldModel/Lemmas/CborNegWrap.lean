/-
  The `negWrap` switch (known finding K1) is the only place where the code-faithful decoder and the
  repaired decoder part ways: the repaired run either does exactly what the faithful run does, or it
  stops with `negOverflow`.
-/
import IpldModel.Lemmas.CborBounds
namespace Ipld
namespace Cbor

/-- Deviation: the outcome `a'` (with `negWrap` off) is the outcome `a` (with it on), or else the
    `negOverflow` error. -/
def Dev {α : Type} (a' a : R α) : Prop := a' = a ∨ a' = .error .negOverflow

theorem Dev.refl {α : Type} (a : R α) : Dev a a := Or.inl rfl

theorem Dev.congr : Congr Dev where
  refl := Dev.refl
  bind {_ _ x' _ _ _} hx hf := by
    rcases hx with rfl | rfl
    · cases x' with
      | error e => exact Or.inl rfl
      | ok a => exact hf a rfl
    · exact Or.inr rfl

theorem Dev.ite {α : Type} {c : Prop} [Decidable c] {x' x y' y : R α} (h1 : Dev x' x) (h2 : Dev y' y) :
    Dev (if c then x' else y') (if c then x else y) := by
  split
  · exact h1
  · exact h2

/-- The one token at which the two runs can part: a negative integer, where `n + 1` wraps to 0 exactly when
    `n = 2^64 - 1`. -/
theorem headTok_dev {cfg' cfg : DecCfg} (hw : cfg'.negWrap = false) :
    ∀ (m n : Nat) (r : Bytes), Dev (headTok cfg' m n r) (headTok cfg m n r)
  | 1, n, r => by
    rw [headTok_nint cfg' (.inl hw)]
    by_cases hn : n + 1 < 18446744073709551616
    · rw [headTok_nint cfg (.inr hn)]; exact Dev.refl _
    · exact Or.inr (if_pos (Nat.lt_of_lt_of_le (by decide) (Nat.le_of_not_lt hn)))
  | 0, _, _ | 2, _, _ | 3, _, _ | 4, _, _ | 5, _, _ | _ + 6, _, _ => Dev.refl _

theorem nextTok_dev {cfg' cfg : DecCfg} (hr : cfg'.relaxed = cfg.relaxed) (hw : cfg'.negWrap = false) (tg : Option Nat) :
    ∀ bs, Dev (nextTok cfg' tg bs) (nextTok cfg tg bs)
  | [] => Dev.refl _
  | b0 :: rest => by
    rw [nextTok, nextTok, hr]
    dsimp only
    -- one `Dev.ite` per `if` of `nextTok`, in its order; only the last branch, the head token, can differ
    exact Dev.ite (Dev.refl _) (Dev.ite (Dev.refl _) (Dev.ite (Dev.refl _) (Dev.ite (Dev.refl _) (Dev.ite (Dev.refl _)
      (Dev.ite (Dev.refl _) (Dev.ite (Dev.refl _) (Dev.ite (Dev.refl _) (Dev.ite (Dev.refl _)
        (Dev.congr.bind (Dev.refl _) fun p _ => headTok_dev hw _ _ _)))))))))

theorem decItem_dev {cfg' cfg : DecCfg} (hr : cfg'.relaxed = cfg.relaxed) (hl : cfg'.allowLinks = cfg.allowLinks)
    (hd : cfg'.maxDepth = cfg.maxDepth) (hw : cfg'.negWrap = false) {fuel depth : Nat} {extra : Int} {tag : Option Nat}
    {s : DS} (h : s.rest.length < fuel) :
    Dev (decItem cfg' fuel depth extra tag s) (decItem cfg fuel depth extra tag s) :=
  decItem_rel Dev.congr hr hl hd (nextTok_dev hr hw) h h

theorem decode_dev (cfg : DecCfg) (bs : Bytes) :
    Dev (decode { cfg with negWrap := false } bs) (decode cfg bs) :=
  Dev.congr.bind (decItem_dev (cfg' := { cfg with negWrap := false }) (cfg := cfg) rfl rfl rfl rfl (Nat.lt_succ_self _))
    fun _ _ => Dev.refl _

end Cbor
end Ipld

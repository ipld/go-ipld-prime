/-
  Erasing the refused calls from a history of the assembler model: `eraseFrom` / `erase`, defined here, are what the C12
  theorems on erased histories are stated with; `eraseFrom` agrees with `Hist.eraseFrom` (`eraseFrom_eq_hist`) and the
  model's key assemblers behave (`keyAsm`), so Lemmas/EraseHistory.lean applies.
-/
import IpldModel.Lemmas.AsmInv
namespace Ipld
namespace Asm

/-- `eraseFrom s pend h`: the accepted calls of `h` (run from `s`).  Every call that returns an
    error is dropped.  An accepted `AssembleKey` is held back in `pend` until the key assembler it
    returned has either accepted a key (then it is emitted, followed by that call) or rejected one
    as repeated (then it is dropped too, because the map assembler is back where it was before the
    `AssembleKey`).  Wrong-kind rejections by the key assembler leave it waiting. -/
def eraseFrom (s : St) (pend : List Op) : List Op → List Op
  | [] => pend
  | op :: ops =>
    match step s op with
    | (s', .ok) =>
        if op = .assembleKey then pend ++ eraseFrom s' [op] ops
        else pend ++ op :: eraseFrom s' [] ops
    | (s', .err .repeatedKey) => eraseFrom s' [] ops
    | (s', _) => eraseFrom s' pend ops

/-- the history with every rejected call (and every `AssembleKey` whose key was rejected) erased -/
def erase (s : St) (h : List Op) : List Op := eraseFrom s [] h

theorem keyAsm : Hist.KeyAsm step inKey (fun _ => false) where
  key h := by obtain ⟨t, m, rest, hf, rfl⟩ := step_assembleKey_ok h; exact ⟨by rw [inKey, hf], rfl⟩
  ok := step_ok_not_inKey
  err h := by
    rcases step_err h with h1 | ⟨_, t, m, rest, hf, rfl⟩
    · exact .inl h1.1
    · refine .inr (.inl ⟨by rw [inKey, hf], rfl, fun s0 h0 => ?_⟩)
      obtain ⟨t', m', rest', hf', e⟩ := step_assembleKey_ok h0
      obtain ⟨p, fr, rt⟩ := s0
      cases hf'; cases e; cases hf; rfl
  stuck _ ht := nomatch ht

/-- `eraseFrom` forgets what it holds back at every repeated-key error, `Hist.eraseFrom` only when a key assembler
    ends.  Something is held back only inside a key assembler, and there a repeated key ends it: the two agree. -/
theorem eraseFrom_eq_hist (h : List Op) {s : St} {pend : List Op} (hq : pend = [] ∨ inKey s = true) :
    eraseFrom s pend h = Hist.eraseFrom step inKey s pend h := by
  induction h generalizing s pend with
  | nil => rfl
  | cons op ops ih =>
    rcases hs : step s op with ⟨s', _ | c | _⟩
    · by_cases hop : op = .assembleKey
      · subst hop
        simp only [eraseFrom, Hist.eraseFrom, hs, if_true, ih (.inr (keyAsm.key hs).2)]
      · simp only [eraseFrom, Hist.eraseFrom, hs, if_neg hop, ih (.inl rfl)]
    · by_cases hc : c = .repeatedKey
      · subst hc
        simp only [eraseFrom, Hist.eraseFrom, hs, ih (.inl rfl)]
        rcases step_err hs with ⟨rfl, hk⟩ | ⟨_, t, m, rest, hf, rfl⟩
        · rw [hk rfl] at hq ⊢
          rw [hq.resolve_right nofun]; rfl
        · rw [if_pos (by rw [inKey, hf]; rfl)]
      · obtain rfl := step_err_not_repeated hs hc
        have : eraseFrom s' pend (op :: ops) = eraseFrom s' pend ops := by
          cases c <;> simp only [eraseFrom, hs] <;> exact absurd rfl hc
        rw [this, ih hq]
        simp only [Hist.eraseFrom, hs, Bool.and_not_self, Bool.false_eq_true, if_false]
    · simp only [eraseFrom, Hist.eraseFrom, hs]
      refine ih ((step_panic hs).elim (fun e => e ▸ hq) fun hk => hq.imp_right fun hq => ?_)
      rw [hq] at hk; cases hk

theorem erase_runs {s : St} (h : List Op) (hk : inKey s = false) (hn : Out.panic ∉ (run s h).2) :
    Runs s (erase s h) (run s h).1 := by
  unfold Runs erase
  rw [run_eq_hist, eraseFrom_eq_hist h (.inl rfl)] at *
  exact Hist.eraseFrom_runs keyAsm h (.none hk) hn rfl

end Asm
end Ipld

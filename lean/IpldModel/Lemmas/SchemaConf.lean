/-
  Whatever the ideal builder (either level) builds conforms to the type and, at representation level, has the
  canonical shape.  The walks carry both claims as twin invariants: `GOK`/`GSh` of a struct assembly state,
  `UnionVal`/`UnionShape` of a union value.
-/
import IpldModel.Lemmas.ShapeOK
import IpldModel.Lemmas.SchemaIdeal
import IpldModel.Lemmas.SchemaAddr
namespace Ipld
namespace Schema

def GOK (fs : List Field) (g : Bytes → Option TL) : Prop :=
  ∀ f ∈ fs, ∀ v, g f.name = some v → conforms f.ty f.nullable v = true

def GSh (fs : List Field) (g : Bytes → Option TL) : Prop :=
  ∀ f ∈ fs, ∀ v, g f.name = some v → shapeOK f.ty v = true ∧ v ≠ .absent

theorem GSh_none {fs : List Field} : GSh fs (fun _ => none) :=
  fun _ _ _ h => nomatch h

theorem finish_conforms {fs : Fields} {r : StructRepr} {nul : Bool}
    (hnd : (fs.toList.map (·.name)).Nodup) {g : Bytes → Option TL} (hg : GOK fs.toList g) {v : TL}
    (h : (SSt.ofFn fs.toList g).finish fs.toList = .ok v) :
    conforms (.struct fs r) nul v = true := by
  rw [SSt.ofFn_finish] at h
  split at h
  · next hall =>
    cases h
    refine conforms_struct_of_entriesOK fs r nul hnd _ (entriesOK_map _ fs.toList fun f hf => ⟨rfl, ?_⟩)
    cases hgf : g f.name with
    | none =>
      have hopt := List.all_eq_true.1 hall f hf
      rw [hgf, Option.isSome_none, Bool.or_false] at hopt
      exact hopt
    | some v => exact fieldValOK_of_conforms (hg f hf v hgf)
  · cases h

theorem finish_shape_of {fs : Fields} {sr : StructRepr} {g : Bytes → Option TL} (hg : GSh fs.toList g)
    (hd : sr = .tuple →
      tupleDense (TLKVs.ofList (fs.toList.map fun f => (f.name, (g f.name).getD .absent))) = true)
    {v : TL} (h : (SSt.ofFn fs.toList g).finish fs.toList = .ok v) :
    shapeOK (.struct fs sr) v = true := by
  rw [SSt.ofFn_finish] at h
  split at h
  · cases h
    show (shapeOKFields fs.toList _ &&
      match (generalizing := false) sr with | .tuple => tupleDense _ | _ => true) = true
    rw [shapeOKFields_map g fs.toList fun f hf v hv => (hg f hf v hv).1, Bool.true_and]
    split
    · exact hd rfl
    · rfl
  · cases h

theorem finish_shape {fs : Fields} {sr : StructRepr} (hsr : sr ≠ .tuple) {g : Bytes → Option TL}
    (hg : GSh fs.toList g) {v : TL} (h : (SSt.ofFn fs.toList g).finish fs.toList = .ok v) :
    shapeOK (.struct fs sr) v = true :=
  finish_shape_of hg (fun e => absurd e hsr) h

theorem finish_shape_tuple (fs : Fields) (pre suf : List Field) (hfs : fs.toList = pre ++ suf)
    (g : Bytes → Option TL) (hg : GSh fs.toList g)
    (hp : ∀ f ∈ pre, (g f.name).isSome = true) (hs : ∀ f ∈ suf, g f.name = none) (v : TL)
    (h : (SSt.ofFn fs.toList g).finish fs.toList = .ok v) :
    shapeOK (.struct fs .tuple) v = true := by
  refine finish_shape_of hg (fun _ => ?_) h
  rw [hfs]
  refine tupleDense_map g pre suf (fun f hf => ?_) hs
  obtain ⟨v, hv⟩ := Option.isSome_iff_exists.1 (hp f hf)
  exact ⟨v, hv, (hg f (hfs ▸ List.mem_append_left suf hf) v hv).2⟩

def UnionVal (ms : List Member) (v : TL) : Prop :=
  ∃ m ∈ ms, ∃ tv, v = .map (.cons m.name tv .nil) ∧ conforms m.ty false tv = true

def UnionShape (ms : List Member) (v : TL) : Prop :=
  ∃ m ∈ ms, ∃ tv, v = wrapMember m.name tv ∧ shapeOK m.ty tv = true

theorem conforms_of_unionVal {ms : Members} {ur : UnionRepr} {nul : Bool} {v : TL}
    (hnd : (ms.toList.map (·.name)).Nodup) (h : UnionVal ms.toList v) :
    conforms (.union ms ur) nul v = true := by
  obtain ⟨m, hm, tv, rfl, hc⟩ := h
  exact conforms_union_single hnd hm hc

theorem shapeOK_of_unionShape {ms : Members} {ur : UnionRepr} {v : TL}
    (hnd : (ms.toList.map (·.name)).Nodup) (h : UnionShape ms.toList v) :
    shapeOK (.union ms ur) v = true := by
  obtain ⟨m, hm, tv, rfl, hc⟩ := h
  exact shapeOK_union_single hnd hm hc

/-- The shape of `buildKinded`, `buildPrefix` and `buildPrefixNoDelim` at a `cons`, the panic flag off. -/
theorem union_step {c : Prop} [Decidable c] {n dc : Bytes} {k : Kind} {t : Ty}
    {rest : Members} {o o' : Outcome TL} {v : TL}
    (h : (if c then o.map fun tv => .map (.cons n tv .nil) else o') = .ok v)
    (hd : ∀ tv, o = .ok tv → conforms t false tv = true ∧ shapeOK t tv = true)
    (hr : o' = .ok v → UnionVal rest.toList v ∧ UnionShape rest.toList v) :
    UnionVal (Members.cons n dc k t rest).toList v ∧ UnionShape (Members.cons n dc k t rest).toList v := by
  split at h
  · obtain ⟨tv, htv, rfl⟩ := Outcome.map_eq_ok.1 h
    exact ⟨⟨⟨n, dc, k, t⟩, List.mem_cons_self, tv, rfl, (hd tv htv).1⟩,
      ⟨n, dc, k, t⟩, List.mem_cons_self, tv, rfl, (hd tv htv).2⟩
  · obtain ⟨⟨m, hm, tv, hv, hc⟩, m', hm', tv', hv', hs⟩ := hr h
    exact ⟨⟨m, List.mem_cons_of_mem _ hm, tv, hv, hc⟩, m', List.mem_cons_of_mem _ hm', tv', hv', hs⟩

/-- "Good" throughout this file: conforming and, at representation level, of the canonical shape. -/
theorem scalars_good :
    (∀ ty, ty.wf = true → ∀ lvl nul d, d ≠ .null → ∀ v, buildScalar Engine.ideal lvl nul d ty = .ok v →
      conforms ty nul v = true ∧ (lvl = .repr → shapeOK ty v = true)) ∧
    (∀ fs, fs.wf = true → ∀ ps es, buildJoin Engine.ideal fs ps = .ok es →
      entriesOK fs.toList es ∧ shapeOKFields fs.toList (TLKVs.ofList es) = true) ∧
    ∀ ms, ms.wf = true →
      (∀ nul d, d ≠ .null → ∀ v, buildKinded Engine.ideal nul d ms = .ok v →
        UnionVal ms.toList v ∧ UnionShape ms.toList v) ∧
      (∀ nul p r v, buildPrefix Engine.ideal nul p r ms = .ok v →
        UnionVal ms.toList v ∧ UnionShape ms.toList v) ∧
      ∀ nul s v, buildPrefixNoDelim Engine.ideal nul s ms = .ok v →
        UnionVal ms.toList v ∧ UnionShape ms.toList v := by
  refine Ty.builder_induct ?_ ?_ ?_ ?_ ?_ ?_ ?_ ?_ ?_ ?_ ?_ ?_ ?_ ?_ ?_ ?_
  iterate 6 (intro _ lvl nul d _ v h; unfold buildScalar at h; split at h <;> cases h; exact ⟨rfl, fun _ => rfl⟩)
  · intro _ lvl nul d hd v h
    refine ⟨?_, fun _ => shapeOK_leaf trivial⟩
    unfold buildScalar at h
    split at h
    · next hs =>
      cases h
      cases d with
      | null => exact absurd rfl hd
      | list _ => cases hs
      | map _ => cases hs
      | _ => rfl
    · cases h
  iterate 2 (intro _ _ _ _ _ _ _ _ h; cases h)
  · intro fs r hj hwf lvl nul d _ v h
    have hw := wf_struct hwf
    rw [buildScalar_struct] at h
    split at h
    · split at h
      · cases h
      · obtain ⟨es, hes, rfl⟩ := Outcome.map_eq_ok.1 h
        have hes := hj ((Fields.wf_iff fs).2 hw.1) _ es hes
        refine ⟨conforms_struct_of_entriesOK fs _ nul hw.2.1 es hes.1, fun _ => ?_⟩
        show (shapeOKFields fs.toList (TLKVs.ofList es) && true) = true
        rw [hes.2]
        rfl
    · cases h
  · intro ms r hm hwf lvl nul d hd v h
    have hw := wf_union hwf
    obtain ⟨hk, hp, hn⟩ := hm ((Members.wf_iff ms).2 hw.1)
    suffices key : UnionVal ms.toList v ∧ UnionShape ms.toList v from
      ⟨conforms_of_unionVal hw.2 key.1, fun _ => shapeOK_of_unionShape hw.2 key.2⟩
    rw [buildScalar_union_off rfl] at h
    split at h
    · exact hk nul d hd v h
    · split at h
      · split at h
        · exact hn nul _ v h
        · split at h
          · cases h
          · exact hp nul _ _ v h
      · cases h
    · cases h
  · intro ms r _ lvl nul d _ v h
    refine ⟨?_, fun _ => shapeOK_leaf trivial⟩
    unfold buildScalar at h
    split at h
    · split at h
      · next hany => cases h; exact hany
      · cases h
    iterate 2
      split at h
      · split at h
        · next m hm =>
          cases h
          exact List.any_eq_true.2 ⟨m, List.mem_of_find?_eq_some hm, beq_self_eq_true _⟩
        · cases h
      · cases h
    cases h
  · intro _ ps es h
    cases ps
    · cases h; exact ⟨trivial, rfl⟩
    · cases h
  · intro n rn o nu t rest ht hj hwf ps es h
    rw [Fields.wf, Bool.and_eq_true] at hwf
    rcases ps with _ | ⟨p, ps⟩
    · cases h
    rw [buildJoin_cons, Outcome.bind_eq_ok] at h
    obtain ⟨v, hv, h⟩ := h
    obtain ⟨es', hes', rfl⟩ := Outcome.map_eq_ok.1 h
    have hv := ht hwf.1 .repr false (.str p) nofun v hv
    have hes' := hj hwf.2 ps es' hes'
    refine ⟨⟨rfl, fieldValOK_of_conforms (conforms_mono_nul hv.1), hes'.1⟩, ?_⟩
    rw [Fields.toList, TLKVs.ofList_cons, shapeOKFields_cons, hv.2 rfl, hes'.2, beq_self_eq_true]
    rfl
  · refine fun _ => ⟨fun _ _ _ _ h => ?_, fun _ _ _ _ h => ?_, fun _ _ _ h => ?_⟩ <;> cases h
  · intro n dc k t rest ht hm hwf
    rw [Members.wf, Bool.and_eq_true] at hwf
    obtain ⟨hk, hp, hn⟩ := hm hwf.2
    have ht (d : DM) (hd : d ≠ .null) (tv : TL) (h : buildScalar Engine.ideal .repr false d t = .ok tv) :
        conforms t false tv = true ∧ shapeOK t tv = true :=
      ⟨(ht hwf.1 .repr false d hd tv h).1, (ht hwf.1 .repr false d hd tv h).2 rfl⟩
    refine ⟨fun nul d hd v h => ?_, fun nul p r v h => ?_, fun nul s v h => ?_⟩
    · rw [buildKinded_cons, memberStep_off rfl] at h
      exact union_step h (ht d hd) (hk nul d hd v)
    · rw [buildPrefix_cons, memberStep_off rfl] at h
      exact union_step h (ht (.str r) nofun) (hp nul p r v)
    · rw [buildPrefixNoDelim_cons, memberStep_off rfl] at h
      exact union_step h (ht (.str (s.drop dc.length)) nofun) (hn nul s v)

theorem buildJoin_conforms : (fs : Fields) → (ps : List Bytes) → fs.wf = true →
    (es : List (Bytes × TL)) → buildJoin Engine.ideal fs ps = .ok es → entriesOK fs.toList es :=
  fun fs ps hwf es h => (scalars_good.2.1 fs hwf ps es h).1
theorem buildPrefix_conforms (nul : Bool) (p r : Bytes) : (ms : Members) → ms.wf = true →
    (v : TL) → buildPrefix Engine.ideal nul p r ms = .ok v → UnionVal ms.toList v :=
  fun ms hwf v h => ((scalars_good.2.2 ms hwf).2.1 nul p r v h).1
theorem buildPrefixNoDelim_conforms (nul : Bool) (s : Bytes) : (ms : Members) → ms.wf = true →
    (v : TL) → buildPrefixNoDelim Engine.ideal nul s ms = .ok v → UnionVal ms.toList v :=
  fun ms hwf v h => ((scalars_good.2.2 ms hwf).2.2 nul s v h).1
theorem buildJoin_shape : (fs : Fields) → (ps : List Bytes) → fs.wf = true →
    (es : List (Bytes × TL)) → buildJoin Engine.ideal fs ps = .ok es →
    shapeOKFields fs.toList (TLKVs.ofList es) = true :=
  fun fs ps hwf es h => (scalars_good.2.1 fs hwf ps es h).2
theorem buildPrefix_shape (nul : Bool) (p r : Bytes) : (ms : Members) → ms.wf = true →
    (v : TL) → buildPrefix Engine.ideal nul p r ms = .ok v → UnionShape ms.toList v :=
  fun ms hwf v h => ((scalars_good.2.2 ms hwf).2.1 nul p r v h).2
theorem buildPrefixNoDelim_shape (nul : Bool) (s : Bytes) : (ms : Members) → ms.wf = true →
    (v : TL) → buildPrefixNoDelim Engine.ideal nul s ms = .ok v → UnionShape ms.toList v :=
  fun ms hwf v h => ((scalars_good.2.2 ms hwf).2.2 nul s v h).2

theorem addr_good {ty ty' : Ty} {path : List Bytes} (h : Addr ty ty' path) (hwf : ty.wf = true) :
    ty'.wf = true ∧ (∀ v nul', conforms ty' false v = true → conforms ty nul' (wrapPath path v) = true) ∧
      ∀ v, shapeOK ty' v = true → shapeOK ty (wrapPath path v) = true := by
  induction h with
  | self _ => exact ⟨hwf, fun _ _ => conforms_mono_nul, fun _ => id⟩
  | @member ms m t' p hm _ ih =>
    have hw := wf_union hwf
    obtain ⟨h1, hc, hs⟩ := ih (hw.1 m hm)
    exact ⟨h1, fun v nul' hv => conforms_union_single hw.2 hm (hc v false hv),
      fun v hv => shapeOK_union_single hw.2 hm (hs v hv)⟩

theorem resolveKinded_conforms (nul : Bool) (k : Kind) : (ty : Ty) → ty.wf = true → (ty' : Ty) →
    (path : List Bytes) → resolveKinded Engine.ideal nul k ty = .ok (ty', path) →
    ty'.wf = true ∧ ∀ v nul', conforms ty' false v = true → conforms ty nul' (wrapPath path v) = true :=
  fun _ hwf _ _ h => let r := addr_good (resolveKinded_addr h) hwf; ⟨r.1, r.2.1⟩
theorem resolveMembers_conforms (nul : Bool) (k : Kind) : (ms : Members) → ms.wf = true → (ty' : Ty) →
    (path : List Bytes) → resolveMembers Engine.ideal nul k ms = .ok (ty', path) →
    ty'.wf = true ∧ ∃ m ∈ ms.toList, ∃ rest, path = m.name :: rest ∧
      ∀ v, conforms ty' false v = true → conforms m.ty false (wrapPath rest v) = true :=
  fun ms hwf _ _ h =>
    let ⟨m, hm, rest, hp, ha⟩ := resolveMembers_addr h
    let r := addr_good ha ((Members.wf_iff ms).1 hwf m hm)
    ⟨r.1, m, hm, rest, hp, fun v => r.2.1 v false⟩
theorem resolveKinded_shape (nul : Bool) (k : Kind) (ty : Ty) : ty.wf = true → (ty' : Ty) →
    (path : List Bytes) → resolveKinded Engine.ideal nul k ty = .ok (ty', path) →
    ∀ v, shapeOK ty' v = true → shapeOK ty (wrapPath path v) = true :=
  fun hwf _ _ h => (addr_good (resolveKinded_addr h) hwf).2.2
theorem resolveMembers_shape (nul : Bool) (k : Kind) : (ms : Members) → ms.wf = true → (ty' : Ty) →
    (path : List Bytes) → resolveMembers Engine.ideal nul k ms = .ok (ty', path) →
    ∃ m ∈ ms.toList, ∃ rest, path = m.name :: rest ∧
      ∀ v, shapeOK ty' v = true → shapeOK m.ty (wrapPath rest v) = true :=
  fun ms hwf _ _ h =>
    let ⟨m, hm, rest, hp, ha⟩ := resolveMembers_addr h
    ⟨m, hm, rest, hp, (addr_good ha ((Members.wf_iff ms).1 hwf m hm)).2.2⟩

theorem dispatch_good {lvl : Level} {nul : Bool} {k : Kind} {ty ty' : Ty} {path : List Bytes}
    (hwf : ty.wf = true) (h : dispatch Engine.ideal lvl nul k ty = .ok (ty', path)) :
    ty'.wf = true ∧ ∀ v, conforms ty' false v = true ∧ (lvl = .repr → shapeOK ty' v = true) →
      conforms ty nul (wrapPath path v) = true ∧ (lvl = .repr → shapeOK ty (wrapPath path v) = true) :=
  let ⟨hwf', hc, hs⟩ := addr_good (dispatch_addr h) hwf
  ⟨hwf', fun v hv => ⟨hc v nul hv.1, fun hl => hs v (hv.2 hl)⟩⟩

theorem assign_good {fs : List Field} (hnd : (fs.map (·.name)).Nodup) (g : Bytes → Option TL)
    {f : Field} (hf : f ∈ fs) {tv : TL} (hc : conforms f.ty f.nullable tv = true) :
    (GOK fs g → GOK fs (setFn g f.name tv)) ∧
      (shapeOK f.ty tv = true → GSh fs g → GSh fs (setFn g f.name tv)) := by
  have key (Q : Field → TL → Prop) (hq : Q f tv) (hg : ∀ f' ∈ fs, ∀ v, g f'.name = some v → Q f' v) :
      ∀ f' ∈ fs, ∀ v, setFn g f.name tv f'.name = some v → Q f' v := by
    intro f' hf' v h
    by_cases hn : f'.name = f.name
    · cases eq_of_key_eq (·.name) hnd hf' hf hn
      rw [setFn_same] at h
      cases h
      exact hq
    · rw [setFn_other hn] at h
      exact hg f' hf' v h
  exact ⟨key _ hc, fun hs => key (fun f v => shapeOK f.ty v = true ∧ v ≠ .absent) ⟨hs, conforms_ne_absent hc⟩⟩

theorem buildPairs_entry {fs : List Field} {st : SSt} {p : DM} {ps : DMs} {v : TL}
    (h : buildPairs Engine.ideal fs st (.cons p ps) = .ok v) :
    ∃ k x rest, p = .list (.cons (.str k) (.cons x rest)) := by
  unfold buildPairs at h
  split at h
  · cases h
  · cases h
  · exact ⟨_, _, _, rfl⟩
  · cases h

def BuildGood (d : DM) : Prop :=
  ∀ {lvl ty nul}, ty.wf = true → ∀ {v}, build Engine.ideal lvl ty nul none d = .ok v →
    conforms ty nul v = true ∧ (lvl = .repr → shapeOK ty v = true)

def ListGood (xs : DMs) : Prop :=
  ∀ lvl ety enul, ety.wf = true → ∀ acc ys, buildList Engine.ideal lvl ety enul acc xs = .ok ys →
    ((∀ y ∈ acc, conforms ety enul y = true) → ∀ y ∈ ys, conforms ety enul y = true) ∧
    (lvl = .repr → (∀ y ∈ acc, shapeOK ety y = true) → ∀ y ∈ ys, shapeOK ety y = true)

/-- The struct walks end in `Finish` on a state that keeps whichever invariant the state they started
    in had; the tuple walk also keeps the assigned fields a prefix. -/
def TupleGood (xs : DMs) : Prop :=
  ∀ fs, (∀ f ∈ fs, f.ty.wf = true) → (fs.map (·.name)).Nodup → ∀ g i v,
    buildTuple Engine.ideal fs (SSt.ofFn fs g) i xs = .ok v →
    ∃ g', (SSt.ofFn fs g').finish fs = .ok v ∧ (GOK fs g → GOK fs g') ∧
      ∀ pre suf, i = pre.length → fs = pre ++ suf → GSh fs g →
        (∀ f ∈ pre, (g f.name).isSome = true) → (∀ f ∈ suf, g f.name = none) →
        ∃ pre' suf', fs = pre' ++ suf' ∧ GSh fs g' ∧ (∀ f ∈ pre', (g' f.name).isSome = true) ∧
          ∀ f ∈ suf', g' f.name = none

def PairsGood (xs : DMs) : Prop :=
  ∀ fs, (∀ f ∈ fs, f.ty.wf = true) → (fs.map (·.name)).Nodup → ∀ g v,
    buildPairs Engine.ideal fs (SSt.ofFn fs g) xs = .ok v →
    ∃ g', (SSt.ofFn fs g').finish fs = .ok v ∧ (GOK fs g → GOK fs g') ∧ (GSh fs g → GSh fs g')

def MapGood (es : DMKVs) : Prop :=
  ∀ lvl vty vnul, vty.wf = true → ∀ acc ys, buildMap Engine.ideal lvl vty vnul acc es = .ok ys →
    ((acc.map (·.1)).Nodup → (∀ e ∈ acc, conforms vty vnul e.2 = true) →
      (ys.map (·.1)).Nodup ∧ ∀ e ∈ ys, conforms vty vnul e.2 = true) ∧
    (lvl = .repr → (∀ e ∈ acc, shapeOK vty e.2 = true) → ∀ e ∈ ys, shapeOK vty e.2 = true)

def StructGood (es : DMKVs) : Prop :=
  ∀ lvl fs, (∀ f ∈ fs, f.ty.wf = true) → (fs.map (·.name)).Nodup → ∀ g v,
    buildStruct Engine.ideal lvl fs (SSt.ofFn fs g) es = .ok v →
    ∃ g', (SSt.ofFn fs g').finish fs = .ok v ∧ (GOK fs g → GOK fs g') ∧
      (lvl = .repr → GSh fs g → GSh fs g')

def UnionGood (es : DMKVs) : Prop :=
  ∀ lvl ms, (∀ m ∈ ms, m.ty.wf = true) → ∀ cur n v, buildUnion Engine.ideal lvl ms cur n es = .ok v →
    ((∀ c, cur = some c → UnionVal ms c) → UnionVal ms v) ∧
    (lvl = .repr → (∀ c, cur = some c → UnionShape ms c) → UnionShape ms v)

section
variable {k : Bytes} {x : DM} {xs : DMs} {es : DMKVs}

theorem BuildGood.list (hl : ListGood xs) (ht : TupleGood xs) (hp : PairsGood xs) :
    BuildGood (.list xs) := by
  intro lvl ty nul hwf v h
  rw [build_list_none, Outcome.bind_eq_ok] at h
  obtain ⟨⟨ty', path⟩, hres, h⟩ := h
  obtain ⟨r, hr, rfl⟩ := Outcome.map_eq_ok.1 h
  obtain ⟨hwf', hwrap⟩ := dispatch_good hwf hres
  apply hwrap
  dsimp only at hr
  unfold listBody at hr
  split at hr
  · next ety enul =>
    obtain ⟨ys, hys, rfl⟩ := Outcome.map_eq_ok.1 hr
    obtain ⟨hc, hsh⟩ := hl lvl ety enul hwf' [] ys hys
    exact ⟨conforms_list_ofList ety enul ys (hc nofun), fun hl => shapeOKList_ofList ety ys (hsh hl nofun)⟩
  · next fs sr =>
    have hw := wf_struct hwf'
    rw [SSt.init_none] at hr
    split at hr
    · obtain ⟨g', hfin, hok, hsh⟩ := ht fs.toList hw.1 hw.2.1 _ 0 r hr
      obtain ⟨pre', suf', hfs, hg', hp', hs'⟩ :=
        hsh [] fs.toList rfl rfl GSh_none nofun fun _ _ => rfl
      exact ⟨finish_conforms hw.2.1 (hok nofun) hfin,
        fun _ => finish_shape_tuple fs pre' suf' hfs g' hg' hp' hs' r hfin⟩
    · obtain ⟨g', hfin, hok, hsh⟩ := hp fs.toList hw.1 hw.2.1 _ r hr
      exact ⟨finish_conforms hw.2.1 (hok nofun) hfin,
        fun _ => finish_shape (sr := .listpairs) nofun (hsh GSh_none) hfin⟩
    · cases hr
  · split at hr
    · next hnd =>
      cases hr
      exact ⟨conforms_any_of_noDup (.list xs) nofun hnd, fun _ => shapeOK_leaf trivial⟩
    · cases hr
  · cases hr

theorem BuildGood.map (hm : MapGood es) (hs : StructGood es) (hu : UnionGood es) :
    BuildGood (.map es) := by
  intro lvl ty nul hwf v h
  rw [build_map_none ideal_nodeOff, Outcome.bind_eq_ok] at h
  obtain ⟨⟨ty', path⟩, hres, h⟩ := h
  obtain ⟨r, hr, rfl⟩ := Outcome.map_eq_ok.1 h
  obtain ⟨hwf', hwrap⟩ := dispatch_good hwf hres
  apply hwrap
  dsimp only at hr
  unfold mapBody at hr
  split at hr
  · next vty vnul =>
    obtain ⟨ys, hys, rfl⟩ := Outcome.map_eq_ok.1 hr
    obtain ⟨hc, hsh⟩ := hm lvl vty vnul hwf' [] ys hys
    have := hc List.nodup_nil nofun
    exact ⟨conforms_map_ofList vty vnul ys this.1 this.2,
      fun hl => shapeOKMap_ofList vty ys (hsh hl nofun)⟩
  · next fs sr =>
    have hw := wf_struct hwf'
    rw [SSt.init_none] at hr
    have fin (hr : buildStruct Engine.ideal lvl fs.toList (SSt.ofFn fs.toList fun _ => none) es = .ok r)
        (hsr : lvl = .repr → sr ≠ .tuple) :
        conforms (.struct fs sr) false r = true ∧ (lvl = .repr → shapeOK (.struct fs sr) r = true) := by
      obtain ⟨g', hfin, hok, hsh⟩ := hs lvl fs.toList hw.1 hw.2.1 _ r hr
      exact ⟨finish_conforms hw.2.1 (hok nofun) hfin,
        fun hl => finish_shape (hsr hl) (hsh hl GSh_none) hfin⟩
    split at hr
    · exact fin hr nofun
    · exact fin hr fun _ => nofun
    · cases hr
  · next ms ur =>
    have hw := wf_union hwf'
    have fin (hr : buildUnion Engine.ideal lvl ms.toList none 0 es = .ok r) :
        conforms (.union ms ur) false r = true ∧ (lvl = .repr → shapeOK (.union ms ur) r = true) := by
      obtain ⟨hc, hsh⟩ := hu lvl ms.toList hw.1 none 0 r hr
      exact ⟨conforms_of_unionVal hw.2 (hc nofun), fun hl => shapeOK_of_unionShape hw.2 (hsh hl nofun)⟩
    split at hr
    · exact fin hr
    · exact fin hr
    · cases hr
  · split at hr
    · next hnd =>
      cases hr
      exact ⟨conforms_any_of_noDup (.map es) nofun hnd, fun _ => shapeOK_leaf trivial⟩
    · cases hr
  · cases hr

theorem ListGood.cons (hx : BuildGood x) (hl : ListGood xs) : ListGood (.cons x xs) := by
  intro lvl ety enul hwf acc ys h
  rw [buildList_ideal_cons, Outcome.bind_eq_ok] at h
  obtain ⟨v, hv, h⟩ := h
  obtain ⟨hc, hsh⟩ := hl lvl ety enul hwf (acc ++ [v]) ys h
  have hxv := hx hwf hv
  exact ⟨fun hacc => hc (List.forall_mem_append.2 ⟨hacc, List.forall_mem_singleton.2 hxv.1⟩),
    fun hl hacc => hsh hl (List.forall_mem_append.2 ⟨hacc, List.forall_mem_singleton.2 (hxv.2 hl)⟩)⟩

theorem TupleGood.cons (hx : BuildGood x) (ht : TupleGood xs) :
    TupleGood (.cons x xs) := by
  intro fs hwf hnd g i v h
  rw [buildTuple_ideal_cons hnd] at h
  split at h
  · cases h
  · next f hf =>
    obtain ⟨tv, htv, h⟩ := Outcome.bind_eq_ok.1 h
    have hfm := List.mem_of_getElem? hf
    have hxv := hx (hwf f hfm) htv
    obtain ⟨hok1, hsh1⟩ := assign_good hnd g hfm hxv.1
    obtain ⟨g', hfin, hok, hsh⟩ := ht fs hwf hnd _ (i + 1) v h
    refine ⟨g', hfin, fun hg => hok (hok1 hg), fun pre suf hi hfs hg hpre hsuf => ?_⟩
    cases hi
    have hf' := hf
    rw [hfs, List.getElem?_append_right (Nat.le_refl _), Nat.sub_self] at hf'
    cases suf with
    | nil => cases hf'
    | cons f0 suf =>
      cases hf'
      have hnd' : ((f :: suf).map (·.name)).Nodup := by
        rw [hfs, List.map_append] at hnd
        exact (List.nodup_append.1 hnd).2.1
      exact hsh (pre ++ [f]) suf (List.length_append (as := pre) (bs := [f])).symm
        (by rw [hfs, List.append_assoc]; rfl) (hsh1 (hxv.2 rfl) hg) (set_upto f tv hpre)
        (unset_after hnd' hsuf)

/-- `buildPairs` builds from the second element of the entry `x`, not from `x`: the hypothesis is the one
    `DM.builder_induct` hands over for the elements of a list entry. -/
theorem PairsGood.cons (hsub : ∀ ys, x = .list ys → ∀ y ∈ ys.toList, BuildGood y)
    (hp : PairsGood xs) : PairsGood (.cons x xs) := by
  intro fs hwf hnd g v h
  obtain ⟨k, y, rest, rfl⟩ := buildPairs_entry h
  rw [buildPairs_ideal_pair hnd] at h
  split at h
  · cases h
  · next f hf =>
    have hfm := List.mem_of_find?_eq_some hf
    split at h
    · cases h
    · obtain ⟨tv, htv, h⟩ := Outcome.bind_eq_ok.1 h
      have hyv := hsub _ rfl y (List.mem_cons_of_mem _ List.mem_cons_self) (hwf f hfm) htv
      obtain ⟨hok1, hsh1⟩ := assign_good hnd g hfm hyv.1
      split at h
      · obtain ⟨g', hfin, hok, hsh⟩ := hp fs hwf hnd _ v h
        exact ⟨g', hfin, fun hg => hok (hok1 hg), fun hg => hsh (hsh1 (hyv.2 rfl) hg)⟩
      · cases h

theorem MapGood.cons (hx : BuildGood x) (hm : MapGood es) :
    MapGood (.cons k x es) := by
  intro lvl vty vnul hwf acc ys h
  rw [buildMap_ideal_cons] at h
  split at h
  · cases h
  · next hfresh =>
    obtain ⟨tv, htv, h⟩ := Outcome.bind_eq_ok.1 h
    obtain ⟨hc, hsh⟩ := hm lvl vty vnul hwf (acc ++ [(k, tv)]) ys h
    have hxv := hx hwf htv
    refine ⟨fun hnd hacc => hc ?_ (List.forall_mem_append.2 ⟨hacc, List.forall_mem_singleton.2 hxv.1⟩),
      fun hl hacc => hsh hl (List.forall_mem_append.2 ⟨hacc, List.forall_mem_singleton.2 (hxv.2 hl)⟩)⟩
    rw [List.map_append, List.nodup_append]
    refine ⟨hnd, List.pairwise_singleton _ _, fun a ha b hb hab => ?_⟩
    obtain ⟨e, he, rfl⟩ := List.mem_map.1 ha
    rw [List.mem_singleton.1 hb] at hab
    exact hfresh (List.any_eq_true.2 ⟨e, he, beq_iff_eq.2 hab⟩)

theorem StructGood.cons (hx : BuildGood x) (hs : StructGood es) :
    StructGood (.cons k x es) := by
  intro lvl fs hwf hnd g v h
  rw [buildStruct_ideal_cons hnd] at h
  split at h
  · cases h
  · next f hf =>
    have hfm := fieldFor_mem hf
    split at h
    · cases h
    · obtain ⟨tv, htv, h⟩ := Outcome.bind_eq_ok.1 h
      have hxv := hx (hwf f hfm) htv
      obtain ⟨hok1, hsh1⟩ := assign_good hnd g hfm hxv.1
      obtain ⟨g', hfin, hok, hsh⟩ := hs lvl fs hwf hnd _ v h
      exact ⟨g', hfin, fun hg => hok (hok1 hg), fun hl hg => hsh hl (hsh1 (hxv.2 hl) hg)⟩

theorem UnionGood.cons (hx : BuildGood x) (hu : UnionGood es) :
    UnionGood (.cons k x es) := by
  intro lvl ms hwf cur n v h
  rw [buildUnion_ideal_cons] at h
  split at h
  · cases h
  · split at h
    · cases h
    · next m hm =>
      have hmem := memberFor_mem hm
      obtain ⟨tv, htv, h⟩ := Outcome.bind_eq_ok.1 h
      obtain ⟨hc, hsh⟩ := hu lvl ms hwf _ _ v h
      have hxv := hx (hwf m hmem) htv
      exact ⟨fun _ => hc fun c hc => by cases hc; exact ⟨m, hmem, tv, rfl, hxv.1⟩,
        fun hl _ => hsh hl fun c hc => by cases hc; exact ⟨m, hmem, tv, rfl, hxv.2 hl⟩⟩

end

theorem builders_good :
    (∀ d, BuildGood d) ∧ (∀ xs, ListGood xs ∧ TupleGood xs ∧ PairsGood xs) ∧
    ∀ es, MapGood es ∧ StructGood es ∧ UnionGood es := by
  refine DM.builder_induct ?_ ?_ ?_ ?_ ?_ ?_ ?_ ?_
  · intro lvl ty nul _ v h
    rw [build_null_ideal] at h
    split at h
    · next hn => cases h; exact ⟨hn, fun _ => rfl⟩
    · cases h
  · intro d hs hn lvl ty nul hwf v h
    rw [build_of_isScalar hs hn] at h
    exact scalars_good.1 ty hwf lvl nul d hn v h
  · exact fun xs ⟨hl, ht, hp⟩ => BuildGood.list hl ht hp
  · exact fun es ⟨hm, hs, hu⟩ => BuildGood.map hm hs hu
  · refine ⟨fun _ _ _ _ acc ys h => ?_, fun fs _ _ g i v h => ?_, fun fs _ _ g v h => ⟨g, h, id, id⟩⟩
    · cases h; exact ⟨id, fun _ => id⟩
    · exact ⟨g, buildTuple_nil_off (e := Engine.ideal) rfl fs _ _ ▸ h, id,
        fun pre suf _ hfs hg hp hs => ⟨pre, suf, hfs, hg, hp, hs⟩⟩
  · exact fun x xs hx hsub ⟨hl, ht, hp⟩ => ⟨.cons hx hl, .cons hx ht, .cons hsub hp⟩
  · refine ⟨fun _ _ _ _ acc ys h => ?_, fun _ fs _ _ g v h => ⟨g, h, id, fun _ => id⟩,
      fun lvl ms _ cur n v h => ?_⟩
    · cases h; exact ⟨fun hnd hacc => ⟨hnd, hacc⟩, fun _ => id⟩
    · unfold buildUnion at h
      split at h
      · cases h; exact ⟨fun hcur => hcur _ rfl, fun _ hcur => hcur _ rfl⟩
      · cases h
  · exact fun k x es hx ⟨hm, hs, hu⟩ => ⟨.cons hx hm, .cons hx hs, .cons hx hu⟩

theorem build_conforms {lvl : Level} {d : DM} {ty : Ty} {nul : Bool} (hwf : ty.wf = true) {v : TL}
    (h : build Engine.ideal lvl ty nul none d = .ok v) : conforms ty nul v = true :=
  (builders_good.1 d hwf h).1
theorem buildMap_conforms (lvl : Level) : (es : DMKVs) → (vty : Ty) → (vnul : Bool) → vty.wf = true →
    (acc ys : List (Bytes × TL)) → buildMap Engine.ideal lvl vty vnul acc es = .ok ys →
    (acc.map (·.1)).Nodup → (∀ e ∈ acc, conforms vty vnul e.2 = true) →
    (ys.map (·.1)).Nodup ∧ ∀ e ∈ ys, conforms vty vnul e.2 = true :=
  fun es vty vnul hwf acc ys h => ((builders_good.2.2 es).1 lvl vty vnul hwf acc ys h).1
theorem buildStruct_conforms (lvl : Level) : (es : DMKVs) → (fs : List Field) →
    (∀ f ∈ fs, f.ty.wf = true) → (fs.map (·.name)).Nodup → (g : Bytes → Option TL) → GOK fs g →
    (v : TL) → buildStruct Engine.ideal lvl fs (SSt.ofFn fs g) es = .ok v →
    ∃ g', GOK fs g' ∧ (SSt.ofFn fs g').finish fs = .ok v :=
  fun es fs hwf hnd g hg v h =>
    let ⟨g', hfin, hok, _⟩ := (builders_good.2.2 es).2.1 lvl fs hwf hnd g v h
    ⟨g', hok hg, hfin⟩
theorem buildTuple_conforms : (xs : DMs) → (fs : List Field) →
    (∀ f ∈ fs, f.ty.wf = true) → (fs.map (·.name)).Nodup → (g : Bytes → Option TL) → GOK fs g →
    (i : Nat) → (v : TL) → buildTuple Engine.ideal fs (SSt.ofFn fs g) i xs = .ok v →
    ∃ g', GOK fs g' ∧ (SSt.ofFn fs g').finish fs = .ok v :=
  fun xs fs hwf hnd g hg i v h =>
    let ⟨g', hfin, hok, _⟩ := (builders_good.2.1 xs).2.1 fs hwf hnd g i v h
    ⟨g', hok hg, hfin⟩
theorem buildPairs_conforms : (xs : DMs) → (fs : List Field) →
    (∀ f ∈ fs, f.ty.wf = true) → (fs.map (·.name)).Nodup → (g : Bytes → Option TL) → GOK fs g →
    (v : TL) → buildPairs Engine.ideal fs (SSt.ofFn fs g) xs = .ok v →
    ∃ g', GOK fs g' ∧ (SSt.ofFn fs g').finish fs = .ok v :=
  fun xs fs hwf hnd g hg v h =>
    let ⟨g', hfin, hok, _⟩ := (builders_good.2.1 xs).2.2 fs hwf hnd g v h
    ⟨g', hok hg, hfin⟩
theorem buildUnion_conforms (lvl : Level) : (es : DMKVs) → (ms : List Member) →
    (∀ m ∈ ms, m.ty.wf = true) → (cur : Option TL) → (n : Nat) → (v : TL) →
    buildUnion Engine.ideal lvl ms cur n es = .ok v → (∀ c, cur = some c → UnionVal ms c) →
    UnionVal ms v :=
  fun es ms hwf cur n v h => ((builders_good.2.2 es).2.2 lvl ms hwf cur n v h).1

theorem build_shape {d : DM} {ty : Ty} {nul : Bool} (hwf : ty.wf = true) {v : TL}
    (h : build Engine.ideal .repr ty nul none d = .ok v) : shapeOK ty v = true :=
  (builders_good.1 d hwf h).2 rfl
theorem buildMap_shape : (es : DMKVs) → (vty : Ty) → (vnul : Bool) → vty.wf = true →
    (acc ys : List (Bytes × TL)) → buildMap Engine.ideal .repr vty vnul acc es = .ok ys →
    (∀ e ∈ acc, shapeOK vty e.2 = true) → ∀ e ∈ ys, shapeOK vty e.2 = true :=
  fun es vty vnul hwf acc ys h => ((builders_good.2.2 es).1 .repr vty vnul hwf acc ys h).2 rfl
theorem buildStruct_shape : (es : DMKVs) → (fs : List Field) →
    (∀ f ∈ fs, f.ty.wf = true) → (fs.map (·.name)).Nodup → (g : Bytes → Option TL) → GSh fs g →
    (v : TL) → buildStruct Engine.ideal .repr fs (SSt.ofFn fs g) es = .ok v →
    ∃ g', GSh fs g' ∧ (SSt.ofFn fs g').finish fs = .ok v :=
  fun es fs hwf hnd g hg v h =>
    let ⟨g', hfin, _, hsh⟩ := (builders_good.2.2 es).2.1 .repr fs hwf hnd g v h
    ⟨g', hsh rfl hg, hfin⟩
theorem buildTuple_shape : (xs : DMs) → (fs : List Field) →
    (∀ f ∈ fs, f.ty.wf = true) → (fs.map (·.name)).Nodup → (pre suf : List Field) → fs = pre ++ suf →
    (g : Bytes → Option TL) → GSh fs g → (∀ f ∈ pre, (g f.name).isSome = true) →
    (∀ f ∈ suf, g f.name = none) → (v : TL) →
    buildTuple Engine.ideal fs (SSt.ofFn fs g) pre.length xs = .ok v →
    ∃ g' pre' suf', fs = pre' ++ suf' ∧ GSh fs g' ∧ (∀ f ∈ pre', (g' f.name).isSome = true) ∧
      (∀ f ∈ suf', g' f.name = none) ∧ (SSt.ofFn fs g').finish fs = .ok v :=
  fun xs fs hwf hnd pre suf hfs g hg hp hs v h =>
    let ⟨g', hfin, _, hsh⟩ := (builders_good.2.1 xs).2.1 fs hwf hnd g pre.length v h
    let ⟨pre', suf', hfs', hg', hp', hs'⟩ := hsh pre suf rfl hfs hg hp hs
    ⟨g', pre', suf', hfs', hg', hp', hs', hfin⟩
theorem buildPairs_shape : (xs : DMs) → (fs : List Field) →
    (∀ f ∈ fs, f.ty.wf = true) → (fs.map (·.name)).Nodup → (g : Bytes → Option TL) → GSh fs g →
    (v : TL) → buildPairs Engine.ideal fs (SSt.ofFn fs g) xs = .ok v →
    ∃ g', GSh fs g' ∧ (SSt.ofFn fs g').finish fs = .ok v :=
  fun xs fs hwf hnd g hg v h =>
    let ⟨g', hfin, _, hsh⟩ := (builders_good.2.1 xs).2.2 fs hwf hnd g v h
    ⟨g', hsh hg, hfin⟩
theorem buildUnion_shape : (es : DMKVs) → (ms : List Member) →
    (∀ m ∈ ms, m.ty.wf = true) → (cur : Option TL) → (n : Nat) → (v : TL) →
    buildUnion Engine.ideal .repr ms cur n es = .ok v → (∀ c, cur = some c → UnionShape ms c) →
    UnionShape ms v :=
  fun es ms hwf cur n v h => ((builders_good.2.2 es).2.2 .repr ms hwf cur n v h).2 rfl

end Schema
end Ipld

/-
  Representation-level assemblers: `AssignNode` is the whole-value REPRESENTATION builder of Model/Schema.lean - the copy
  `putNode` makes is accepted exactly when `Schema.build Engine.ideal .repr` accepts, and delivers what that builder
  returns.  One lemma per kind of open frame, its content matched with the accumulator of the `Schema.build…` function.
-/
import IpldModel.Lemmas.ReprAssemblerInv
import IpldModel.Lemmas.SchemaIdeal
namespace Ipld
namespace RAsm
open Ipld.Asm (Op Out ErrClass)
open Ipld.Schema (Ty Fields Members Field Member TL TLs TLKVs canonFields wrapPath Outcome)
open Ipld.TAsm (Phase Pos hasKey inInt64 Call int64s int64sL int64sM)

/-- the machine did what the whole-value builder does: accepted, and then it is where `ok` says; or refused -/
def Agrees {α : Type} (o : Outcome α) (r : St × Out) (ok : α → St × Out) : Prop :=
  match o with
  | .ok a => r = ok a
  | .reject => ∃ s' c, r = (s', .err c)
  | .panic => True

theorem Agrees.of_reject {α : Type} {o : Outcome α} {r : St × Out} {ok : α → St × Out} (ho : o = .reject)
    (h : ∃ s' c, r = (s', .err c)) : Agrees o r ok := by
  subst ho; exact h

theorem Agrees.bind {α β : Type} {o : Outcome α} {r : St × Out} {ok : α → St × Out} (h : Agrees o r ok)
    {f : α → Outcome β} {g : St → St × Out} {ok' : β → St × Out} (hk : ∀ a, Agrees (f a) (RAsm.andThen (ok a) g) ok') :
    Agrees (o.bind f) (RAsm.andThen r g) ok' := by
  cases o with
  | ok a => rw [show r = ok a from h]; exact hk a
  | reject => exact andThen_of_err h _
  | panic => trivial

theorem Agrees.andThen_map {α β : Type} {o : Outcome α} {r : St × Out} {ok : α → St × Out} (h : Agrees o r ok)
    {f : α → β} {g : St → St × Out} {ok' : β → St × Out} (hk : ∀ a, RAsm.andThen (ok a) g = ok' (f a)) :
    Agrees (o.map f) (RAsm.andThen r g) ok' := by
  cases o with
  | ok a => rw [show r = ok a from h]; exact hk a
  | reject => exact andThen_of_err h _
  | panic => trivial

theorem Agrees.map {α β : Type} {o : Outcome α} {r : St × Out} {ok : α → St × Out} (h : Agrees o r ok) {f : α → β}
    {ok' : β → St × Out} (hf : ∀ a, ok a = ok' (f a)) : Agrees (o.map f) r ok' := by
  cases o with
  | ok a => exact (show r = ok a from h).trans (hf a)
  | reject => exact h
  | panic => trivial

theorem plainRFields_mem : (F : Fields) → plainRFields F = true → ∀ f ∈ F.toList, plainR f.ty = true
  | .nil => fun _ f hf => by simp [Fields.toList] at hf
  | .cons n rn o nu t rest => fun h f hf => by
    simp only [plainRFields, Bool.and_eq_true] at h
    simp only [Fields.toList, List.mem_cons] at hf
    rcases hf with rfl | hf
    · exact h.1
    · exact plainRFields_mem rest h.2 f hf

theorem plainRMembers_mem : (M : Members) → plainRMembers M = true → ∀ m ∈ M.toList, plainR m.ty = true
  | .nil => fun _ m hm => by simp [Members.toList] at hm
  | .cons n d k t rest => fun h m hm => by
    simp only [plainRMembers, Bool.and_eq_true] at h
    simp only [Members.toList, List.mem_cons] at hm
    rcases hm with rfl | hm
    · exact h.1
    · exact plainRMembers_mem rest h.2 m hm

theorem addr_plainR {ty ty' : Ty} {path : List Bytes} (h : Schema.Addr ty ty' path) (hp : plainR ty = true) :
    plainR ty' = true := by
  induction h with
  | self _ => exact hp
  | @member ms m _ _ hm _ ih => exact ih (plainRMembers_mem ms (by simpa [plainR] using hp) m hm)

theorem resolveKinded_plainR {ty ty' : Ty} {nul : Bool} {k : Kind} {path : List Bytes} (hp : plainR ty = true)
    (h : Schema.resolveKinded Schema.Engine.ideal nul k ty = .ok (ty', path)) : plainR ty' = true :=
  addr_plainR (Schema.resolveKinded_addr h) hp
theorem resolveMembers_plainR (nul : Bool) (k : Kind) : (ms : Members) → plainRMembers ms = true → (ty' : Ty) →
    (path : List Bytes) → Schema.resolveMembers Schema.Engine.ideal nul k ms = .ok (ty', path) → plainR ty' = true :=
  fun ms hp _ _ h =>
    let ⟨m, hm, _, _, ha⟩ := Schema.resolveMembers_addr h
    addr_plainR ha (plainRMembers_mem ms hp m hm)

theorem putNode_errAsm {e : Engine} {s : St} (hp : pos s = .errAsm) (v : DM) :
    (mach e).putNode s v = (s, .err .other) :=
  have h : ∀ op, stepPrim e s op = errPrim s op := stepPrim_at_errAsm hp
  Mach.putNode_refusing (mach e) (h _) (h _) (fun d hd => (h _).trans (by simp only [errPrim, hd, if_true])) v

theorem putNode_scalar {e : Engine} {s : St} {t : Ty} {nul : Bool} (hp : pos s = .value t nul) {d : DM}
    (hs : Asm.isScalar d = true) (hi : int64s d = true) :
    Agrees (Schema.build Schema.Engine.ideal .repr t nul none d) (stepPrim e s (.assign d)) (fun w => deliver s w) := by
  rw [stepPrim_at_value hp]
  have hio : intOK d = true := by
    cases d <;> first | rfl | (simpa [int64s, intOK] using hi)
  simp only [valuePrim, hs, hio, Bool.not_true, Bool.false_eq_true, if_false]
  cases hb : Schema.build Schema.Engine.ideal .repr t nul none d with
  | ok w => rfl
  | reject => exact ⟨s, .wrongKind, rfl⟩
  | panic => trivial

theorem lookupFn_snoc {es : List (Bytes × TL)} {k : Bytes} (v : TL) (hk : hasKey es k = false) :
    lookupFn (es ++ [(k, v)]) = Schema.setFn (lookupFn es) k v := by
  funext n
  unfold lookupFn Schema.setFn
  rw [List.find?_append]
  by_cases hn : n = k
  · subst hn
    have : es.find? (fun e => e.1 == n) = none := by
      rw [List.find?_eq_none]
      intro p hp hpe
      have : hasKey es n = true := by
        unfold hasKey; rw [List.any_eq_true]; exact ⟨p, hp, hpe⟩
      rw [hk] at this; cases this
    simp [this]
  · have hne : (k == n) = false := by simpa using fun h => hn h.symm
    have hne' : (n == k) = false := by simpa using hn
    simp [hne, hne']

theorem agrees_finish {fs : List Field} {es : List (Bytes × TL)} {w : List Bytes} (s : St) {s0 : St} {r : St × Out}
    (hr : r = if fieldsDone fs es then deliver s0 (wrapPath w (.map (TLKVs.ofList (canonFields fs es))))
      else (s, .err .other)) :
    Agrees ((Schema.SSt.ofFn fs (lookupFn es)).finish fs) r (fun v => deliver s0 (wrapPath w v)) := by
  rw [finish_lookupFn, hr]
  cases fieldsDone fs es
  · exact ⟨s, .other, rfl⟩
  · rfl

theorem lookupFn_nil : lookupFn [] = fun _ => none := rfl

/-! The copy of one entry, by the kind of the open frame: the three calls that open it (`AssembleKey`, the key, `AssembleValue`)
  refuse, or leave the entry's value assembler current.  States are written out as `⟨T, frames, r, tt⟩` since the calls move
  the frames; the mark `tt` is only carried along - `stepPrim` does not read it. -/

section
variable {e : Engine} {T : Ty} {es : List (Bytes × TL)} {w : List Bytes} {rest : List Frame} {r : Option TL} {tt : Bool}
  {k : Bytes} {fs : List Field} {ms : List Member} {v : DM} {kvs : DMKVs}

theorem putKVs_map_cons (he : e.keyAsmDupMapKey = false) {vty : Ty} {vnul : Bool} :
    putKVs e ⟨T, .map vty vnul es .init w :: rest, r, tt⟩ (.cons k v kvs) =
      if hasKey es k = true then (⟨T, .map vty vnul es .init w :: rest, r, tt⟩, .err .repeatedKey)
      else andThen (putNode e ⟨T, .map vty vnul es (.midValue k) w :: rest, r, tt⟩ v) fun s4 => putKVs e s4 kvs := by
  cases hk : hasKey es k <;> simp [putKVs, stepPrim, keyPrim, supplyKey, andThen, hk, he]

theorem putKVs_struct_cons {f : Field} (hf : fieldOfR fs k = some f) :
    putKVs e ⟨T, .struct fs es .init w :: rest, r, tt⟩ (.cons k v kvs) =
      if hasKey es f.name = true then (⟨T, .struct fs es .init w :: rest, r, tt⟩, .err .repeatedKey)
      else andThen (putNode e ⟨T, .struct fs es (.midValue k) w :: rest, r, tt⟩ v) fun s4 => putKVs e s4 kvs := by
  cases hk : hasKey es f.name <;> simp [putKVs, stepPrim, keyPrim, supplyKey, andThen, hf, hk]

/-- a key that cannot get a value is refused: at the key (`unknownAtKey`), or by the error assembler that stands for its
    value; `mk`: the open frame by its phase -/
theorem putKVs_cons_noValue (mk : Phase → St) (hak : stepPrim e (mk .init) .assembleKey = (mk .midKey, .ok))
    (hkey : stepPrim e (mk .midKey) (.assign (.str k)) = (mk .init, .err .other) ∨
      stepPrim e (mk .midKey) (.assign (.str k)) = (mk (.expectValue k), .ok))
    (hav : stepPrim e (mk (.expectValue k)) .assembleValue = (mk (.midValue k), .ok))
    (hp : pos (mk (.midValue k)) = .errAsm) (v : DM) (kvs : DMKVs) (g : St → St × Out) :
    ∃ s' c, andThen (putKVs e (mk .init) (.cons k v kvs)) g = (s', .err c) := by
  rw [putKVs_eq, andThen_eq]
  exact Mach.putKVs_cons_noValue (mach e) hak
    (hkey.imp (fun h => ⟨_, _, h⟩) fun h => ⟨_, _, h, hav, fun v => ⟨_, _, putNode_errAsm hp v⟩⟩) v kvs g

theorem putKVs_struct_cons_unknown (hf : fieldOfR fs k = none) (v : DM) (kvs : DMKVs) (g : St → St × Out) :
    ∃ s' c, andThen (putKVs e ⟨T, .struct fs es .init w :: rest, r, tt⟩ (.cons k v kvs)) g = (s', .err c) :=
  putKVs_cons_noValue (fun ph => ⟨T, .struct fs es ph w :: rest, r, tt⟩) rfl
    (by cases hu : e.unknownAtKey <;> simp [stepPrim, keyPrim, supplyKey, hf, hu]) rfl
    (by simp only [pos, posOf, hf]) v kvs g

theorem putKVs_union_cons_noValue {cur : Option (Bytes × TL)} (hc : (cur.isSome || (memberOfR ms k).isNone) = true)
    (v : DM) (kvs : DMKVs) (g : St → St × Out) :
    ∃ s' c, andThen (putKVs e ⟨T, .union ms cur .init w :: rest, r, tt⟩ (.cons k v kvs)) g = (s', .err c) :=
  putKVs_cons_noValue (fun ph => ⟨T, .union ms cur ph w :: rest, r, tt⟩) rfl
    (by cases hu : e.unknownAtKey <;> simp [stepPrim, keyPrim, supplyKey, hu, hc]) rfl
    (by
      simp only [pos, posOf]
      cases cur with
      | some p => rfl
      | none =>
        simp only [Option.isSome_none, Bool.false_or, Option.isNone_iff_eq_none] at hc
        simp only [hc]) v kvs g

theorem putKVs_union_cons {m : Member} (hm : memberOfR ms k = some m) :
    putKVs e ⟨T, .union ms none .init w :: rest, r, tt⟩ (.cons k v kvs) =
      andThen (putNode e ⟨T, .union ms none (.midValue k) w :: rest, r, tt⟩ v) fun s4 => putKVs e s4 kvs := by
  simp [putKVs, stepPrim, keyPrim, supplyKey, andThen, hm]

theorem deliver_struct {f : Field} (hf : fieldOfR fs k = some f) (x : TL) :
    deliver ⟨T, .struct fs es (.midValue k) w :: rest, r, tt⟩ x =
      (⟨T, .struct fs (es ++ [(f.name, x)]) .init w :: rest, r, tt⟩, .ok) := by
  simp only [deliver, hf]

theorem deliver_tuple {f : Field} (hf : fs[es.length]? = some f) (x : TL) :
    deliver ⟨T, .tuple fs es true w :: rest, r, tt⟩ x =
      (⟨T, .tuple fs (es ++ [(f.name, x)]) false w :: rest, r, tt⟩, .ok) := by
  simp only [deliver, hf]

theorem deliver_union {m : Member} (hm : memberOfR ms k = some m) (x : TL) :
    deliver ⟨T, .union ms none (.midValue k) w :: rest, r, tt⟩ x =
      (⟨T, .union ms (some (m.name, x)) .init w :: rest, r, tt⟩, .ok) := by
  simp only [deliver, hm]

end

theorem fields_ok {F : Fields} {sr : Schema.StructRepr} (hwf : (Ty.struct F sr).wf = true)
    (hpl : plainR (.struct F sr) = true) :
    (∀ f ∈ F.toList, f.ty.wf = true ∧ plainR f.ty = true) ∧ (F.toList.map (·.name)).Nodup :=
  have h := Schema.wf_struct hwf
  ⟨fun f hf => ⟨h.1 f hf, plainRFields_mem F (Bool.and_eq_true_iff.1 hpl).1 f hf⟩, h.2.1⟩

theorem members_ok {M : Members} {ur : Schema.UnionRepr} (hwf : (Ty.union M ur).wf = true)
    (hpl : plainR (.union M ur) = true) : ∀ m ∈ M.toList, m.ty.wf = true ∧ plainR m.ty = true :=
  fun m hm => ⟨(Schema.wf_union hwf).1 m hm, plainRMembers_mem M hpl m hm⟩

mutual
theorem putNode_spec {e : Engine} (he : e.keyAsmDupMapKey = false) : (v : DM) → (s : St) → (t : Ty) → (nul : Bool) →
    pos s = .value t nul → t.wf = true → plainR t = true → int64s v = true →
    Agrees (Schema.build Schema.Engine.ideal .repr t nul none v) (putNode e s v) (fun w => deliver s w) :=
  fun v s t nul hp hwf hpl hi => by
    cases v with
    | list ys =>
      obtain ⟨T, fr, r, tt⟩ := s
      have hbl : stepPrim e ⟨T, fr, r, tt⟩ (.beginList 0) = valuePrim e ⟨T, fr, r, tt⟩ t nul (.beginList 0) :=
        stepPrim_at_value hp _
      simp only [putNode, hbl, valuePrim, opensList]
      -- builder and machine both first address the member a kinded union lists under the kind (`resolveKinded`)
      rw [Schema.build_list_eq]
      simp only [Schema.dispatch]
      simp only [int64s] at hi
      cases hr : Schema.resolveKinded Schema.Engine.ideal nul .list t with
      | reject => exact ⟨_, .wrongKind, rfl⟩
      | panic => trivial
      | ok p =>
        obtain ⟨ty', path⟩ := p
        have hwf' := resolved_wf hwf hr
        have hpl' := resolveKinded_plainR hpl hr
        cases ty' with
        | list ety enul =>
          have := putList_spec he ys T ety enul [] path fr r tt hwf' hpl' hi
          simp only [andThen_ok, ite_self]
          refine Agrees.map (ok := fun x => deliver ⟨T, fr, r, tt⟩ (wrapPath path x)) ?_ fun _ => rfl
          exact this.andThen_map fun _ => rfl
        | struct F sr =>
          cases sr with
          | tuple =>
            have := putList_tuple_spec he ys T F.toList [] path fr r tt (fields_ok hwf' hpl').1 (fields_ok hwf' hpl').2
              rfl hi
            simp only [andThen_ok, ite_self, List.length_nil, lookupFn_nil] at this ⊢
            exact this.map fun _ => rfl
          | map => exact ⟨_, .wrongKind, rfl⟩
          | stringjoin d => exact ⟨_, .wrongKind, rfl⟩
          | listpairs => simp [plainR] at hpl'
        | any => cases hpl'
        | _ => exact ⟨_, .wrongKind, rfl⟩
    | map kvs =>
      obtain ⟨T, fr, r, tt⟩ := s
      have hbm : stepPrim e ⟨T, fr, r, tt⟩ (.beginMap 0) = valuePrim e ⟨T, fr, r, tt⟩ t nul (.beginMap 0) :=
        stepPrim_at_value hp _
      simp only [putNode, hbm, valuePrim, opensMap]
      rw [Schema.build_map_eq Schema.ideal_nodeOff]
      simp only [Schema.dispatch]
      simp only [int64s] at hi
      cases hr : Schema.resolveKinded Schema.Engine.ideal nul .map t with
      | reject => exact ⟨_, .wrongKind, rfl⟩
      | panic => trivial
      | ok p =>
        obtain ⟨ty', path⟩ := p
        have hwf' := resolved_wf hwf hr
        have hpl' := resolveKinded_plainR hpl hr
        -- the frame `BeginMap` on the dead assembler: every continuation is refused
        have hdead : ∃ s' c,
            andThen (if e.beginMapAny = true then ((⟨T, Frame.dead .init :: fr, r, tt⟩ : St), Out.ok)
                else (⟨T, fr, r, tt⟩, Out.err .wrongKind))
              (fun s1 => andThen (putKVs e s1 kvs) fun s2 => stepPrim e s2 .finish) = (s', .err c) := by
          cases e.beginMapAny with
          | false => exact ⟨_, _, rfl⟩
          | true =>
            simp only [if_true, andThen_ok]
            cases kvs with
            | nil => exact ⟨_, .other, rfl⟩
            | cons k v kvs => exact ⟨_, .other, rfl⟩
        cases ty' with
        | map vty vnul =>
          have := putKVs_map_spec he kvs T vty vnul [] path fr r tt hwf' hpl' hi
          simp only [andThen_ok, ite_self]
          refine Agrees.map (ok := fun x => deliver ⟨T, fr, r, tt⟩ (wrapPath path x)) ?_ fun _ => rfl
          exact this.andThen_map fun _ => rfl
        | struct F sr =>
          cases sr with
          | map =>
            have := putKVs_struct_spec he kvs T F.toList [] path fr r tt (fields_ok hwf' hpl').1 (fields_ok hwf' hpl').2
              hi
            simp only [andThen_ok, ite_self, lookupFn_nil] at this ⊢
            exact this.map fun _ => rfl
          | tuple => exact hdead
          | stringjoin d => exact hdead
          | listpairs => simp [plainR] at hpl'
        | union M ur =>
          cases ur with
          | keyed =>
            have := putKVs_union_spec he kvs T M.toList none path fr r tt (members_ok hwf' hpl') hi
            simp only [andThen_ok, ite_self, Option.map_none, Option.isSome_none, Bool.false_eq_true, if_false] at this ⊢
            exact this.map fun _ => rfl
          | kinded => exact hdead
          | stringprefix d => exact hdead
        | any => cases hpl'
        | _ => exact ⟨_, .wrongKind, rfl⟩
    | _ => simp only [putNode]; exact putNode_scalar hp rfl hi
theorem putList_spec {e : Engine} (he : e.keyAsmDupMapKey = false) : (ys : DMs) → (T : Ty) → (ety : Ty) →
    (enul : Bool) → (xs : List TL) → (w : List Bytes) → (rest : List Frame) → (r : Option TL) → (tt : Bool) →
    ety.wf = true → plainR ety = true → int64sL ys = true →
    Agrees (Schema.buildList Schema.Engine.ideal .repr ety enul xs ys)
      (putList e ⟨T, .list ety enul xs false w :: rest, r, tt⟩ ys)
      (fun zs => (⟨T, .list ety enul zs false w :: rest, r, tt⟩, .ok))
  | .nil => fun T ety enul xs w rest r tt _ _ _ => by
    simp [putList, Schema.buildList, Agrees]
  | .cons y ys => fun T ety enul xs w rest r tt hwf hpl hi => by
    simp only [int64sL, Bool.and_eq_true] at hi
    rw [Schema.buildList_ideal_cons]
    exact (putNode_spec he y ⟨T, .list ety enul xs true w :: rest, r, tt⟩ ety enul rfl hwf hpl hi.1).bind fun tv =>
      putList_spec he ys T ety enul (xs ++ [tv]) w rest r tt hwf hpl hi.2
theorem putKVs_map_spec {e : Engine} (he : e.keyAsmDupMapKey = false) : (kvs : DMKVs) → (T : Ty) → (vty : Ty) →
    (vnul : Bool) → (es : List (Bytes × TL)) → (w : List Bytes) → (rest : List Frame) → (r : Option TL) →
    (tt : Bool) → vty.wf = true → plainR vty = true → int64sM kvs = true →
    Agrees (Schema.buildMap Schema.Engine.ideal .repr vty vnul es kvs)
      (putKVs e ⟨T, .map vty vnul es .init w :: rest, r, tt⟩ kvs)
      (fun zs => (⟨T, .map vty vnul zs .init w :: rest, r, tt⟩, .ok))
  | .nil => fun T vty vnul es w rest r tt _ _ _ => by
    simp [putKVs, Schema.buildMap, Agrees]
  | .cons k v kvs => fun T vty vnul es w rest r tt hwf hpl hi => by
    simp only [int64sM, Bool.and_eq_true] at hi
    rw [Schema.buildMap_ideal_cons, putKVs_map_cons he, show es.any (fun p => p.1 == k) = hasKey es k from rfl]
    cases hasKey es k with
    | true => exact ⟨_, .repeatedKey, rfl⟩
    | false =>
      exact (putNode_spec he v ⟨T, .map vty vnul es (.midValue k) w :: rest, r, tt⟩ vty vnul rfl hwf hpl hi.1).bind
        fun tv => putKVs_map_spec he kvs T vty vnul (es ++ [(k, tv)]) w rest r tt hwf hpl hi.2
theorem putKVs_struct_spec {e : Engine} (he : e.keyAsmDupMapKey = false) : (kvs : DMKVs) → (T : Ty) →
    (fs : List Field) → (es : List (Bytes × TL)) → (w : List Bytes) → (rest : List Frame) → (r : Option TL) →
    (tt : Bool) → (∀ f ∈ fs, f.ty.wf = true ∧ plainR f.ty = true) → (fs.map (·.name)).Nodup → int64sM kvs = true →
    Agrees (Schema.buildStruct Schema.Engine.ideal .repr fs (Schema.SSt.ofFn fs (lookupFn es)) kvs)
      (andThen (putKVs e ⟨T, .struct fs es .init w :: rest, r, tt⟩ kvs) (fun s2 => stepPrim e s2 .finish))
      (fun v => deliver ⟨T, rest, r, tt⟩ (wrapPath w v))
  | .nil => fun T fs es w rest r tt _ _ _ => by
    unfold Schema.buildStruct
    exact agrees_finish ⟨T, .struct fs es .init w :: rest, r, tt⟩ rfl
  | .cons k v kvs => fun T fs es w rest r tt hfs hnd hi => by
    simp only [int64sM, Bool.and_eq_true] at hi
    rw [Schema.buildStruct_ideal_cons hnd, show Schema.fieldFor .repr fs k = fieldOfR fs k from rfl]
    cases hfo : fieldOfR fs k with
    | none => exact putKVs_struct_cons_unknown hfo v kvs _
    | some f =>
      have hmem : f ∈ fs := List.mem_of_find?_eq_some hfo
      simp only [lookupFn_isSome]
      rw [putKVs_struct_cons hfo]
      cases hk : hasKey es f.name with
      | true => exact ⟨_, .repeatedKey, rfl⟩
      | false =>
        simp only [Bool.false_eq_true, if_false, andThen_assoc]
        refine (putNode_spec he v ⟨T, .struct fs es (.midValue k) w :: rest, r, tt⟩ f.ty f.nullable
          (by simp only [pos, posOf, hfo]) (hfs f hmem).1 (hfs f hmem).2 hi.1).bind fun tv => ?_
        rw [deliver_struct hfo, andThen_ok, ← lookupFn_snoc tv hk]
        exact putKVs_struct_spec he kvs T fs (es ++ [(f.name, tv)]) w rest r tt hfs hnd hi.2
theorem putList_tuple_spec {e : Engine} (he : e.keyAsmDupMapKey = false) : (ys : DMs) → (T : Ty) →
    (fs : List Field) → (es : List (Bytes × TL)) → (w : List Bytes) → (rest : List Frame) → (r : Option TL) →
    (tt : Bool) → (∀ f ∈ fs, f.ty.wf = true ∧ plainR f.ty = true) → (fs.map (·.name)).Nodup →
    es.map (·.1) = (fs.take es.length).map (·.name) → int64sL ys = true →
    Agrees (Schema.buildTuple Schema.Engine.ideal fs (Schema.SSt.ofFn fs (lookupFn es)) es.length ys)
      (andThen (putList e ⟨T, .tuple fs es false w :: rest, r, tt⟩ ys) (fun s2 => stepPrim e s2 .finish))
      (fun v => deliver ⟨T, rest, r, tt⟩ (wrapPath w v))
  | .nil => fun T fs es w rest r tt _ _ _ _ => by
    rw [Schema.buildTuple_nil_off rfl]
    exact agrees_finish ⟨T, .tuple fs es false w :: rest, r, tt⟩ rfl
  | .cons y ys => fun T fs es w rest r tt hfs hnd hpre hi => by
    simp only [int64sL, Bool.and_eq_true] at hi
    rw [Schema.buildTuple_ideal_cons hnd]
    show Agrees _ (andThen (andThen (putNode e ⟨T, .tuple fs es true w :: rest, r, tt⟩ y) fun s2 => putList e s2 ys) _) _
    rw [andThen_assoc]
    cases hidx : fs[es.length]? with
    | none => exact andThen_of_err ⟨_, _, (putNode_eq e y _).trans (putNode_errAsm (by simp only [pos, posOf, hidx]) y)⟩ _
    | some f =>
      have hmem : f ∈ fs := List.mem_of_getElem? hidx
      refine (putNode_spec he y ⟨T, .tuple fs es true w :: rest, r, tt⟩ f.ty f.nullable
        (by simp only [pos, posOf, hidx]) (hfs f hmem).1 (hfs f hmem).2 hi.1).bind fun tv => ?_
      rw [deliver_tuple hidx, andThen_ok, ← lookupFn_snoc tv (tuple_next_fresh hnd hpre hidx)]
      have := putList_tuple_spec he ys T fs (es ++ [(f.name, tv)]) w rest r tt hfs hnd
        (tuple_pre_snoc hpre hidx tv) hi.2
      rwa [List.length_append] at this
theorem putKVs_union_spec {e : Engine} (he : e.keyAsmDupMapKey = false) : (kvs : DMKVs) → (T : Ty) →
    (ms : List Member) → (cur : Option (Bytes × TL)) → (w : List Bytes) → (rest : List Frame) → (r : Option TL) →
    (tt : Bool) → (∀ m ∈ ms, m.ty.wf = true ∧ plainR m.ty = true) → int64sM kvs = true →
    Agrees (Schema.buildUnion Schema.Engine.ideal .repr ms (cur.map fun p => .map (.cons p.1 p.2 .nil))
        (if cur.isSome then 1 else 0) kvs)
      (andThen (putKVs e ⟨T, .union ms cur .init w :: rest, r, tt⟩ kvs) (fun s2 => stepPrim e s2 .finish))
      (fun v => deliver ⟨T, rest, r, tt⟩ (wrapPath w v))
  | .nil => fun T ms cur w rest r tt _ _ => by
    unfold Schema.buildUnion
    simp only [putKVs, andThen_ok]
    cases cur with
    | none => exact ⟨⟨T, .union ms none .init w :: rest, r, tt⟩, .other, by simp [stepPrim]⟩
    | some p => obtain ⟨n, v⟩ := p; simp [Agrees, stepPrim]
  | .cons k v kvs => fun T ms cur w rest r tt hms hi => by
    simp only [int64sM, Bool.and_eq_true] at hi
    rw [Schema.buildUnion_ideal_cons, show Schema.memberFor .repr ms k = memberOfR ms k from rfl]
    cases cur with
    | some p => exact putKVs_union_cons_noValue (by rfl) v kvs _
    | none =>
      cases hm : memberOfR ms k with
      | none => exact putKVs_union_cons_noValue (by simp [hm]) v kvs _
      | some m =>
        have hmem : m ∈ ms := List.mem_of_find?_eq_some hm
        rw [putKVs_union_cons hm, andThen_assoc]
        refine (putNode_spec he v ⟨T, .union ms none (.midValue k) w :: rest, r, tt⟩ m.ty false
          (by simp only [pos, posOf, hm]) (hms m hmem).1 (hms m hmem).2 hi.1).bind fun tv => ?_
        rw [deliver_union hm, andThen_ok]
        exact putKVs_union_spec he kvs T ms (some (m.name, tv)) w rest r tt hms hi.2
end

end RAsm
end Ipld

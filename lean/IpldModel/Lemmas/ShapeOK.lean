/-
  The canonical shape of typed values (`shapeOK`, `tupleDense`), and the shape of lists, maps and struct values built
  entry by entry.
-/
import IpldModel.Lemmas.SchemaValues
namespace Ipld
namespace Schema

/-- no absent entry before a present one -/
def tupleDense : TLKVs → Bool
  | .nil => true
  | .cons _ v es => if v = .absent then allAbsent es else tupleDense es
where
  allAbsent : TLKVs → Bool
    | .nil => true
    | .cons _ v es => v == .absent && allAbsent es

mutual
/-- `v` has the canonical shape of a typed node of type `ty` (every struct lists exactly its fields,
    in declaration order) and no tuple-represented struct in it has an absent field before a
    present one. -/
def shapeOK (ty : Ty) : TL → Bool
  | .list xs => match ty with
    | .list ety _ => shapeOKList ety xs
    | _ => true
  | .map es => match ty with
    | .map vty _ => shapeOKMap vty es
    | .struct fs sr =>
      shapeOKFields fs.toList es && (match sr with | .tuple => tupleDense es | _ => true)
    | .union ms _ =>
      match es with
      | .cons k v .nil =>
        match ms.toList.find? (fun m => m.name == k) with
        | some m => shapeOK m.ty v
        | none => true
      | _ => true
    | _ => true
  | _ => true
def shapeOKList (ety : Ty) : TLs → Bool
  | .nil => true
  | .cons x xs => shapeOK ety x && shapeOKList ety xs
def shapeOKMap (vty : Ty) : TLKVs → Bool
  | .nil => true
  | .cons _ v es => shapeOK vty v && shapeOKMap vty es
def shapeOKFields : List Field → TLKVs → Bool
  | [], .nil => true
  | f :: fs, .cons k v es => k == f.name && shapeOK f.ty v && shapeOKFields fs es
  | _, _ => false
end

theorem shapeOKFields_cons (f : Field) (fs : List Field) (k : Bytes) (v : TL) (es : TLKVs) :
    shapeOKFields (f :: fs) (.cons k v es) = (k == f.name && shapeOK f.ty v && shapeOKFields fs es) := rfl

theorem shapeOK_leaf {ty : Ty} {v : TL}
    (h : match ty with | .list .. | .map .. | .struct .. | .union .. => False | _ => True) :
    shapeOK ty v = true := by
  cases v with
  | list xs =>
    unfold shapeOK
    split
    · exact h.elim
    · rfl
  | map es =>
    unfold shapeOK
    split
    · exact h.elim
    · exact h.elim
    · exact h.elim
    · rfl
  | _ => rfl

theorem shapeOK_union_single {ms : Members} {ur : UnionRepr}
    (hnd : (ms.toList.map (·.name)).Nodup) {m : Member} (hm : m ∈ ms.toList) {tv : TL}
    (h : shapeOK m.ty tv = true) : shapeOK (.union ms ur) (wrapMember m.name tv) = true := by
  unfold wrapMember shapeOK
  simp only [find?_key_of_mem (·.name) hnd m hm]
  exact h

theorem shapeOKFields_map (g : Bytes → Option TL) (fs : List Field)
    (h : ∀ f ∈ fs, ∀ v, g f.name = some v → shapeOK f.ty v = true) :
    shapeOKFields fs (TLKVs.ofList (fs.map fun f => (f.name, (g f.name).getD .absent))) = true := by
  induction fs with
  | nil => rfl
  | cons f fs ih =>
    have h := List.forall_mem_cons.1 h
    rw [List.map_cons, TLKVs.ofList_cons, shapeOKFields_cons, beq_self_eq_true, Bool.true_and, ih h.2,
      Bool.and_true]
    cases hg : g f.name with
    | none => rfl
    | some v => exact h.1 v hg

theorem allAbsent_map (g : Bytes → Option TL) (fs : List Field) (h : ∀ f ∈ fs, g f.name = none) :
    tupleDense.allAbsent (TLKVs.ofList (fs.map fun f => (f.name, (g f.name).getD .absent))) = true := by
  induction fs with
  | nil => rfl
  | cons f fs ih =>
    have h := List.forall_mem_cons.1 h
    rw [List.map_cons, TLKVs.ofList_cons, tupleDense.allAbsent, h.1, ih h.2]
    rfl

theorem allAbsent_dense : (es : TLKVs) → tupleDense.allAbsent es = true → tupleDense es = true
  | .nil, _ => rfl
  | .cons k v es, h => by
    rw [tupleDense.allAbsent, Bool.and_eq_true, beq_iff_eq] at h
    rw [tupleDense, if_pos h.1, h.2]

theorem tupleDense_map (g : Bytes → Option TL) (pre suf : List Field)
    (hp : ∀ f ∈ pre, ∃ v, g f.name = some v ∧ v ≠ .absent) (hs : ∀ f ∈ suf, g f.name = none) :
    tupleDense (TLKVs.ofList ((pre ++ suf).map fun f => (f.name, (g f.name).getD .absent))) = true := by
  induction pre with
  | nil => exact allAbsent_dense _ (allAbsent_map g suf hs)
  | cons f pre ih =>
    have hp := List.forall_mem_cons.1 hp
    obtain ⟨v, hv, hne⟩ := hp.1
    rw [List.cons_append, List.map_cons, TLKVs.ofList_cons, tupleDense, hv, Option.getD_some, if_neg hne]
    exact ih hp.2

theorem shapeOKList_ofList (ety : Ty) (ys : List TL) (h : ∀ y ∈ ys, shapeOK ety y = true) :
    shapeOKList ety (TLs.ofList ys) = true := by
  induction ys with
  | nil => rfl
  | cons y ys ih =>
    have h := List.forall_mem_cons.1 h
    rw [TLs.ofList_cons, shapeOKList, h.1, ih h.2]
    rfl

theorem shapeOKMap_ofList (vty : Ty) (ys : List (Bytes × TL)) (h : ∀ e ∈ ys, shapeOK vty e.2 = true) :
    shapeOKMap vty (TLKVs.ofList ys) = true := by
  induction ys with
  | nil => rfl
  | cons e ys ih =>
    have h := List.forall_mem_cons.1 h
    rw [TLKVs.ofList_cons, shapeOKMap, h.1, ih h.2]
    rfl

end Schema
end Ipld

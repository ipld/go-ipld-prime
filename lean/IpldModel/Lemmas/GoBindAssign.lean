/-
  `assign` is the conformance check followed by `assignC` of the normal form (C08/C09: the type-level
  builder accepts exactly the conforming trees and builds the normal form), so its theorems are those of `assignC`
  (`assignC_sound`, `view_good`, `assignC_isSome_iff`) at the normal form, which conforms and is canonical.
-/
import IpldModel.Lemmas.GoBindAssignView
import IpldModel.Lemmas.GoBindViewAssign
import IpldModel.Lemmas.GoBindRefuse
namespace Ipld
namespace GoBind
open Schema

theorem assign_sound (g : GoTy) (t : Ty) (tl : TL) (gv : GoVal) (hwf : t.wf = true)
    (hc : compatible g t false = true) (ha : assign g t tl = some gv) :
    wt g t false gv = true ∧ view g t false gv = some (normalize t tl) := by
  unfold assign at ha
  split at ha
  · rename_i hcf
    exact assignC_sound _ g t false gv hwf hc (conforms_normalize hwf hcf) ha
  · cases ha

/-- `assign_sound` from the side of the view: whatever wrapping the built value shows is the normal form.  Named for the
    order of application, `view` of `assign`; `Props.C19` names its theorems for the direction of the round trip, so the
    property theorem with this content is `C19.view_assign` (proved from `assign_sound`). -/
theorem assign_view (g : GoTy) (t : Ty) (tl : TL) (gv : GoVal) (hwf : t.wf = true)
    (hc : compatible g t false = true) (ha : assign g t tl = some gv)
    (w : TL) (hw : view g t false gv = some w) : w = normalize t tl :=
  Option.some.inj (hw.symm.trans (assign_sound g t tl gv hwf hc ha).2)

/-- Named for the order of application, `assign` of a `view`; it is `C19.assign_view` in `Props.C19`, which names its
    theorems for the direction of the round trip. -/
theorem view_assign (g : GoTy) (t : Ty) (gv : GoVal) (v : TL) (hwf : t.wf = true)
    (hc : compatible g t false = true) (hwt : wt g t false gv = true) (hv : view g t false gv = some v) :
    assign g t v = some gv.norm := by
  obtain ⟨h1, h2, h3⟩ := view_good gv g t false hwf hc hwt v hv
  simp [assign, h1, h2, h3]

theorem assign_none_iff (g : GoTy) (t : Ty) (tl : TL) (hwf : t.wf = true) (hc : compatible g t false = true) :
    assign g t tl = none ↔ (conforms t false tl = false ∨ intsFit g t false (normalize t tl) = false) := by
  unfold assign
  cases hcf : conforms t false tl with
  | false => simp
  | true =>
    rw [if_pos rfl, ← assignC_isSome_iff hwf hc (conforms_normalize hwf hcf) (canon_normalize tl t false hwf hcf),
      Option.isSome_eq_false_iff, Option.isNone_iff_eq_none]
    simp

end GoBind
end Ipld

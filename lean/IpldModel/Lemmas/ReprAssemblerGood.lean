/-
  Representation-level assemblers: the values the machine holds.  `RGood ty nul v`: `v` conforms to `ty`
  (`Schema.conforms`) and has the canonical shape in which every tuple-represented struct is dense (`Schema.shapeOK`) -
  the two facts from which "no key twice", "canonical form" and "has a representation" follow (`Schema.has_repr`, behind C08's `repr_total_*`).  What each
  kind of frame yields on `Finish` is `RGood` for the frame's type.
-/
import IpldModel.Lemmas.ReprAssembler
import IpldModel.Lemmas.TypedValues
import IpldModel.Lemmas.SchemaNorm
import IpldModel.Lemmas.SchemaHasRepr
namespace Ipld
namespace RAsm
open Ipld.Asm (Op Out ErrClass)
open Ipld.Schema (Ty Fields Members Field Member TL TLs TLKVs canonFields wrapPath conforms conformsList conformsMap
  conformsStruct anyOK anyOKs anyOKkv shapeOK)
open Ipld.TAsm (Phase Pos hasKey inInt64 Call NoDup NoDups NoDupVals keysOf)

def RGood (ty : Ty) (nul : Bool) (v : TL) : Prop := conforms ty nul v = true ∧ shapeOK ty v = true

theorem anyOK_noDup : (v : TL) → anyOK v = true → NoDup v := fun v => (TAsm.noDup_of_ok v).2

theorem conformsList_noDups : (xs : TLs) → (ety : Ty) → (enul : Bool) → conformsList ety enul xs = true → NoDups xs :=
  fun xs ety enul h => (TAsm.noDups_toList xs).2 fun x hx =>
    TAsm.conforms_noDup x ety enul (Schema.conformsList_iff.1 h x hx)

theorem conformsStruct_noDup : (es : TLKVs) → (fs : List Field) → (seen : List Bytes) →
    conformsStruct fs seen es = true → (keysOf es).Nodup ∧ (∀ k ∈ keysOf es, k ∉ seen) ∧ NoDupVals es :=
  fun _ _ _ h =>
    have h := Schema.conformsStruct_iff.1 h
    ⟨h.1, h.2.1, TAsm.struct_vals_noDup (fun p _ => TAsm.conforms_noDup p.2) h.2.2.1⟩

theorem RGood.noDup {ty : Ty} {nul : Bool} {v : TL} (h : RGood ty nul v) : NoDup v := TAsm.conforms_noDup v ty nul h.1

theorem RGood.has_repr {ty : Ty} {nul : Bool} {v : TL} (hwf : ty.wf = true) (h : RGood ty nul v) :
    ∃ d, Schema.toRepr ty nul v = some d := Schema.has_repr hwf h.1 h.2

theorem RGood.canon {ty : Ty} {nul : Bool} {v : TL} (hwf : ty.wf = true) (h : RGood ty nul v) :
    Schema.normalize ty v = v := by
  obtain ⟨d, hd⟩ := h.has_repr hwf
  exact Schema.normalize_of_repr hwf hd

theorem RGood.mono {ty : Ty} {nul : Bool} {v : TL} (h : RGood ty false v) : RGood ty nul v :=
  ⟨Schema.conforms_mono_nul h.1, h.2⟩

theorem good_built {ty : Ty} {nul : Bool} {d : DM} {v : TL} (hwf : ty.wf = true)
    (h : Schema.build Schema.Engine.ideal .repr ty nul none d = .ok v) : RGood ty nul v :=
  ⟨Schema.build_conforms hwf h, Schema.build_shape hwf h⟩

theorem good_list {ety : Ty} {enul : Bool} (nul : Bool) {xs : List TL} (h : ∀ x ∈ xs, RGood ety enul x) :
    RGood (.list ety enul) nul (.list (TLs.ofList xs)) := by
  refine ⟨?_, ?_⟩
  · exact Schema.conforms_list_ofList ety enul xs (fun y hy => (h y hy).1)
  · exact Schema.shapeOKList_ofList ety xs (fun y hy => (h y hy).2)

theorem good_map {vty : Ty} {vnul : Bool} (nul : Bool) {es : List (Bytes × TL)} (hnd : (es.map (·.1)).Nodup)
    (h : ∀ p ∈ es, RGood vty vnul p.2) : RGood (.map vty vnul) nul (.map (TLKVs.ofList es)) := by
  refine ⟨?_, ?_⟩
  · exact Schema.conforms_map_ofList vty vnul es hnd (fun p hp => (h p hp).1)
  · exact Schema.shapeOKMap_ofList vty es (fun p hp => (h p hp).2)

def EntriesOK (fs : List Field) (es : List (Bytes × TL)) : Prop :=
  (es.map (·.1)).Nodup ∧ ∀ p ∈ es, ∃ f ∈ fs, f.name = p.1 ∧ RGood f.ty f.nullable p.2

def lookupFn (es : List (Bytes × TL)) : Bytes → Option TL := fun n => (es.find? (fun e => e.1 == n)).map (·.2)

theorem canonFields_eq (fs : List Field) (es : List (Bytes × TL)) :
    canonFields fs es = fs.map fun f => (f.name, (lookupFn es f.name).getD .absent) := by
  unfold canonFields lookupFn
  apply List.map_congr_left
  intro f _
  cases es.find? (fun e => e.1 == f.name) with
  | none => rfl
  | some p => obtain ⟨k, v⟩ := p; rfl

theorem lookupFn_isSome (es : List (Bytes × TL)) (n : Bytes) : (lookupFn es n).isSome = hasKey es n := by
  unfold lookupFn hasKey
  simp only [Option.isSome_map]
  rw [Bool.eq_iff_iff]
  simp only [List.find?_isSome, List.any_eq_true]

theorem finish_lookupFn (fs : List Field) (es : List (Bytes × TL)) :
    (Schema.SSt.ofFn fs (lookupFn es)).finish fs =
      if fieldsDone fs es then .ok (.map (TLKVs.ofList (canonFields fs es))) else .reject := by
  rw [Schema.SSt.ofFn_finish, canonFields_eq]
  simp only [lookupFn_isSome]
  rfl

theorem lookupFn_mem {es : List (Bytes × TL)} {n : Bytes} {v : TL} (h : lookupFn es n = some v) : (n, v) ∈ es :=
  mem_of_find?_key h

theorem EntriesOK.gok {fs : List Field} {es : List (Bytes × TL)} (hnd : (fs.map (·.name)).Nodup)
    (h : EntriesOK fs es) : Schema.GOK fs (lookupFn es) ∧ Schema.GSh fs (lookupFn es) := by
  have key : ∀ f ∈ fs, ∀ v, lookupFn es f.name = some v → RGood f.ty f.nullable v := by
    intro f hf v hv
    obtain ⟨f', hf', hn, hg⟩ := h.2 _ (lookupFn_mem hv)
    have := eq_of_key_eq (·.name) hnd hf' hf hn
    subst this
    exact hg
  exact ⟨fun f hf v hv => (key f hf v hv).1,
    fun f hf v hv => ⟨(key f hf v hv).2, Schema.conforms_ne_absent (key f hf v hv).1⟩⟩

theorem good_struct {F : Fields} {r : Schema.StructRepr} (hr : r ≠ .tuple) (nul : Bool) {es : List (Bytes × TL)}
    (hnd : (F.toList.map (·.name)).Nodup) (hes : EntriesOK F.toList es) (hreq : fieldsDone F.toList es = true) :
    RGood (.struct F r) nul (.map (TLKVs.ofList (canonFields F.toList es))) := by
  obtain ⟨hg1, hg2⟩ := hes.gok hnd
  have hfin := finish_lookupFn F.toList es
  rw [hreq, if_pos rfl] at hfin
  exact ⟨Schema.finish_conforms hnd hg1 hfin, Schema.finish_shape hr hg2 hfin⟩

/-- a tuple's entries are its first fields: the fields after them have no entry (the names are distinct) -/
theorem tuple_rest_fresh {fs : List Field} {es : List (Bytes × TL)} (hnd : (fs.map (·.name)).Nodup)
    (hpre : es.map (·.1) = (fs.take es.length).map (·.name)) {f : Field} (hf : f ∈ fs.drop es.length) :
    hasKey es f.name = false := by
  rw [TAsm.hasKey_false_iff, hpre]
  intro hmem
  obtain ⟨f', hf', hn⟩ := List.mem_map.1 hmem
  rw [← List.take_append_drop es.length fs, List.map_append, List.nodup_append] at hnd
  exact hnd.2.2 _ (List.mem_map_of_mem hf') _ (List.mem_map_of_mem hf) hn

theorem good_tuple {F : Fields} (nul : Bool) {es : List (Bytes × TL)}
    (hnd : (F.toList.map (·.name)).Nodup) (hes : EntriesOK F.toList es)
    (hpre : es.map (·.1) = (F.toList.take es.length).map (·.name)) (hreq : fieldsDone F.toList es = true) :
    RGood (.struct F .tuple) nul (.map (TLKVs.ofList (canonFields F.toList es))) := by
  obtain ⟨hg1, hg2⟩ := hes.gok hnd
  have hfin := finish_lookupFn F.toList es
  rw [hreq, if_pos rfl] at hfin
  refine ⟨Schema.finish_conforms hnd hg1 hfin, ?_⟩
  apply Schema.finish_shape_tuple F (F.toList.take es.length) (F.toList.drop es.length)
    (List.take_append_drop _ _).symm _ hg2 _ _ _ hfin
  · intro f hf
    rw [lookupFn_isSome, TAsm.hasKey_iff, hpre]
    exact List.mem_map_of_mem hf
  · intro f hf
    have hnot := tuple_rest_fresh hnd hpre hf
    have := lookupFn_isSome es f.name
    rw [hnot] at this
    cases hl : lookupFn es f.name with
    | none => rfl
    | some v => simp [hl] at this

theorem good_union {M : Members} {ur : Schema.UnionRepr} (nul : Bool) (hnd : (M.toList.map (·.name)).Nodup)
    {m : Member} (hm : m ∈ M.toList) {v : TL} (hv : RGood m.ty false v) :
    RGood (.union M ur) nul (.map (.cons m.name v .nil)) :=
  ⟨Schema.conforms_union_single hnd hm hv.1, Schema.shapeOK_union_single hnd hm hv.2⟩

/-- the member names of the kinded union(s) a container was begun through, wrapped around its value -/
theorem good_wrap {ty ty' : Ty} {nul : Bool} {k : Kind} {path : List Bytes} (hwf : ty.wf = true)
    (h : Schema.resolveKinded Schema.Engine.ideal nul k ty = .ok (ty', path)) {v : TL} (hv : RGood ty' false v) :
    RGood ty nul (wrapPath path v) :=
  ⟨(Schema.resolveKinded_conforms nul k ty hwf ty' path h).2 v nul hv.1,
   Schema.resolveKinded_shape nul k ty hwf ty' path h v hv.2⟩

theorem resolved_wf {ty ty' : Ty} {nul : Bool} {k : Kind} {path : List Bytes} (hwf : ty.wf = true)
    (h : Schema.resolveKinded Schema.Engine.ideal nul k ty = .ok (ty', path)) : ty'.wf = true :=
  (Schema.resolveKinded_conforms nul k ty hwf ty' path h).1

end RAsm
end Ipld

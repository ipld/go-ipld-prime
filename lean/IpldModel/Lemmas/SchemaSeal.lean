/-
  `Outcome.seal`: a conforming typed value never holds the unreadable marker (`TL.unreadable`, a list
  holding `absent`), so sealing leaves an outcome whose value conforms as it is.
-/
import IpldModel.Lemmas.SchemaValues
namespace Ipld
namespace Schema

theorem TLs.broken_cons (x : TL) (xs : TLs) (hx : x ≠ .absent) :
    (TLs.cons x xs).broken = (x.broken || xs.broken) := by
  cases x <;> first | exact absurd rfl hx | rfl

theorem TLs.not_broken : (xs : TLs) → (∀ x ∈ xs.toList, x ≠ .absent ∧ x.broken = false) → xs.broken = false
  | .nil, _ => rfl
  | .cons x xs, h => by
    have h := List.forall_mem_cons.1 h
    rw [TLs.broken_cons x xs h.1.1, h.1.2, TLs.not_broken xs h.2]
    rfl

theorem TLKVs.not_broken : (es : TLKVs) → (∀ e ∈ es.toList, e.2.broken = false) → es.broken = false
  | .nil, _ => rfl
  | .cons k v es, h => by
    have h := List.forall_mem_cons.1 h
    rw [TLKVs.broken, h.1, TLKVs.not_broken es h.2]
    rfl

theorem TL.leaf_not_broken (v : TL) (h1 : ∀ xs, v ≠ .list xs) (h2 : ∀ es, v ≠ .map es) : v.broken = false := by
  cases v <;> first | rfl | exact absurd rfl (h1 _) | exact absurd rfl (h2 _)

theorem anyOK_not_broken : ∀ v, anyOK v = true → v.broken = false :=
  TL.mem_induct (fun v h1 h2 _ => v.leaf_not_broken h1 h2)
    (fun xs ih h => TLs.not_broken xs fun x hx =>
      have hx' := anyOKs_iff.1 h x hx
      ⟨fun e => (by rw [e] at hx'; cases hx'), ih x hx hx'⟩)
    (fun es ih h => TLKVs.not_broken es fun e he => ih e he ((anyOKkv_iff.1 h).2.2 e he))

theorem anyOKs_not_broken : (xs : TLs) → anyOKs xs = true → xs.broken = false :=
  fun xs h => anyOK_not_broken (.list xs) h
theorem anyOKkv_not_broken : (es : TLKVs) → (seen : List Bytes) → anyOKkv seen es = true → es.broken = false :=
  fun es _ h => TLKVs.not_broken es fun e he => anyOK_not_broken e.2 ((anyOKkv_iff.1 h).2.2 e he)

/-- A conforming typed value can be read back in full. -/
theorem conforms_not_broken : ∀ v ty nul, conforms ty nul v = true → v.broken = false := by
  refine TL.mem_induct (fun v h1 h2 _ _ _ => v.leaf_not_broken h1 h2) (fun xs ih ty nul h => ?_)
    (fun es ih ty nul h => ?_)
  · rcases conforms_list_cases h with ⟨ety, enul, _, hc⟩ | ⟨_, hc⟩
    · exact TLs.not_broken xs fun x hx =>
        have hx' := conformsList_iff.1 hc x hx
        ⟨conforms_ne_absent hx', ih x hx ety enul hx'⟩
    · exact anyOK_not_broken (.list xs) hc
  · rcases conforms_map_cases h with ⟨vty, vnul, _, hc⟩ | ⟨fs, _, _, hc⟩ | ⟨_, _, k, v, m, _, rfl, _, hc⟩ | ⟨_, hc⟩
    · exact TLKVs.not_broken es fun e he => ih e he vty vnul ((conformsMap_iff.1 hc).2.2 e he)
    · refine TLKVs.not_broken es fun e he => ?_
      obtain ⟨f, _, hok⟩ := (conformsStruct_iff.1 hc).2.2.1 e he
      by_cases hne : e.2 = .absent
      · rw [hne]; rfl
      · exact ih e he f.ty f.nullable (fieldValOK_ne_absent f hne ▸ hok)
    · show (v.broken || false) = false
      rw [ih (k, v) List.mem_cons_self m.ty false hc]
      rfl
    · exact anyOK_not_broken (.map es) hc

theorem conformsList_not_broken : (xs : TLs) → (ety : Ty) → (enul : Bool) → conformsList ety enul xs = true →
    xs.broken = false :=
  fun xs ety enul h => conforms_not_broken (.list xs) (.list ety enul) false h
theorem conformsMap_not_broken : (es : TLKVs) → (vty : Ty) → (vnul : Bool) → (seen : List Bytes) →
    conformsMap vty vnul seen es = true → es.broken = false :=
  fun es vty vnul _ h => TLKVs.not_broken es fun e he =>
    conforms_not_broken e.2 vty vnul ((conformsMap_iff.1 h).2.2 e he)
theorem conformsStruct_not_broken : (es : TLKVs) → (fs : List Field) → (seen : List Bytes) →
    conformsStruct fs seen es = true → es.broken = false :=
  fun es fs seen h => TLKVs.not_broken es fun e he => by
    obtain ⟨f, _, hok⟩ := (conformsStruct_iff.1 h).2.2.1 e he
    by_cases hne : e.2 = .absent
    · rw [hne]; rfl
    · exact conforms_not_broken e.2 f.ty f.nullable (fieldValOK_ne_absent f hne ▸ hok)

theorem Outcome.seal_of_conforms (o : Outcome TL) (ty : Ty) (nul : Bool)
    (h : ∀ v, o = .ok v → conforms ty nul v = true) : o.seal = o := by
  cases o with
  | ok v => simp [Outcome.seal, conforms_not_broken v ty nul (h v rfl)]
  | reject => rfl
  | panic => rfl

end Schema
end Ipld

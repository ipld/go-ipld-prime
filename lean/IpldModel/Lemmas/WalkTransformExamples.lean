/-
  Graphs and selectors for the `example`s of Props/C16walk, among them those on which the hypotheses of the walk /
  transform comparison fail; beside `Lemmas/WalkExamples.lean`.
-/
import IpldModel.Model.WalkTransform
import IpldModel.Lemmas.WalkExamples
namespace Ipld
namespace WalkT
open Sel Walk

namespace Ex
open Walk.Ex

/-- fields `a`, `l` in the order the example root holds them; below `a` every element, below `l` the field `x` -/
def selFields : S :=
  .fields (.cons [0x61] (.all (.matcher none)) (.cons [0x6c] (.fields (.cons [0x78] (.matcher none) .nil)) .nil))

/-- the same two fields named in the other order, each matched as it is -/
def selFieldsRev : S := .fields (.cons [0x6c] (.matcher none) (.cons [0x61] (.matcher none) .nil))

/-- the list `[7, 8]` -/
def list78 : DM := .list (.cons (.int 7) (.cons (.int 8) .nil))
/-- a fields selector naming the second element of a list by the non-canonical numeral "01" -/
def sel01 : S := .fields (.cons [0x30, 0x31] (.matcher none) .nil)

/-- the link X -/
def cidX : Bytes := [9]
/-- block X = `[1]`, visit-once -/
def cfgOnce : Cfg := { store := [(cidX, .list (.cons (.int 1) .nil))], linkOnce := true }
/-- `{"a": <X>, "b": <X>}` -/
def rootAB : DM := .map (.cons [0x61] (.link cidX) (.cons [0x62] (.link cidX) .nil))
/-- a fields clause naming `b` (explore every element, match it) before `a` (match) -/
def selBA : S := .fields (.cons [0x62] (.all (.matcher none)) (.cons [0x61] (.matcher none) .nil))

/-- a matcher with a subset clause -/
def selSlice : S := .matcher (some (0, 1))

/-- the example root after the successor transform under the explore-everything selector: `a`'s elements
    replaced, the block inlined where the link was -/
def rootSucc : DM :=
  .map (.cons [0x61] (.list (.cons (.int 2) (.cons (.int 3) .nil))) (.cons [0x6c] Walk.Ex.blk .nil))

/-- `fnSucc`, the callback of the examples that replaces, answers the successor of an int: here of `1` -/
theorem fnSucc_int (p : Path) : fnSucc p (.int 1) = .replace (.int 2) := by
  rfl

end Ex

end WalkT
end Ipld

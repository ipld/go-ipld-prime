/-
  JSON string round trip (DESIGN §13.3 C04): refmt's `parseString` inverts `emitStringBody` on every
  valid UTF-8 byte string.
-/
import IpldModel.Lemmas.JsonUtf8
namespace Ipld
namespace Json

theorem parseStringAux_cons (p : Nat) (b : UInt8) (rest acc : Bytes) (h : b.toNat ≠ 0x5c) :
    parseStringAux (p + 1) (b :: rest) acc =
      if b.toNat = 0x22 ∨ b.toNat < 0x20 then none
      else if b.toNat < 0x80 then parseStringAux p rest (acc ++ [b])
      else parseStringAux p ((b :: rest).drop (decodeRune (b :: rest)).2)
        (acc ++ encodeRune (decodeRune (b :: rest)).1) :=
  if_neg h

theorem parse_u4 (p : Nat) (a b c d : UInt8) (t acc : Bytes) (rr : Nat)
    (hg : getu4 (0x5c :: 0x75 :: a :: b :: c :: d :: t) = some rr) (hs : isSurrogate rr = false) :
    parseStringAux (p + 1) (0x5c :: 0x75 :: a :: b :: c :: d :: t) acc
      = parseStringAux p t (acc ++ encodeRune rr) := by
  show (match getu4 (0x5c :: 0x75 :: a :: b :: c :: d :: t) with
    | none => none
    | some rr => _) = _
  rw [hg]
  show (if isSurrogate rr = true then _ else _) = _
  rw [hs]
  rfl

theorem hexValB_hexDigitLower {n : Nat} (h : n < 16) : hexValB (hexDigitLower n) = some n := by
  have : ∀ k : Fin 16, hexValB (hexDigitLower k.val) = some k.val := by decide
  exact this ⟨n, h⟩

theorem getu4_ctl (c : Nat) (t : Bytes) (h : c < 0x20) :
    getu4 (0x5c :: 0x75 :: 0x30 :: 0x30 :: hexDigitLower (c / 16) :: hexDigitLower (c % 16) :: t) = some c := by
  have h1 : c / 16 < 16 := Nat.div_lt_of_lt_mul (Nat.lt_trans h (by decide))
  have e : getu4 (0x5c :: 0x75 :: 0x30 :: 0x30 :: hexDigitLower (c / 16) :: hexDigitLower (c % 16) :: t) =
      some (0 * 4096 + 0 * 256 + c / 16 * 16 + c % 16) := by
    simp only [getu4, show hexValB 0x30 = some 0 from rfl, hexValB_hexDigitLower h1,
      hexValB_hexDigitLower (Nat.mod_lt c (by decide : 0 < 16)), bind, Option.bind, pure]
  rw [e, Nat.zero_mul, Nat.zero_add, Nat.div_add_mod']

theorem isSurrogate_lt {r : Nat} (h : r < 0xD800) : isSurrogate r = false :=
  decide_eq_false fun h' => Nat.not_le.mpr h h'.1

theorem ascii_step (b : UInt8) (hc : b.toNat < 0x80) :
    ∃ chunk, 1 ≤ chunk.length ∧
      (∀ fuel rest, emitStringBody (fuel + 1) (b :: rest) = chunk ++ emitStringBody fuel rest) ∧
      ∀ p t acc, parseStringAux (p + 1) (chunk ++ t) acc = parseStringAux p t (acc ++ [b]) := by
  by_cases h1 : 0x20 ≤ b.toNat ∧ b.toNat ≠ 0x5c ∧ b.toNat ≠ 0x22
  · exact ⟨[b], Nat.le_refl _, fun _ _ => (if_pos hc).trans (if_pos h1), fun p t acc => by
      rw [List.singleton_append, parseStringAux_cons p b t acc h1.2.1,
        if_neg (not_or.mpr ⟨h1.2.2, Nat.not_lt.mpr h1.1⟩), if_pos hc]⟩
  by_cases h2 : b.toNat = 0x5c ∨ b.toNat = 0x22
  · exact ⟨[0x5c, b], Nat.succ_pos _, fun _ _ => (if_pos hc).trans ((if_neg h1).trans (if_pos h2)),
      fun p t acc =>
        show (if b.toNat = 0x22 ∨ b.toNat = 0x5c ∨ b.toNat = 0x2f ∨ b.toNat = 0x27 then
          parseStringAux p t (acc ++ [b]) else _) = _
        from if_pos (h2.elim (fun e => Or.inr (Or.inl e)) Or.inl)⟩
  by_cases h3 : b.toNat = 0x0a
  · cases (UInt8.toNat_inj (b := 0x0a)).mp h3
    exact ⟨[0x5c, 0x6e], Nat.succ_pos _, fun _ _ => rfl, fun _ _ _ => rfl⟩
  by_cases h4 : b.toNat = 0x0d
  · cases (UInt8.toNat_inj (b := 0x0d)).mp h4
    exact ⟨[0x5c, 0x72], Nat.succ_pos _, fun _ _ => rfl, fun _ _ _ => rfl⟩
  by_cases h5 : b.toNat = 0x09
  · cases (UInt8.toNat_inj (b := 0x09)).mp h5
    exact ⟨[0x5c, 0x74], Nat.succ_pos _, fun _ _ => rfl, fun _ _ _ => rfl⟩
  have hlt : b.toNat < 0x20 := by omega
  refine ⟨[0x5c, 0x75, 0x30, 0x30, hexDigitLower (b.toNat / 16), hexDigitLower (b.toNat % 16)],
    Nat.succ_pos _, fun _ _ => (if_pos hc).trans ((if_neg h1).trans ((if_neg h2).trans ((if_neg h3).trans
      ((if_neg h4).trans (if_neg h5))))), fun p t acc => ?_⟩
  have := parse_u4 p 0x30 0x30 (hexDigitLower (b.toNat / 16)) (hexDigitLower (b.toNat % 16))
    t acc b.toNat (getu4_ctl b.toNat t hlt) (isSurrogate_lt (Nat.lt_trans hc (by decide)))
  rwa [encodeRune_1 hc, UInt8.ofNat_toNat] at this

/-- One emitter step on a nonempty string whose first rune decodes: the emitter writes `chunk` for the
    prefix `consumed`, and one parser step over `chunk` appends exactly `consumed`. -/
theorem string_step (b : UInt8) (rest : Bytes) (hv : decodeRune (b :: rest) ≠ (runeError, 1)) :
    ∃ chunk consumed rest', b :: rest = consumed ++ rest' ∧ 1 ≤ consumed.length ∧ 1 ≤ chunk.length ∧
      (∀ fuel, emitStringBody (fuel + 1) (b :: rest) = chunk ++ emitStringBody fuel rest') ∧
      (∀ p t acc, parseStringAux (p + 1) (chunk ++ t) acc = parseStringAux p t (acc ++ consumed)) ∧
      (∀ vf, validUtf8 (vf + 1) (b :: rest) = validUtf8 vf rest') := by
  by_cases hc : b.toNat < 0x80
  · obtain ⟨chunk, hl, hemit, hparse⟩ := ascii_step b hc
    exact ⟨chunk, [b], rest, rfl, Nat.le_refl _, hl, fun fuel => hemit fuel rest, hparse, fun vf =>
      validUtf8_cons_ok vf (decodeRune_ascii b rest hc) (fun e => absurd (e.1 ▸ hc) (by decide))⟩
  · rcases hd : decodeRune (b :: rest) with ⟨r, n⟩
    have hne : ¬ (r = runeError ∧ n = 1) := fun e => hv (by rw [hd, e.1, e.2])
    obtain ⟨pre, post, hs, hl, hn1, henc, hpre⟩ := decodeRune_ok hd hne (List.cons_ne_nil _ _)
    have hdrop : (b :: rest).drop n = post := by rw [hs]; exact List.drop_left' hl
    have hemit : ∀ fuel, emitStringBody (fuel + 1) (b :: rest) =
        if r = 0x2028 ∨ r = 0x2029 then
          [0x5c, 0x75, 0x32, 0x30, 0x32, hexDigitLower (r % 16)] ++ emitStringBody fuel post
        else pre ++ emitStringBody fuel post := fun fuel => by
      rw [← hdrop, ← List.take_left' hl, ← hs]
      simp only [emitStringBody, hc, if_false, hd]
      rw [if_neg hne]
    have hval : ∀ vf, validUtf8 (vf + 1) (b :: rest) = validUtf8 vf post := fun vf => by
      rw [validUtf8_cons_ok vf hd hne, hdrop]
    by_cases hls : r = 0x2028 ∨ r = 0x2029
    · refine ⟨[0x5c, 0x75, 0x32, 0x30, 0x32, hexDigitLower (r % 16)], pre, post, hs, hl ▸ hn1,
        Nat.succ_pos _, fun fuel => (hemit fuel).trans (if_pos hls), fun p t acc => ?_, hval⟩
      have := parse_u4 p 0x32 0x30 0x32 (hexDigitLower (r % 16)) t acc r (by rcases hls with rfl | rfl <;> rfl)
        (isSurrogate_lt (by rcases hls with rfl | rfl <;> decide))
      rwa [henc] at this
    · refine ⟨pre, pre, post, hs, hl ▸ hn1, hl ▸ hn1, fun fuel => (hemit fuel).trans (if_neg hls),
        fun p t acc => ?_, hval⟩
      cases pre with
      | nil => cases hl; exact absurd hn1 (Nat.lt_irrefl 0)
      | cons b' pre' =>
        cases (List.cons.inj hs).1
        rw [List.cons_append, parseStringAux_cons p b _ acc (by omega), if_neg (by omega), if_neg hc,
          ← List.cons_append, hpre t, henc, List.drop_left' hl]

theorem emitStringBody_nil (fuel : Nat) : emitStringBody fuel [] = [] := by
  cases fuel <;> rfl

theorem parseStringAux_nil (p : Nat) (acc : Bytes) : parseStringAux p [] acc = some acc := by
  cases p <;> rfl

theorem parseStringAux_emitStringBody : ∀ (fuel : Nat) (s : Bytes) (vf p : Nat) (acc : Bytes),
    s.length < fuel → s.length < vf → validUtf8 vf s = true → (emitStringBody fuel s).length < p →
    parseStringAux p (emitStringBody fuel s) acc = some (acc ++ s)
  | 0, _, _, _, _, hf, _, _, _ => absurd hf (Nat.not_lt_zero _)
  | _ + 1, [], _, p, acc, _, _, _, _ => by rw [emitStringBody_nil, parseStringAux_nil, List.append_nil]
  | fuel + 1, b :: rest, vf, p, acc, hf, hvf, hv, hp => by
    obtain ⟨vf, rfl⟩ := Nat.exists_eq_add_one.mpr (Nat.zero_lt_of_lt hvf)
    obtain ⟨p, rfl⟩ := Nat.exists_eq_add_one.mpr (Nat.zero_lt_of_lt hp)
    have hdec : decodeRune (b :: rest) ≠ (runeError, 1) := fun he => by
      rw [validUtf8_cons_err vf b rest he] at hv
      exact Bool.noConfusion hv
    obtain ⟨chunk, consumed, rest', hs, hc1, hch1, hemit, hparse, hvalid⟩ := string_step b rest hdec
    have hlen : rest'.length < (b :: rest).length := by
      rw [hs, List.length_append]; exact Nat.lt_add_of_pos_left hc1
    rw [hemit, List.length_append] at hp
    rw [hemit, hparse, parseStringAux_emitStringBody fuel rest' vf p (acc ++ consumed)
      (Nat.lt_of_lt_of_le hlen (Nat.le_of_lt_succ hf)) (Nat.lt_of_lt_of_le hlen (Nat.le_of_lt_succ hvf))
      (hvalid vf ▸ hv) (by omega), hs, List.append_assoc]

/-- refmt's JSON string decoder inverts its string encoder (between the quotes) on every valid UTF-8
    byte string. -/
theorem parseString_emitStringBody (s : Bytes) (h : isValidUtf8 s = true) :
    parseString (emitStringBody (s.length + 1) s) = s := by
  unfold parseString
  rw [parseStringAux_emitStringBody (s.length + 1) s (s.length + 1) _ [] (Nat.lt_succ_self _)
    (Nat.lt_succ_self _) h (Nat.lt_succ_self _)]
  rfl

theorem parseString_emitStringBody_ascii (s : Bytes) (h : ∀ b ∈ s, b.toNat < 0x80) :
    parseString (emitStringBody (s.length + 1) s) = s :=
  parseString_emitStringBody s (validUtf8_of_ascii s _ h)

end Json
end Ipld

/-
  What every schema proof leans on: the ideal engine's flags are off (all sixteen, and the two driving modes);
  `findIdx` and `find?` by a key; the state of a fresh struct assembly is a function from field names (`SSt.ofFn`),
  and the builders' `seen` bookkeeping follows it.
-/
import IpldModel.Lemmas.SchemaEqns
import IpldModel.Lemmas.FirstOfKey
import IpldModel.Lemmas.ListMore
namespace Ipld
namespace Schema

@[simp] theorem ideal_dupStructField : Engine.ideal.dupStructField = false := rfl
@[simp] theorem ideal_reuseSlot : Engine.ideal.reuseSlot = false := rfl
@[simp] theorem ideal_dupMapKey : Engine.ideal.dupMapKey = false := rfl
@[simp] theorem ideal_unionMulti : Engine.ideal.unionMulti = false := rfl
@[simp] theorem ideal_renameFallback : Engine.ideal.renameFallback = false := rfl
@[simp] theorem ideal_discFallback : Engine.ideal.discFallback = false := rfl
@[simp] theorem ideal_enumTypeAnyString : Engine.ideal.enumTypeAnyString = false := rfl
@[simp] theorem ideal_enumNameAtRepr : Engine.ideal.enumNameAtRepr = false := rfl
@[simp] theorem ideal_nullableUnionPanic : Engine.ideal.nullableUnionPanic = false := rfl
@[simp] theorem ideal_lpShortPair : Engine.ideal.lpShortPair = false := rfl
@[simp] theorem ideal_lpUnknownKeyPanic : Engine.ideal.lpUnknownKeyPanic = false := rfl
@[simp] theorem ideal_tupleShortAccepted : Engine.ideal.tupleShortAccepted = false := rfl
@[simp] theorem ideal_prefixEmptyDelimSplit : Engine.ideal.prefixEmptyDelimSplit = false := rfl
@[simp] theorem ideal_kindedNullRejected : Engine.ideal.kindedNullRejected = false := rfl
@[simp] theorem ideal_keyAsmDupMapKey : Engine.ideal.keyAsmDupMapKey = false := rfl
@[simp] theorem ideal_assignNodeSkipsBegin : Engine.ideal.assignNodeSkipsBegin = false := rfl
@[simp] theorem ideal_viaKeys : Engine.ideal.viaKeys = false := rfl
@[simp] theorem ideal_viaNode : Engine.ideal.viaNode = false := rfl

theorem ideal_nodeOff : (Engine.ideal.viaNode && Engine.ideal.assignNodeSkipsBegin) = false := rfl

@[simp] theorem nilSlotAssign_ideal (lvl : Level) (m : Bool) (ty : Ty) (d : DM) :
    nilSlotAssign Engine.ideal lvl m ty d = none :=
  nilSlotAssign_off ideal_nodeOff lvl m ty d

theorem buildTuple_nil_ideal (fs : List Field) (st : SSt) (i : Nat) :
    buildTuple Engine.ideal fs st i .nil = st.finish fs :=
  buildTuple_nil_off rfl fs st i

theorem build_null_ideal (lvl : Level) (ty : Ty) (nul : Bool) (cur : Option TL) :
    build Engine.ideal lvl ty nul cur .null = if nul then .ok .null else .reject :=
  build_null_off rfl lvl ty nul cur

@[simp] theorem TLs.toList_ofList (l : List TL) : (TLs.ofList l).toList = l := by
  induction l with
  | nil => rfl
  | cons x xs ih => exact congrArg (x :: ·) ih

@[simp] theorem TLs.ofList_toList : (l : TLs) → TLs.ofList l.toList = l
  | .nil => rfl
  | .cons x xs => congrArg (TLs.cons x) (TLs.ofList_toList xs)

@[simp] theorem TLKVs.toList_ofList (l : List (Bytes × TL)) : (TLKVs.ofList l).toList = l := by
  induction l with
  | nil => rfl
  | cons x xs ih => exact congrArg (x :: ·) ih

@[simp] theorem TLKVs.ofList_toList : (l : TLKVs) → TLKVs.ofList l.toList = l
  | .nil => rfl
  | .cons k v es => congrArg (TLKVs.cons k v) (TLKVs.ofList_toList es)

@[simp] theorem TLKVs.ofList_nil : TLKVs.ofList [] = .nil := rfl
@[simp] theorem TLKVs.ofList_cons (k : Bytes) (v : TL) (l : List (Bytes × TL)) :
    TLKVs.ofList ((k, v) :: l) = .cons k v (TLKVs.ofList l) := rfl
@[simp] theorem TLs.ofList_nil : TLs.ofList [] = .nil := rfl
@[simp] theorem TLs.ofList_cons (v : TL) (l : List TL) :
    TLs.ofList (v :: l) = .cons v (TLs.ofList l) := rfl
@[simp] theorem DMKVs.ofList_nil : DMKVs.ofList [] = .nil := rfl
@[simp] theorem DMKVs.ofList_cons (k : Bytes) (v : DM) (l : List (Bytes × DM)) :
    DMKVs.ofList ((k, v) :: l) = .cons k v (DMKVs.ofList l) := rfl
@[simp] theorem DMs.ofList_nil : DMs.ofList [] = .nil := rfl
@[simp] theorem DMs.ofList_cons (v : DM) (l : List DM) :
    DMs.ofList (v :: l) = .cons v (DMs.ofList l) := rfl

theorem TLKVs.ofList_inj {a b : List (Bytes × TL)} (h : TLKVs.ofList a = TLKVs.ofList b) : a = b := by
  rw [← TLKVs.toList_ofList a, h, TLKVs.toList_ofList]

theorem TLs.ofList_inj {a b : List TL} (h : TLs.ofList a = TLs.ofList b) : a = b := by
  rw [← TLs.toList_ofList a, h, TLs.toList_ofList]

theorem findIdx_none {α : Type} {p : α → Bool} {l : List α} : findIdx p l = none ↔ l.find? p = none := by
  induction l with
  | nil => exact ⟨fun _ => rfl, fun _ => rfl⟩
  | cons a as ih =>
    rw [findIdx, List.find?_cons]
    cases p a
    · rw [if_neg Bool.false_ne_true, Option.map_eq_none_iff]
      exact ih
    · exact Iff.intro (fun h => nomatch h) (fun h => nomatch h)

theorem findIdx_some {α : Type} {p : α → Bool} {l : List α} {i : Nat} {a : α}
    (h : findIdx p l = some (i, a)) : l[i]? = some a ∧ p a = true ∧ l.find? p = some a := by
  induction l generalizing i with
  | nil => cases h
  | cons b bs ih =>
    rw [findIdx] at h
    rw [List.find?_cons]
    split at h
    · next hb =>
      cases h
      exact ⟨rfl, hb, by rw [hb]⟩
    · next hb =>
      obtain ⟨⟨j, x⟩, hx, hjx⟩ := Option.map_eq_some_iff.1 h
      obtain ⟨rfl, rfl⟩ := Prod.mk.inj hjx
      rw [Bool.not_eq_true] at hb
      rw [hb]
      exact ih hx

theorem findIdx_of_find? {α : Type} {p : α → Bool} {l : List α} {a : α} (h : l.find? p = some a) :
    ∃ i, findIdx p l = some (i, a) ∧ l[i]? = some a := by
  cases hq : findIdx p l with
  | none => rw [findIdx_none.1 hq] at h; cases h
  | some r =>
    obtain ⟨i, b⟩ := r
    have hs := findIdx_some hq
    rw [hs.2.2] at h; cases h
    exact ⟨i, rfl, hs.1⟩

theorem nodupBytes_iff {l : List Bytes} : nodupBytes l = true ↔ l.Nodup := by
  induction l with
  | nil => exact ⟨fun _ => List.nodup_nil, fun _ => rfl⟩
  | cons b bs ih =>
    rw [nodupBytes, Bool.and_eq_true, Bool.not_eq_true', ← Bool.not_eq_true, List.contains_iff_mem,
      List.nodup_cons, ih]

theorem find?_mem_key {α β : Type} [BEq β] [LawfulBEq β] {key : α → β} {l : List α} {k : β} {a : α}
    (h : l.find? (fun x => key x == k) = some a) : a ∈ l ∧ key a = k :=
  ⟨List.mem_of_find?_eq_some h, eq_of_beq (List.find?_some h :)⟩

/-- `eraseDups` never lengthens, and keeps the length only of a duplicate-free list: `Ty.wf` says "distinct
    kinds / ints" as `eraseDups.length == length`.  (By induction on a bound for the length: the recursive call
    is on a filtered tail.) -/
theorem eraseDups_length {α : Type} [BEq α] [LawfulBEq α] (n : Nat) : (l : List α) → l.length ≤ n →
    l.eraseDups.length ≤ l.length ∧ (l.eraseDups.length = l.length → l.Nodup) := by
  induction n with
  | zero =>
    intro l hl
    cases l with
    | nil => exact ⟨Nat.le_refl _, fun _ => List.nodup_nil⟩
    | cons => cases hl
  | succ n ih =>
    intro l hn
    cases l with
    | nil => exact ⟨Nat.le_refl _, fun _ => List.nodup_nil⟩
    | cons a as =>
      have hf := List.length_filter_le (fun b => !b == a) as
      have ih := ih _ (Nat.le_trans hf (Nat.le_of_succ_le_succ hn))
      rw [List.eraseDups_cons, List.length_cons, List.length_cons]
      refine ⟨Nat.succ_le_succ (Nat.le_trans ih.1 hf), fun h => ?_⟩
      have h := Nat.succ.inj h
      have hall := List.length_filter_eq_length_iff.1 (Nat.le_antisymm hf (h ▸ ih.1))
      rw [List.filter_eq_self.2 hall] at ih h
      refine List.nodup_cons.2 ⟨fun hmem => ?_, ih.2 h⟩
      have := hall a hmem
      rw [beq_self_eq_true] at this
      exact Bool.false_ne_true this

theorem nodup_of_eraseDups_length {α : Type} [BEq α] [LawfulBEq α] (l : List α)
    (h : l.eraseDups.length = l.length) : l.Nodup :=
  (eraseDups_length l.length l (Nat.le_refl _)).2 h

theorem Fields.wf_iff : (fs : Fields) → (fs.wf = true ↔ ∀ f ∈ fs.toList, f.ty.wf = true)
  | .nil => ⟨fun _ _ hf => (nomatch hf), fun _ => rfl⟩
  | .cons _ _ _ _ _ rest => by
    rw [Fields.wf, Bool.and_eq_true, Fields.wf_iff rest, Fields.toList, List.forall_mem_cons]

theorem Members.wf_iff : (ms : Members) → (ms.wf = true ↔ ∀ m ∈ ms.toList, m.ty.wf = true)
  | .nil => ⟨fun _ _ hm => (nomatch hm), fun _ => rfl⟩
  | .cons _ _ _ _ rest => by
    rw [Members.wf, Bool.and_eq_true, Members.wf_iff rest, Members.toList, List.forall_mem_cons]

theorem wf_struct {fs : Fields} {r : StructRepr} (h : (Ty.struct fs r).wf = true) :
    (∀ f ∈ fs.toList, f.ty.wf = true) ∧ (fs.toList.map (·.name)).Nodup ∧ (fs.toList.map (·.rename)).Nodup :=
  have ⟨h, _⟩ := Bool.and_eq_true_iff.1 h
  have ⟨h, h3⟩ := Bool.and_eq_true_iff.1 h
  have ⟨h1, h2⟩ := Bool.and_eq_true_iff.1 h
  ⟨(Fields.wf_iff fs).1 h1, nodupBytes_iff.1 h2, nodupBytes_iff.1 h3⟩

theorem wf_stringjoin {fs : Fields} {d : Bytes} (h : (Ty.struct fs (.stringjoin d)).wf = true) :
    d ≠ [] ∧ ∀ f ∈ fs.toList, f.opt = false ∧ f.nullable = false ∧ f.ty.stringy = true := by
  have ⟨hd, hall⟩ := Bool.and_eq_true_iff.1 (Bool.and_eq_true_iff.1 h).2
  refine ⟨fun he => ?_, fun f hf => ?_⟩
  · rw [he] at hd; exact Bool.false_ne_true hd
  · have ⟨h12, h3⟩ := Bool.and_eq_true_iff.1 (List.all_eq_true.1 hall f hf)
    have ⟨h1, h2⟩ := Bool.and_eq_true_iff.1 h12
    exact ⟨(Bool.not_eq_true' _).mp h1, (Bool.not_eq_true' _).mp h2, h3⟩

theorem wf_union {ms : Members} {r : UnionRepr} (h : (Ty.union ms r).wf = true) :
    (∀ m ∈ ms.toList, m.ty.wf = true) ∧ (ms.toList.map (·.name)).Nodup :=
  have ⟨h, _⟩ := Bool.and_eq_true_iff.1 h
  have ⟨h1, h2⟩ := Bool.and_eq_true_iff.1 h
  ⟨(Members.wf_iff ms).1 h1, nodupBytes_iff.1 h2⟩

theorem wf_keyed {ms : Members} (h : (Ty.union ms .keyed).wf = true) :
    (ms.toList.map (·.disc)).Nodup :=
  nodupBytes_iff.1 (Bool.and_eq_true_iff.1 h).2

theorem wf_kinded {ms : Members} (h : (Ty.union ms .kinded).wf = true) :
    (ms.toList.map (·.kind)).Nodup :=
  nodup_of_eraseDups_length _ ((eq_of_beq (Bool.and_eq_true_iff.1 h).2).trans (List.length_map _).symm)

theorem wf_stringprefix {ms : Members} {d : Bytes} (h : (Ty.union ms (.stringprefix d)).wf = true) :
    (ms.toList.map (·.disc)).Nodup ∧ ∀ m ∈ ms.toList, m.ty.stringy = true :=
  have ⟨h1, h2⟩ := Bool.and_eq_true_iff.1 (Bool.and_eq_true_iff.1 h).2
  ⟨nodupBytes_iff.1 h1, List.all_eq_true.1 h2⟩

theorem wf_enum {ms : List EnumMember} {r : EnumRepr} (h : (Ty.enum ms r).wf = true) :
    (ms.map (·.name)).Nodup :=
  nodupBytes_iff.1 (Bool.and_eq_true_iff.1 h).1

theorem wf_enum_str {ms : List EnumMember} (h : (Ty.enum ms .str).wf = true) :
    (ms.map (·.rstr)).Nodup :=
  nodupBytes_iff.1 (Bool.and_eq_true_iff.1 h).2

theorem wf_enum_int {ms : List EnumMember} (h : (Ty.enum ms .int).wf = true) :
    (ms.map (·.rint)).Nodup :=
  nodup_of_eraseDups_length _ ((eq_of_beq (Bool.and_eq_true_iff.1 h).2).trans (List.length_map _).symm)

/-- The assembly state in which field `f` holds `g f.name` (and was assigned iff that is `some`).  Every state a
    fresh assembly (`SSt.init _ none`) passes through has this form; one that re-uses a slot
    (`Engine.reuseSlot`) holds values it has not assigned, and is not of it. -/
def SSt.ofFn (fs : List Field) (g : Bytes → Option TL) : SSt :=
  { slots := fs.map fun f => g f.name, done := fs.map fun f => (g f.name).isSome }

def setFn (g : Bytes → Option TL) (k : Bytes) (v : TL) : Bytes → Option TL :=
  fun n => if n == k then some v else g n

@[simp] theorem setFn_same (g : Bytes → Option TL) (k : Bytes) (v : TL) : setFn g k v k = some v :=
  if_pos (beq_self_eq_true k)

theorem setFn_other {g : Bytes → Option TL} {k : Bytes} {v : TL} {n : Bytes} (h : n ≠ k) :
    setFn g k v n = g n :=
  if_neg fun hb => h (eq_of_beq hb)

theorem SSt.init_none (fs : List Field) : SSt.init fs none = SSt.ofFn fs (fun _ => none) := rfl

theorem SSt.curOf_ideal (st : SSt) (i : Nat) (f : Field) : st.curOf Engine.ideal i f = none := rfl

theorem SSt.ofFn_isDone {fs : List Field} {g : Bytes → Option TL} {i : Nat} {f : Field}
    (hi : fs[i]? = some f) : (SSt.ofFn fs g).isDone i = (g f.name).isSome := by
  rw [SSt.isDone, SSt.ofFn, List.getD_eq_getElem?_getD, List.getElem?_map, hi]
  rfl

theorem unset_after {g} {f : Field} {suf v}
    (hnd : ((f :: suf).map (·.name)).Nodup) (hg : ∀ f' ∈ f :: suf, g f'.name = none) :
    ∀ f' ∈ suf, setFn g f.name v f'.name = none := by
  intro f' hf'
  have hmem : f'.name ∈ suf.map (·.name) := List.mem_map_of_mem hf'
  have hnot : f.name ∉ suf.map (·.name) := (List.nodup_cons.1 hnd).1
  have hne : f'.name ≠ f.name := fun heq => hnot (heq ▸ hmem)
  rw [setFn_other hne]
  exact hg f' (List.mem_cons_of_mem _ hf')

theorem set_upto {g : Bytes → Option TL} {pre : List Field} (f : Field) (v : TL)
    (hpre : ∀ f' ∈ pre, (g f'.name).isSome = true) : ∀ f' ∈ pre ++ [f], (setFn g f.name v f'.name).isSome = true := by
  intro f' hf'
  rcases List.mem_append.1 hf' with h | h
  · unfold setFn
    cases f'.name == f.name
    · exact hpre f' h
    · rfl
  · rw [List.mem_singleton.1 h, setFn_same]; rfl

theorem seen_append {seen : List Bytes} {acc : List (Bytes × TL)}
    (hseen : ∀ k, seen.contains k = acc.any (fun p => p.1 == k)) (k : Bytes) (v : TL) (k' : Bytes) :
    (k :: seen).contains k' = (acc ++ [(k, v)]).any (fun p => p.1 == k') := by
  rw [List.contains_cons, hseen k', List.any_append, List.any_cons, List.any_nil, Bool.or_false, Bool.or_comm,
    Bool.beq_comm]

theorem seen_setFn {seen : List Bytes} {g : Bytes → Option TL} (hseen : ∀ k, seen.contains k = (g k).isSome)
    (k : Bytes) (v : TL) (k' : Bytes) : (k :: seen).contains k' = (setFn g k v k').isSome := by
  rw [List.contains_cons, hseen k']
  unfold setFn
  cases k' == k <;> rfl

/-- Setting position `i`, where the field `f` sits, turns `map h` into `map h'` if `h'` differs from `h`
    at most on the fields called `f.name` - of which, the names being distinct, `f` is the only one. -/
theorem map_set_of_nodup {α : Type} (h h' : Field → α) (f : Field)
    (hh : ∀ f', f'.name ≠ f.name → h' f' = h f') : (fs : List Field) → (i : Nat) → fs[i]? = some f →
    (fs.map (·.name)).Nodup → (fs.map h).set i (h' f) = fs.map h' := by
  intro fs
  induction fs with
  | nil => intro _ hi; cases hi
  | cons f0 fs ih =>
    intro i hi hnd
    rw [List.map_cons, List.nodup_cons] at hnd
    cases i with
    | zero =>
      cases hi
      exact congrArg _ (List.map_congr_left fun f' hf' =>
        (hh f' fun heq => hnd.1 (heq ▸ List.mem_map_of_mem hf')).symm)
    | succ i =>
      rw [List.map_cons, List.set_cons_succ, List.map_cons, ih i hi hnd.2,
        hh f0 fun heq => hnd.1 (heq ▸ List.mem_map_of_mem (List.mem_of_getElem? hi))]

theorem SSt.ofFn_assign {fs : List Field} {g : Bytes → Option TL} {i : Nat} {f : Field} {v : TL}
    (hi : fs[i]? = some f) (hnd : (fs.map (·.name)).Nodup) :
    (SSt.ofFn fs g).assign i v = SSt.ofFn fs (setFn g f.name v) := by
  have hs := map_set_of_nodup (fun f' => g f'.name) (fun f' => setFn g f.name v f'.name) f
    (fun f' hf' => setFn_other hf') fs i hi hnd
  have hd := map_set_of_nodup (fun f' => (g f'.name).isSome) (fun f' => (setFn g f.name v f'.name).isSome) f
    (fun f' hf' => congrArg Option.isSome (setFn_other hf')) fs i hi hnd
  rw [setFn_same] at hs hd
  exact congr (congrArg SSt.mk hs) hd

theorem finishFields_map (g : Bytes → Option TL) : (fs : List Field) →
    finishFields fs (fs.map fun f => g f.name) (fs.map fun f => (g f.name).isSome) =
      if fs.all (fun f => f.opt || (g f.name).isSome) then
        some (fs.map fun f => (f.name, (g f.name).getD .absent))
      else none := by
  intro fs
  induction fs with
  | nil => rfl
  | cons f fs ih =>
    rw [List.map_cons, List.map_cons, List.map_cons, List.all_cons]
    unfold finishFields
    rw [ih]
    cases g f.name <;> cases f.opt <;> cases fs.all (fun f => f.opt || (g f.name).isSome) <;> rfl

theorem SSt.ofFn_finish (fs : List Field) (g : Bytes → Option TL) :
    (SSt.ofFn fs g).finish fs =
      if fs.all (fun f => f.opt || (g f.name).isSome) then
        .ok (.map (TLKVs.ofList (fs.map fun f => (f.name, (g f.name).getD .absent))))
      else .reject := by
  rw [SSt.finish, SSt.ofFn, finishFields_map]
  cases fs.all (fun f => f.opt || (g f.name).isSome) <;> rfl

def fieldFor (lvl : Level) (fs : List Field) (k : Bytes) : Option Field :=
  match lvl with
  | .type => fs.find? (fun f => f.name == k)
  | .repr => fs.find? (fun f => f.rename == k)

def memberFor (lvl : Level) (ms : List Member) (k : Bytes) : Option Member :=
  match lvl with
  | .type => ms.find? (fun m => m.name == k)
  | .repr => ms.find? (fun m => m.disc == k)

theorem fieldFor_mem {lvl : Level} {fs : List Field} {k : Bytes} {f : Field} (h : fieldFor lvl fs k = some f) :
    f ∈ fs := by
  cases lvl <;> exact List.mem_of_find?_eq_some h

theorem memberFor_mem {lvl : Level} {ms : List Member} {k : Bytes} {m : Member} (h : memberFor lvl ms k = some m) :
    m ∈ ms := by
  cases lvl <;> exact List.mem_of_find?_eq_some h

theorem fieldByKey_ideal (lvl : Level) (fs : List Field) (k : Bytes) :
    fieldByKey Engine.ideal lvl fs k =
      (match lvl with
       | .type => findIdx (fun f => f.name == k) fs
       | .repr => findIdx (fun f => f.rename == k) fs) := by
  cases lvl
  · rfl
  · unfold fieldByKey
    cases findIdx (fun f => f.rename == k) fs <;> rfl

theorem fieldByKey_ideal_getElem {lvl : Level} {fs : List Field} {k : Bytes} {i : Nat} {f : Field}
    (h : fieldByKey Engine.ideal lvl fs k = some (i, f)) : fs[i]? = some f := by
  rw [fieldByKey_ideal] at h
  cases lvl <;> exact (findIdx_some h).1

theorem fieldByKey_ideal_fieldFor (lvl : Level) (fs : List Field) (k : Bytes) :
    (fieldByKey Engine.ideal lvl fs k).map (·.2) = fieldFor lvl fs k := by
  rw [fieldByKey_ideal]
  cases lvl <;> dsimp only [fieldFor]
  all_goals
    generalize hq : findIdx _ fs = q
    cases q with
    | none => exact (findIdx_none.1 hq).symm
    | some r => exact (findIdx_some hq).2.2.symm

theorem memberByKey_ideal (lvl : Level) (ms : List Member) (k : Bytes) :
    memberByKey Engine.ideal lvl ms k = memberFor lvl ms k := by
  cases lvl
  · rfl
  · unfold memberByKey memberFor
    cases ms.find? (fun m => m.disc == k) <;> rfl

end Schema
end Ipld

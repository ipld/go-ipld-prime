/-
  Plans on the typed machine: the machine meets `Mach.PlanCalls` (`planCalls`), so every plan ends where the copy ends
  (`Mach.plan_runs`, `Mach.planList_runs`, `Mach.planKVs_runs` of `CopyPlan`); here that is composed with what the copy
  delivers (`putList_spec`, `putKVs_map_spec`, `putKVs_struct_ok` of `TypedAssemblerNode`) for the plans of an open
  list, map or struct frame.  The whole-tree statement (`putNode_spec` with `Mach.plan_runs`) is Props/C01typed's.
-/
import IpldModel.Lemmas.TypedAssemblerNode
import IpldModel.Lemmas.CopyPlan
namespace Ipld
namespace TAsm
open Ipld.Asm (Op Out ErrClass Plan PlanList PlanKVs)
open Ipld.Schema (Ty Fields Field TL TLs TLKVs canonFields conforms conformsList conformsMap conformsStruct
  normalize normalizeList normalizeMap normalizeStruct)

theorem stepPrim_hint (e : Engine) (s : St) (n m : Int) :
    stepPrim e s (.beginList n) = stepPrim e s (.beginList m) ∧
    stepPrim e s (.beginMap n) = stepPrim e s (.beginMap m) := by
  cases hp : pos s with
  | value t nul => simp only [stepPrim_at_value hp]; exact ⟨rfl, rfl⟩
  | key => simp only [stepPrim_at_key hp]; exact ⟨rfl, rfl⟩
  | errAsm => simp only [stepPrim_at_errAsm hp]; exact ⟨rfl, rfl⟩
  | other => cases shape_of_pos hp <;> exact ⟨rfl, rfl⟩

/-- `AssembleEntry(k)` is `AssembleKey().AssignString(k)` followed by `AssembleValue()` -/
theorem assembleEntry_of_key {e : Engine} (he : e.keyAsmDupMapKey = false) {s s1 s2 s3 : St} {k : Bytes}
    (h1 : stepPrim e s .assembleKey = (s1, .ok)) (h2 : stepPrim e s1 (.assign (.str k)) = (s2, .ok))
    (h3 : stepPrim e s2 .assembleValue = (s3, .ok)) : stepPrim e s (.assembleEntry k) = (s3, .ok) := by
  obtain ⟨T, fr, r, tt⟩ := s1
  rcases (keyed e).key h1 with ⟨vty, vnul, es, rest, hf, rfl⟩ | ⟨fs, es, rest, hf, rfl⟩ <;> (simp only at hf; subst hf)
  · -- a typed map: the key assembler accepted `k`, so no entry has it
    simp only [stepPrim, keyPrim, supplyKey, he, Bool.not_false, Bool.and_true] at h2 ⊢
    split at h2
    · cases h2
    · rename_i hk
      cases h2; cases h3; simp [hk]
  · -- a struct: `k` is no field and the engine takes it all the same, or a field without its value
    simp only [stepPrim, keyPrim, supplyKey] at h2 ⊢
    split at h2
    · split at h2
      · cases h2
      · rename_i hu
        cases h2; cases h3; simp [hu]
    · split at h2
      · cases h2
      · rename_i hk
        cases h2; cases h3; simp [hk]

theorem planCalls {e : Engine} (he : e.keyAsmDupMapKey = false) : (mach e).PlanCalls where
  tainted_prim s op := (stepPrim_hdr e s op).2
  hint := stepPrim_hint e
  entry := assembleEntry_of_key he

theorem tplanList_runs {e : Engine} (he : e.keyAsmDupMapKey = false) :
    (ys : DMs) → (ops : List Op) → PlanList ys ops → (T : Ty) → (ety : Ty) → (enul : Bool) → (xs : List TL) →
    (rest : List Frame) → (r : Option TL) → plain ety = true →
    (conformsList ety enul (TLs.ofDMs ys) && int64sL ys) = true →
    Runs e ⟨T, .list ety enul xs false :: rest, r, false⟩ ops
      ⟨T, .list ety enul (xs ++ (normalizeList ety (TLs.ofDMs ys)).toList) false :: rest, r, false⟩ :=
  fun ys _ hp T ety enul xs rest r hpl hc => runs_iff_mach.2 (Mach.planList_runs (planCalls he) hp _ _ rfl
    ((putList_eq e ys _).symm.trans ((putList_spec he ys T ety enul xs rest r false hpl).1 hc)))

theorem tplanKVs_map_runs {e : Engine} (he : e.keyAsmDupMapKey = false) :
    (kvs : DMKVs) → (ops : List Op) → PlanKVs kvs ops → (T : Ty) → (vty : Ty) → (vnul : Bool) →
    (es : List (Bytes × TL)) → (seen : List Bytes) → (rest : List Frame) → (r : Option TL) → plain vty = true →
    SeenIs seen es → (conformsMap vty vnul seen (TLKVs.ofDMKVs kvs) && int64sM kvs) = true →
    Runs e ⟨T, .map vty vnul es .init :: rest, r, false⟩ ops
      ⟨T, .map vty vnul (es ++ (normalizeMap vty (TLKVs.ofDMKVs kvs)).toList) .init :: rest, r, false⟩ :=
  fun kvs _ hp T vty vnul es seen rest r hpl hseen hc => runs_iff_mach.2 (Mach.planKVs_runs (planCalls he) hp _ _ rfl
    ((putKVs_eq e kvs _).symm.trans ((putKVs_map_spec he kvs T vty vnul es seen rest r false hpl hseen).1 hc)))

theorem tplanKVs_struct_runs {e : Engine} (he : e.keyAsmDupMapKey = false) :
    (kvs : DMKVs) → (ops : List Op) → PlanKVs kvs ops → (T : Ty) → (fs : List Field) →
    (es : List (Bytes × TL)) → (seen : List Bytes) → (rest : List Frame) → (r : Option TL) →
    (∀ f ∈ fs, plain f.ty = true) → SeenIs seen es →
    (conformsStruct fs seen (TLKVs.ofDMKVs kvs) && int64sM kvs) = true →
    Runs e ⟨T, .struct fs es .init :: rest, r, false⟩ ops
      ⟨T, .struct fs (es ++ (normalizeStruct fs (TLKVs.ofDMKVs kvs)).toList) .init :: rest, r, false⟩ ∧
    fs.all (fun f => f.opt || hasKey (es ++ (normalizeStruct fs (TLKVs.ofDMKVs kvs)).toList) f.name) = true :=
  fun kvs _ hp T fs es seen rest r hpl hseen hc =>
    have h := putKVs_struct_ok he kvs T fs es seen rest r hpl hseen hc
    ⟨runs_iff_mach.2 (Mach.planKVs_runs (planCalls he) hp _ _ rfl ((putKVs_eq e kvs _).symm.trans h.1)), h.2⟩

end TAsm
end Ipld

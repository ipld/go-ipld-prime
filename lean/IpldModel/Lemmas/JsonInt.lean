/-
  Decimal integer round trip (strconv.AppendInt / ParseInt base 10 as modelled in `Model/JsonText`):
  `parseInt (emitInt i) = some i`.  DESIGN §13.3 C04.
-/
import IpldModel.Model.JsonText
namespace Ipld
namespace Json

/-- the step function of `parseNatDigits` -/
def natDigitStep (acc : Nat) (d : UInt8) : Option Nat :=
  if 48 ≤ d.toNat ∧ d.toNat ≤ 57 then some (acc * 10 + (d.toNat - 48)) else none

theorem toNat_ofNat_digit (d : Nat) (h : d < 10) : (UInt8.ofNat (48 + d)).toNat = 48 + d := by
  rw [UInt8.toNat_ofNat']
  exact Nat.mod_eq_of_lt (Nat.lt_of_lt_of_le (Nat.add_lt_add_left h 48) (by decide))

theorem ofNat_digit_range (d : Nat) (h : d < 10) :
    48 ≤ (UInt8.ofNat (48 + d)).toNat ∧ (UInt8.ofNat (48 + d)).toNat ≤ 57 := by
  rw [toNat_ofNat_digit d h]
  exact ⟨Nat.le_add_right _ _, Nat.add_le_add_left (Nat.le_of_lt_succ h) 48⟩

theorem natDigitStep_digit (acc d : Nat) (h : d < 10) :
    natDigitStep acc (UInt8.ofNat (48 + d)) = some (acc * 10 + d) := by
  unfold natDigitStep
  rw [if_pos (ofNat_digit_range d h), toNat_ofNat_digit d h, Nat.add_sub_cancel_left]

theorem natDigits_ne_nil (fuel n : Nat) : natDigits (fuel + 1) n ≠ [] := by
  unfold natDigits
  split
  · exact List.cons_ne_nil _ _
  · exact fun e => List.cons_ne_nil _ _ (List.append_eq_nil_iff.mp e).2

theorem natDigits_foldlM : ∀ (fuel n : Nat), n < fuel →
    (natDigits fuel n).foldlM natDigitStep 0 = some n
  | 0, _, h => absurd h (Nat.not_lt_zero _)
  | fuel + 1, n, h => by
    unfold natDigits
    split
    · rename_i h10
      rw [List.foldlM_cons, natDigitStep_digit 0 n h10, Nat.zero_mul, Nat.zero_add]
      rfl
    · rename_i h10
      have hpos : 0 < n := Nat.lt_of_lt_of_le (by decide) (Nat.le_of_not_lt h10)
      rw [List.foldlM_append, natDigits_foldlM fuel (n / 10)
        (Nat.lt_of_lt_of_le (Nat.div_lt_self hpos (by decide)) (Nat.le_of_lt_succ h)),
        Option.bind_eq_bind, Option.bind_some, List.foldlM_cons,
        natDigitStep_digit (n / 10) (n % 10) (Nat.mod_lt n (by decide)), Nat.div_add_mod']
      rfl

theorem natDigits_all_digit : ∀ (fuel n : Nat) (d : UInt8), d ∈ natDigits fuel n →
    48 ≤ d.toNat ∧ d.toNat ≤ 57
  | 0, _, d, h => nomatch h
  | fuel + 1, n, d, h => by
    unfold natDigits at h
    split at h
    · rename_i h10
      cases List.mem_singleton.mp h
      exact ofNat_digit_range n h10
    · rcases List.mem_append.mp h with h | h
      · exact natDigits_all_digit fuel (n / 10) d h
      · cases List.mem_singleton.mp h
        exact ofNat_digit_range (n % 10) (Nat.mod_lt n (by decide))

theorem parseNatDigits_emitNat (n : Nat) : parseNatDigits (emitNat n) = some n := by
  have hf := natDigits_foldlM (n + 1) n (Nat.lt_succ_self n)
  unfold emitNat parseNatDigits
  split
  · rename_i heq; exact absurd heq (natDigits_ne_nil n n)
  · exact hf

theorem parseInt_emitNat (n : Nat) : parseInt (emitNat n) = some (n : Int) := by
  unfold parseInt
  split
  · rename_i ds heq
    have := natDigits_all_digit (n + 1) n 0x2d (by unfold emitNat at heq; rw [heq]; exact List.mem_cons_self)
    exact absurd this.1 (by decide)
  · rw [parseNatDigits_emitNat]; rfl

theorem parseInt_emitInt (i : Int) : parseInt (emitInt i) = some i := by
  unfold emitInt
  split
  · rename_i hneg
    show (parseNatDigits (emitNat (-i).toNat)).map (fun n => -(n : Int)) = some i
    rw [parseNatDigits_emitNat]
    show some (-((-i).toNat : Int)) = some i
    rw [Int.toNat_of_nonneg (Int.neg_nonneg_of_nonpos (Int.le_of_lt hneg)), Int.neg_neg]
  · rename_i hnn
    rw [parseInt_emitNat, Int.toNat_of_nonneg (Int.not_lt.mp hnn)]

end Json
end Ipld

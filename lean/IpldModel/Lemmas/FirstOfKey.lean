/-
  Lists read by a key.  The first element that passes a test yields the value of any element that passes, when all of
  those agree on it: among distinct keys a key finds its own element; under a write-once key (C17: puts, C18: writers)
  the first entry holds the contents.
-/
namespace Ipld

theorem find?_agree {α β : Type} {p : α → Bool} (val : α → β) {l : List α}
    (h : ∀ x ∈ l, ∀ y ∈ l, p x = true → p y = true → val x = val y) {x : α} (hx : x ∈ l) (hp : p x = true) :
    (l.find? p).map val = some (val x) := by
  cases hf : l.find? p with
  | none => exact absurd hp (by simpa using List.find?_eq_none.1 hf x hx)
  | some y => rw [Option.map_some, h y (List.mem_of_find?_eq_some hf) x hx (List.find?_some hf) hp]

theorem find?_key_agree {α κ β : Type} [DecidableEq κ] (key : α → κ) (val : α → β) {l : List α}
    (h : ∀ x ∈ l, ∀ y ∈ l, key x = key y → val x = val y) {k : κ} {x : α} (hx : x ∈ l) (hk : key x = k) :
    (l.find? fun y => key y = k).map val = some (val x) :=
  find?_agree val (fun a ha b hb pa pb => h a ha b hb ((of_decide_eq_true pa).trans (of_decide_eq_true pb).symm)) hx
    (decide_eq_true hk)

theorem eq_of_key_eq {α κ : Type} (key : α → κ) {l : List α} (hnd : (l.map key).Nodup) {a b : α} (ha : a ∈ l)
    (hb : b ∈ l) : key a = key b → a = b :=
  have h := List.pairwise_map.1 hnd
  List.Pairwise.forall_of_forall_of_flip (R := fun a b => key a = key b → a = b) (fun _ _ _ => rfl)
    (h.imp fun h e => absurd e h) (h.imp fun h e => absurd e.symm h) ha hb

theorem find?_key_of_mem {α κ : Type} [BEq κ] [LawfulBEq κ] (key : α → κ) {l : List α} (hnd : (l.map key).Nodup)
    (a : α) (ha : a ∈ l) : l.find? (fun x => key x == key a) = some a := by
  have := find?_agree (p := fun x => key x == key a) id
    (fun x hx y hy px py => eq_of_key_eq key hnd hx hy ((eq_of_beq px).trans (eq_of_beq py).symm)) ha
    (beq_self_eq_true _)
  rwa [Option.map_id_fun, id] at this

/-- the same where the key is compared by `decide (· = ·)`: `==` of `instBEqOfDecidableEq` unfolds to it -/
theorem find?_key_of_mem_decide {α κ : Type} [DecidableEq κ] (key : α → κ) {l : List α} (hnd : (l.map key).Nodup)
    {a : α} (ha : a ∈ l) : l.find? (fun x => decide (key x = key a)) = some a :=
  @find?_key_of_mem α κ instBEqOfDecidableEq inferInstance key l hnd a ha

theorem lookup_eq_find? {κ β : Type} [BEq κ] [LawfulBEq κ] (l : List (κ × β)) (k : κ) :
    l.lookup k = (l.find? (fun e => e.1 == k)).map (·.2) := by
  induction l with
  | nil => rfl
  | cons e l ih =>
    obtain ⟨a, b⟩ := e
    rw [List.lookup_cons, List.find?_cons, ih, BEq.comm]
    cases a == k <;> rfl

theorem mem_of_find?_key {κ β : Type} [BEq κ] [LawfulBEq κ] {l : List (κ × β)} {k : κ} {v : β}
    (h : (l.find? (fun e => e.1 == k)).map (·.2) = some v) : (k, v) ∈ l := by
  obtain ⟨e, hf, rfl⟩ := Option.map_eq_some_iff.1 h
  have hk : (e.1 == k) = true := List.find?_some (p := fun e : κ × β => e.1 == k) hf
  exact eq_of_beq hk ▸ List.mem_of_find?_eq_some hf

end Ipld

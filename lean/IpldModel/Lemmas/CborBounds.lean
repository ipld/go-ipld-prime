/-
  Resource bounds of the DAG-CBOR decoder model, for every configuration (C10): one post-condition of a decoded
  item (`ItemPost`: input consumed, budget charged exactly, depth under the cap) carried through the list and map
  loops; fuel above the input length is irrelevant because every item consumes input.
-/
import IpldModel.Lemmas.CborDecSound
namespace Ipld
namespace Cbor
open Spec

theorem budget_chain {a b c x y : Int} (h1 : a - b = x) (h2 : b - c = y) : a - c = x + y := by omega

theorem entry_chain {a b c e x y : Int} (h1 : a - e - b = x) (h2 : b - c = y) : a - c = e + x + y := by omega

theorem coll_chain {B e n b c : Int} (h : B - e - n - b = c) : B - b = e + (n + c) := by omega

theorem two_entries {a n b c k d : Nat} (h1 : a + 2 * n ≤ b) (h2 : b < c) (h3 : c + k < d) : a + 2 * (n + 1) ≤ d := by
  omega

/-- What a successful item decoder has done: consumed input, stayed within the budget and paid `extra + cost v` of it
    exactly, and kept the value within the depth limit when it started within it. -/
def ItemPost (cfg : DecCfg) (depth : Nat) (extra : Int) (s : DS) (v : DM) (s' : DS) : Prop :=
  s'.rest.length < s.rest.length ∧ 0 ≤ s'.budget ∧ s.budget - s'.budget = extra + cost v ∧
    (depth ≤ cfg.maxDepth → depth + v.depth ≤ cfg.maxDepth)

def ItemBounded (cfg : DecCfg) (depth : Nat) (extra : Int) (item : DS → R (DM × DS)) : Prop :=
  ∀ ⦃s v s'⦄, item s = .ok (v, s') → ItemPost cfg depth extra s v s'

theorem ofList_depth_cons (x : DM) (xs : List DM) :
    (DMs.ofList (x :: xs)).depth = max x.depth (DMs.ofList xs).depth := by
  simp only [DMs.ofList, DMs.depth]

/-- `ItemPost` summed over the `n` elements of a list. -/
theorem decList_bounds {cfg : DecCfg} {depth : Nat} {item : DS → R (DM × DS)}
    (hitem : ItemBounded cfg depth 4 item) {n : Nat} {s : DS} {xs : List DM} {s' : DS}
    (h : decList item n s = .ok (xs, s')) :
    xs.length = n ∧ s'.rest.length + xs.length ≤ s.rest.length ∧ (0 ≤ s.budget → 0 ≤ s'.budget) ∧
      s.budget - s'.budget = costList (DMs.ofList xs) ∧
      (depth ≤ cfg.maxDepth → depth + (DMs.ofList xs).depth ≤ cfg.maxDepth) :=
  decList_ind (P := fun s xs s' => s'.rest.length + xs.length ≤ s.rest.length ∧ (0 ≤ s.budget → 0 ≤ s'.budget) ∧
      s.budget - s'.budget = costList (DMs.ofList xs) ∧
      (depth ≤ cfg.maxDepth → depth + (DMs.ofList xs).depth ≤ cfg.maxDepth))
    (fun s => ⟨Nat.le_refl _, id, Int.sub_self _, id⟩)
    (fun h1 ⟨restLen, restNonneg, restCharge, restDepth⟩ => by
      obtain ⟨xLen, xNonneg, xCharge, xDepth⟩ := hitem h1
      exact ⟨Nat.le_trans (Nat.succ_le_succ restLen) xLen, fun _ => restNonneg xNonneg, budget_chain xCharge restCharge,
        fun hd => add_max_le_iff.mpr ⟨xDepth hd, restDepth hd⟩⟩) h

/-- `ItemPost` summed over the `n` entries of a map; an entry also takes its key's bytes and charge. -/
theorem decMap_bounds {cfg : DecCfg} {depth : Nat} {item : DS → R (DM × DS)}
    (hitem : ItemBounded cfg depth 0 item) {n : Nat} {seen : List Bytes} {s : DS} {es : List (Bytes × DM)} {s' : DS}
    (h : decMap cfg item n seen s = .ok (es, s')) :
    es.length = n ∧ s'.rest.length + 2 * es.length ≤ s.rest.length ∧ (0 ≤ s.budget → 0 ≤ s'.budget) ∧
      s.budget - s'.budget = costKVs (DMKVs.ofList es) ∧
      (depth ≤ cfg.maxDepth → depth + (DMKVs.ofList es).depth ≤ cfg.maxDepth) :=
  decMap_ind (P := fun _ s es s' => s'.rest.length + 2 * es.length ≤ s.rest.length ∧
      (0 ≤ s.budget → 0 ≤ s'.budget) ∧ s.budget - s'.budget = costKVs (DMKVs.ofList es) ∧
      (depth ≤ cfg.maxDepth → depth + (DMKVs.ofList es).depth ≤ cfg.maxDepth))
    (fun _ s => ⟨Nat.le_refl _, id, Int.sub_self _, id⟩)
    (fun h1 _ h5 ⟨restLen, restNonneg, restCharge, restDepth⟩ => by
      obtain ⟨keyLen, keyBudget⟩ := decKey_len h1
      obtain ⟨vLen, vNonneg, vCharge, vDepth⟩ := hitem h5
      rw [Int.zero_add] at vCharge
      exact ⟨two_entries restLen vLen keyLen, fun _ => restNonneg vNonneg, keyBudget ▸ entry_chain vCharge restCharge,
        fun hd => add_max_le_iff.mpr ⟨vDepth hd, restDepth hd⟩⟩) h

theorem afterTok_post {cfg : DecCfg} {fuel depth : Nat} {extra : Int} {tag : Option Nat} {B : Int} {r : Bytes} {v : DM}
    {s' : DS} {t : Tok} (hw : t.Wf tag)
    (ih : ∀ d e tg, ItemBounded cfg d e (decItem cfg fuel d e tg))
    (h : afterTok cfg fuel depth extra tag B t r = .ok (v, s')) :
    s'.rest.length ≤ r.length ∧ 0 ≤ s'.budget ∧ B - s'.budget = extra + cost v ∧
      (depth ≤ cfg.maxDepth → depth + v.depth ≤ cfg.maxDepth) := by
  cases t with
  | scalar w c =>
    obtain ⟨_, rfl, hr, h0, hb⟩ := finish_eq_ok h
    exact ⟨Nat.le_of_eq (congrArg _ hr), h0, hw.2 ▸ hb, hw.1 ▸ id⟩
  | bytes p n =>
    obtain ⟨rfl, h0, hv⟩ := afterTok_bytes_ok h
    obtain ⟨hl, _⟩ := hw
    refine ⟨Nat.le_refl _, h0, ?_, ?_⟩
    · rcases hv with ⟨_, rfl⟩ | ⟨_, c, rfl, _, rfl⟩ <;> (subst hl; show B - (B - extra - _) = extra + _; simp only [cost, List.length_cons]; omega)
    · rcases hv with ⟨_, rfl⟩ | ⟨_, c, _, _, rfl⟩ <;> exact id
  | list n =>
    simp only [afterTok] at h
    obtain ⟨_, hdep, hle, h⟩ := decColl_ok h
    obtain ⟨⟨xs, s2⟩, h7, h8⟩ := bind_ok h
    injection h8 with h8; injection h8 with ha hb; subst ha hb
    obtain ⟨count, len, nonneg, charge, dep⟩ := decList_bounds (ih _ _ _) h7
    refine ⟨Nat.le_trans (Nat.le_add_right _ _) len, nonneg (Int.sub_nonneg_of_le hle), ?_,
      fun _ => Nat.add_right_comm depth 1 _ ▸ dep hdep⟩
    show B - s2.budget = extra + (((DMs.ofList xs).length : Int) + _)
    rw [DMs.length, DMs.toList_ofList, count]
    exact coll_chain charge
  | map n =>
    simp only [afterTok] at h
    obtain ⟨_, hdep, hle, h⟩ := decColl_ok h
    obtain ⟨⟨es, s2⟩, h7, h8⟩ := bind_ok h
    injection h8 with h8; injection h8 with ha hb; subst ha hb
    obtain ⟨count, len, nonneg, charge, dep⟩ := decMap_bounds (ih _ _ _) h7
    refine ⟨Nat.le_trans (Nat.le_add_right _ _) len, nonneg (Int.sub_nonneg_of_le hle), ?_,
      fun _ => Nat.add_right_comm depth 1 _ ▸ dep hdep⟩
    show B - s2.budget = extra + (((DMKVs.ofList es).length : Int) + _)
    rw [DMKVs.length, DMKVs.toList_ofList, count]
    exact coll_chain charge
  | tag t =>
    obtain ⟨len, rest⟩ := ih _ _ _ h
    exact ⟨Nat.le_of_lt len, rest⟩

theorem decItem_bounds (cfg : DecCfg) : ∀ (fuel depth : Nat) (extra : Int) (tag : Option Nat),
    ItemBounded cfg depth extra (decItem cfg fuel depth extra tag) := by
  intro fuel
  induction fuel with
  | zero => intro depth extra tag s v s' h; rw [decItem_zero] at h; cases h
  | succ fuel ih =>
    intro depth extra tag ⟨bs, B⟩ v s' h
    rw [decItem_eq] at h
    obtain ⟨⟨t, r⟩, h1, h2⟩ := bind_ok h
    obtain ⟨_, _, _, hw, _⟩ := nextTok_ok h1
    obtain ⟨p1, p⟩ := afterTok_post hw ih h2
    exact ⟨Nat.lt_of_le_of_lt p1 (nextTok_len h1), p⟩

mutual
theorem size_le_cost : (v : DM) → (v.size : Int) ≤ cost v + 1
  | .null | .bool _ | .int _ | .float _ | .str _ | .bytes _ | .link _ => Int.le_add_of_nonneg_left (cost_nonneg _)
  | .list xs => by have := sizeList_le_cost xs; simp only [DM.size, cost]; omega
  | .map es => by have := sizeKVs_le_cost es; simp only [DM.size, cost]; omega
theorem sizeList_le_cost : (xs : DMs) → (xs.size : Int) ≤ costList xs
  | .nil => Int.le_refl 0
  | .cons x xs => by
    have := size_le_cost x; have := sizeList_le_cost xs; simp only [DMs.size, costList]; omega
theorem sizeKVs_le_cost : (es : DMKVs) → (es.size : Int) ≤ costKVs es
  | .nil => Int.le_refl 0
  | .cons k v es => by
    have := size_le_cost v; have := sizeKVs_le_cost es; simp only [DMKVs.size, costKVs]; omega
end

mutual
/-- Total payload the value carries: bytes of every string, byte string, link (CID + multibase byte)
    and map key. -/
def payload : DM → Nat
  | .str s => s.length
  | .bytes b => b.length
  | .link c => c.length + 1
  | .list xs => payloadList xs
  | .map es => payloadKVs es
  | _ => 0
def payloadList : DMs → Nat
  | .nil => 0
  | .cons x xs => payload x + payloadList xs
def payloadKVs : DMKVs → Nat
  | .nil => 0
  | .cons k v es => k.length + payload v + payloadKVs es
end

mutual
theorem payload_le_cost : (v : DM) → (payload v : Int) ≤ cost v
  | .null | .bool _ | .int _ | .float _ => cost_nonneg _
  | .str _ | .bytes _ | .link _ => Int.le_refl _
  | .list xs => by have := payloadList_le_cost xs; simp only [payload, cost]; omega
  | .map es => by have := payloadKVs_le_cost es; simp only [payload, cost]; omega
theorem payloadList_le_cost : (xs : DMs) → (payloadList xs : Int) ≤ costList xs
  | .nil => Int.le_refl 0
  | .cons x xs => by
    have := payload_le_cost x; have := payloadList_le_cost xs; simp only [payloadList, costList]; omega
theorem payloadKVs_le_cost : (es : DMKVs) → (payloadKVs es : Int) ≤ costKVs es
  | .nil => Int.le_refl 0
  | .cons k v es => by
    have := payload_le_cost v; have := payloadKVs_le_cost es; simp only [payloadKVs, costKVs]; omega
end

/-- Two runs of the item decoder, under configurations that differ at most in `negWrap` and with any two amounts
    of fuel above the input length, have related outcomes if their tokenizers have. -/
theorem decItem_rel {Rel : ∀ {α : Type}, R α → R α → Prop} (hR : Congr Rel) {cfg' cfg : DecCfg}
    (hr : cfg'.relaxed = cfg.relaxed) (hl : cfg'.allowLinks = cfg.allowLinks) (hd : cfg'.maxDepth = cfg.maxDepth)
    (htok : ∀ tag bs, Rel (nextTok cfg' tag bs) (nextTok cfg tag bs)) :
    ∀ {fuel fuel' depth : Nat} {extra : Int} {tag : Option Nat} {s : DS},
      s.rest.length < fuel → s.rest.length < fuel' →
      Rel (decItem cfg' fuel' depth extra tag s) (decItem cfg fuel depth extra tag s) := by
  intro fuel
  induction fuel with
  | zero => intro fuel' depth extra tag s h; exact absurd h (Nat.not_lt_zero _)
  | succ fuel ih =>
    intro fuel' depth extra tag ⟨bs, B⟩ hf hf'
    obtain ⟨fuel', rfl⟩ := Nat.exists_eq_add_one_of_ne_zero (Nat.ne_of_gt (Nat.lt_of_le_of_lt (Nat.zero_le _) hf'))
    rw [decItem_eq, decItem_eq]
    refine hR.bind (htok _ _) fun ⟨t, r⟩ ht => ?_
    have hlen := nextTok_len ht
    have hr1 : r.length < fuel := Nat.lt_of_lt_of_le hlen (Nat.le_of_lt_succ hf)
    have hr' : r.length < fuel' := Nat.lt_of_lt_of_le hlen (Nat.le_of_lt_succ hf')
    have nested : ∀ d e s, s.rest.length ≤ r.length →
        Rel (decItem cfg' fuel' d e none s) (decItem cfg fuel d e none s) :=
      fun d e s hs => ih (Nat.lt_of_le_of_lt hs hr1) (Nat.lt_of_le_of_lt hs hr')
    -- only lists, maps and tags have nested items
    cases t with
    | scalar w c => exact hR.refl _
    | bytes p n => simp only [afterTok, linkGate]; rw [hl]; exact hR.refl _
    | list n =>
      refine decColl_rel hR hd fun b => hR.bind ?_ fun _ _ => hR.refl _
      exact decList_rel hR r.length (nested _ _)
        (fun _ _ _ hh => (decItem_bounds cfg fuel (depth + 1) 4 none hh).1) n _ (Nat.le_refl _)
    | map n =>
      refine decColl_rel hR hd fun b => hR.bind ?_ fun _ _ => hR.refl _
      exact decMap_rel hR r.length (nested _ _)
        (fun _ _ _ hh => (decItem_bounds cfg fuel (depth + 1) 0 none hh).1) hr n _ _ (Nat.le_refl _)
    | tag t => exact ih hr1 hr'

theorem decItem_fuel_irrel (cfg : DecCfg) (fuel fuel' depth : Nat) (extra : Int) (tag : Option Nat) (s : DS)
    (h : s.rest.length < fuel) (h' : s.rest.length < fuel') :
    decItem cfg fuel depth extra tag s = decItem cfg fuel' depth extra tag s :=
  decItem_rel Congr.eq rfl rfl rfl (fun _ _ => rfl) h' h

end Cbor
end Ipld

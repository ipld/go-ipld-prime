/-
  When the hypothesis of the walk / transform comparison holds at every position the walk reaches: selectors without
  explicit interests, explore-everything selectors, and a decidable sufficient condition (`alignedFrom`; `Explore`
  reads a segment only through its text and index, `explore_congr`, so `alignB` may compare those).
-/
import IpldModel.Lemmas.WalkTransformSim
import IpldModel.Lemmas.WalkDenote
namespace Ipld
namespace WalkT
open Sel Walk Spec

theorem align_refl (n : DM) (s : S) (l : List (Seg × DM)) (h : ∀ b ∈ l, attended (interests s) b.1 = true) :
    Align n s l l := by
  induction l with
  | nil => exact .nil
  | cons b l ih =>
    exact .both rfl rfl (h b (List.mem_cons_self ..)) rfl (ih fun x hx => h x (List.mem_cons_of_mem _ hx))

/-- a selector without explicit interests: both loops run over the node's own children -/
theorem alignedAt_of_noInterests {s : S} {n : DM} (h : interests s = none) : AlignedAt n s := by
  unfold AlignedAt
  rw [h]
  exact align_refl n s _ (fun b _ => by rw [h]; rfl)

/-- a selector with an empty interest list (a matcher, a bare edge): neither loop does anything -/
theorem alignedAt_of_emptyInterests {s : S} {n : DM} (h : interests s = some []) : AlignedAt n s := by
  unfold AlignedAt
  rw [h]
  simp only [List.filterMap_nil]
  generalize children n = l
  induction l with
  | nil => exact .nil
  | cons b l ih => exact .passT (Or.inl (by rw [h]; rfl)) ih

mutual
theorem decide_of_match : ∀ (s : S) (n m : DM), matchNode s n = some m → decideNode s n = true
  | .matcher _, _, _, _ => rfl
  | .union ms, n, m, h => decideList_of_match ms n m h
  | .recursive _ cur _ _, n, m, h => decide_of_match cur n m h
  | .all _, _, _, h => by cases h
  | .fields _, _, _, h => by cases h
  | .index _ _, _, _, h => by cases h
  | .range _ _ _, _, _, h => by cases h
  | .edge, _, _, h => by cases h
  | .interpretAs _ _, _, _, h => by cases h
theorem decideList_of_match : ∀ (ms : SList) (n m : DM), matchList ms n = some m → decideList ms n = true
  | .nil, _, _, h => by cases h
  | .cons s r, n, m, h => by
    unfold matchList at h
    show (decideNode s n || decideList r n) = true
    rw [Bool.or_eq_true]
    cases hm : matchNode s n with
    | some m' => exact Or.inl (decide_of_match s n m' hm)
    | none => rw [hm] at h; exact Or.inr (decideList_of_match r n m h)
end

theorem plainMatch_of_matchesAll {s : S} {n : DM} (h : matchNode s n = some n) : PlainMatch s n := by
  unfold PlainMatch
  rw [decide_of_match s n n h, h]
  rfl

theorem reach_exploresAll {cfg : Cfg} {root : DM} {s0 : S} (hs : ExploresAll s0) {path : Path} {n : DM} {s : S}
    (h : Reach cfg root s0 path n s) : s = s0 := by
  induction h with
  | root => rfl
  | child _ _ hx _ ih =>
    subst ih
    rw [hs.exploreSelf] at hx
    cases hx; rfl
  | link _ _ hx _ _ ih =>
    subst ih
    rw [hs.exploreSelf] at hx
    cases hx; rfl

theorem aligned_of_exploresAll {cfg : Cfg} {root : DM} {s0 : S} (hs : ExploresAll s0) :
    ∀ path n s, Reach cfg root s0 path n s → AlignedAt n s ∧ PlainMatch s n := by
  intro path n s h
  have := reach_exploresAll hs h
  subst this
  exact ⟨alignedAt_of_noInterests hs.noInterests, plainMatch_of_matchesAll (hs.matchesAll n)⟩

theorem exploreList_congr {a b : Seg} (h1 : a.toString = b.toString) (h2 : a.index = b.index) :
    ∀ (ms : SList) (n : DM), exploreList ms n a = exploreList ms n b :=
  Sel.exploreList_congr h1 h2

def exploresNil (s : S) (n : DM) (p : Seg) : Bool :=
  match explore s n p with
  | .ok none => true
  | _ => false

theorem exploresNil_iff {s : S} {n : DM} {p : Seg} : exploresNil s n p = true ↔ explore s n p = .ok none := by
  unfold exploresNil
  split
  · rename_i h; exact ⟨fun _ => h, fun _ => rfl⟩
  · rename_i h
    constructor
    · intro h'; cases h'
    · intro h'; exact absurd h' (h)

/-- greedy pairing of the walk's list with the transform's; `fuel` at least the sum of the lengths plus one -/
def alignB (n : DM) (s : S) : Nat → List (Seg × DM) → List (Seg × DM) → Bool
  | 0, _, _ => false
  | _ + 1, [], [] => true
  | fuel + 1, a :: lw, [] => exploresNil s n a.1 && alignB n s fuel lw []
  | fuel + 1, lw, b :: lt =>
    if !attended (interests s) b.1 || exploresNil s n b.1 then alignB n s fuel lw lt
    else match lw with
      | [] => false
      | a :: lw' =>
        if exploresNil s n a.1 then alignB n s fuel lw' (b :: lt)
        else a.1.toString == b.1.toString && a.1.index == b.1.index && a.2 == b.2 && alignB n s fuel lw' lt

theorem alignB_sound (n : DM) (s : S) (fuel : Nat) : ∀ (lw lt : List (Seg × DM)),
    alignB n s fuel lw lt = true → Align n s lw lt := by
  induction fuel with
  | zero => intro lw lt h; cases h
  | succ fuel ih =>
    intro lw lt h
    cases lt with
    | nil =>
      cases lw with
      | nil => exact .nil
      | cons a lw =>
        simp only [alignB, Bool.and_eq_true] at h
        exact .passW (exploresNil_iff.1 h.1) (ih lw [] h.2)
    | cons b lt =>
      cases lw with
      | nil =>
        simp only [alignB] at h
        split at h
        · rename_i hc
          simp only [Bool.or_eq_true, Bool.not_eq_true'] at hc
          exact .passT (hc.imp id exploresNil_iff.1) (ih [] lt h)
        · cases h
      | cons a lw =>
        simp only [alignB] at h
        split at h
        · rename_i hc
          simp only [Bool.or_eq_true, Bool.not_eq_true'] at hc
          exact .passT (hc.imp id exploresNil_iff.1) (ih (a :: lw) lt h)
        · rename_i hc
          simp only [Bool.or_eq_true, Bool.not_eq_true', not_or, Bool.not_eq_false] at hc
          split at h
          · rename_i ha
            exact .passW (exploresNil_iff.1 ha) (ih lw (b :: lt) h)
          · simp only [Bool.and_eq_true, beq_iff_eq] at h
            obtain ⟨⟨⟨h1, h2⟩, h3⟩, h4⟩ := h
            exact .both h1 h3 hc.1 (explore_congr h1 h2 s n) (ih lw lt h4)

def plainMatchB (s : S) (n : DM) : Bool := matchNode s n == if decideNode s n then some n else none

/-- the hypothesis of the comparison, checked position by position from `(n, s)` to depth `d` -/
def alignedFrom (cfg : Cfg) : Nat → DM → S → Bool
  | 0, _, _ => false
  | d + 1, n, s =>
    plainMatchB s n &&
    alignB n s ((childList n s).length + (children n).length + 1) (childList n s) (children n) &&
    (childList n s).all fun x =>
      match explore s n x.1 with
      | .ok (some sNext) =>
        match x.2 with
        | .link c =>
          cfg.skip.contains c ||
            match storeGet cfg.store c with
            | none => true
            | some blk => alignedFrom cfg d blk sNext
        | v => alignedFrom cfg d v sNext
      | _ => true

theorem alignedFrom_here {cfg : Cfg} {d : Nat} {n : DM} {s : S} (h : alignedFrom cfg d n s = true) :
    AlignedAt n s ∧ PlainMatch s n := by
  cases d with
  | zero => cases h
  | succ d =>
    simp only [alignedFrom, Bool.and_eq_true] at h
    exact ⟨alignedAt_iff.2 (alignB_sound n s _ _ _ h.1.2), eq_of_beq h.1.1⟩

theorem alignedFrom_entered {cfg : Cfg} {d : Nat} {n : DM} {s : S} (h : alignedFrom cfg (d + 1) n s = true)
    {ps : Seg} {v : DM} {sNext : S} : (ps, v) ∈ childList n s → explore s n ps = .ok (some sNext) →
    (match v with
      | .link c => cfg.skip.contains c ||
          match storeGet cfg.store c with
          | none => true
          | some blk => alignedFrom cfg d blk sNext
      | v => alignedFrom cfg d v sNext) = true := by
  intro hm hx
  rw [alignedFrom, Bool.and_eq_true, List.all_eq_true] at h
  have := h.2 (ps, v) hm
  simp only [hx] at this
  exact this

theorem alignedFrom_reach {cfg : Cfg} {root : DM} {s0 : S} {d : Nat} (h0 : alignedFrom cfg d root s0 = true)
    {path : Path} {n : DM} {s : S} (h : Reach cfg root s0 path n s) : ∃ d', alignedFrom cfg d' n s = true := by
  induction h with
  | root => exact ⟨d, h0⟩
  | @child path n s ps v sNext _ hm hx hnl ih =>
    obtain ⟨_ | d', hd⟩ := ih
    · cases hd
    · have := alignedFrom_entered hd hm hx
      split at this
      · exact absurd rfl (hnl _)
      · exact ⟨d', this⟩
  | @link path n s ps c blk sNext _ hm hx hs hk ih =>
    obtain ⟨_ | d', hd⟩ := ih
    · cases hd
    · have := alignedFrom_entered hd hm hx
      simp only [hs, hk, Bool.false_or] at this
      exact ⟨d', this⟩

end WalkT
end Ipld

/-
  The canonical encoding of an encodable value denotes its canonical form, and therefore decodes
  back to it:  `decode (enc v) = canon v`.
-/
import IpldModel.Lemmas.CborEnc
import IpldModel.Lemmas.CborDecComplete
import IpldModel.Lemmas.CborMeasures
namespace Ipld
namespace Cbor
open Spec

mutual
theorem denotes_encOrdered : (v : DM) → v.NoDup → encodable dagcborEnc v = true → finiteFloats v →
    Denotes v (encOrdered v)
  | .null, _, _, _ => by simp only [Denotes, encOrdered]; exact Or.inl trivial
  | .bool true, _, _, _ | .bool false, _, _, _ => by simp only [Denotes, encOrdered]; rfl
  | .int i, _, he, _ => by
    simp only [encodable] at he
    have he := of_decide_eq_true he
    simp only [intInRange] at he
    simp only [Denotes, encOrdered]
    by_cases h : 0 ≤ i
    · rw [if_pos h]; exact Or.inl ⟨h, he.2, rfl⟩
    · rw [if_neg h]; exact Or.inr ⟨by omega, he.1, rfl⟩
  | .float f, _, _, hf => by
    simp only [finiteFloats] at hf
    simp only [Denotes, encOrdered, FloatBytes]
    exact ⟨hf, Or.inl trivial⟩
  | .str _, _, _, _ | .bytes _, _, _, _ => by simp only [Denotes, encOrdered]
  | .link c, _, he, _ => by
    simp only [encodable, Bool.and_eq_true] at he
    simp only [Denotes, encOrdered]
    exact ⟨he.2, trivial⟩
  | .list xs, hn, he, hf => by
    simp only [DM.NoDup] at hn
    simp only [encodable] at he
    simp only [finiteFloats] at hf
    simp only [Denotes, encOrdered]
    exact ⟨_, rfl, denotesList_encOrdered xs hn he hf⟩
  | .map es, hn, he, hf => by
    simp only [DM.NoDup] at hn
    simp only [encodable] at he
    simp only [finiteFloats] at hf
    simp only [Denotes, encOrdered]
    exact ⟨hn.1, _, rfl, denotesKVs_encOrdered es hn.2 he hf⟩
theorem denotesList_encOrdered : (xs : DMs) → xs.NoDup → encodableList dagcborEnc xs = true →
    finiteFloatsList xs → DenotesList xs (encOrderedList xs)
  | .nil, _, _, _ => by simp only [DenotesList, encOrderedList]
  | .cons x xs, hn, he, hf => by
    simp only [DMs.NoDup] at hn
    simp only [encodableList, Bool.and_eq_true] at he
    simp only [finiteFloatsList] at hf
    simp only [DenotesList, encOrderedList]
    exact ⟨_, _, rfl, denotes_encOrdered x hn.1 he.1 hf.1, denotesList_encOrdered xs hn.2 he.2 hf.2⟩
theorem denotesKVs_encOrdered : (es : DMKVs) → es.NoDupVals → encodableKVs dagcborEnc es = true →
    finiteFloatsKVs es → DenotesKVs es (encOrderedKVs es)
  | .nil, _, _, _ => by simp only [DenotesKVs, encOrderedKVs]
  | .cons k v es, hn, he, hf => by
    simp only [DMKVs.NoDupVals] at hn
    simp only [encodableKVs, Bool.and_eq_true] at he
    simp only [finiteFloatsKVs] at hf
    simp only [DenotesKVs, encOrderedKVs]
    exact ⟨_, _, List.append_assoc _ _ _, denotes_encOrdered v hn.1 he.1 hf.1,
      denotesKVs_encOrdered es hn.2 he.2 hf.2⟩
end

theorem decode_enc_canon (cfg : DecCfg) (v : DM) : v.NoDup → encodable dagcborEnc v = true →
    finiteFloats v → WithinLimits cfg (canon v) → cfg.budget < 2 ^ 63 →
    decode cfg (enc dagcborEnc v) = .ok (canon v) := by
  intro hn he hf hl hB
  rw [enc_eq_canon v hn]
  exact decode_of_denotes cfg (canon v) (canonEncode v)
    (denotes_encOrdered (canon v) ((noDup_orderBlind.canonBy canonCbor v).mpr hn) (((encodable_orderBlind _).canonBy canonCbor v).trans he)
      ((finiteFloats_orderBlind.canonBy canonCbor v).mpr hf)) hl hB

theorem decode_encode_aux' (cfg : DecCfg) (v : DM) (hn : v.NoDup) (he : encodable dagcborEnc v = true)
    (hf : finiteFloats v) (hl : WithinLimits cfg v) (hB : cfg.budget < 2 ^ 63) :
    decode cfg (enc dagcborEnc v) = .ok (canon v) :=
  decode_enc_canon cfg v hn he hf ((withinLimits_canon cfg v).mpr hl) hB

end Cbor
end Ipld

/-
  `normalize`: the normal form of a conforming value conforms; a value that has a representation is
  its own normal form.
-/
import IpldModel.Lemmas.SchemaValues
namespace Ipld
namespace Schema

theorem normalizeStruct_keys (F : List Field) : (es : TLKVs) →
    (normalizeStruct F es).toList.map (·.1) = es.toList.map (·.1)
  | .nil => rfl
  | .cons k _ es => congrArg (k :: ·) (normalizeStruct_keys F es)

theorem conformsStruct_canonFields (F : List Field) (hnd : (F.map (·.name)).Nodup)
    (L : List (Bytes × TL))
    (hL : FieldVals F L)
    (hreq : ∀ f ∈ F, f.opt = true ∨ f.name ∈ L.map (·.1)) :
    conformsStruct F [] (TLKVs.ofList (canonFields F L)) = true := by
  refine conformsStruct_canon F hnd F [] [] _ rfl (fun k => ⟨nofun, nofun⟩)
    (entriesOK_map _ F fun f hf => ?_)
  cases hfind : L.find? (fun e => e.1 == f.name) with
  | none =>
    refine ⟨rfl, (hreq f hf).resolve_right fun hin => ?_⟩
    obtain ⟨e, he, hek⟩ := List.mem_map.1 hin
    exact List.find?_eq_none.1 hfind e he (beq_iff_eq.2 hek)
  | some e =>
    refine ⟨rfl, ?_⟩
    obtain ⟨f', hf', hv'⟩ := hL e (List.mem_of_find?_eq_some hfind)
    have hk := List.find?_some hfind
    rw [eq_of_beq hk, find?_key_of_mem (·.name) hnd f hf] at hf'
    cases hf'
    exact hv'

theorem normalize_any (v : TL) : normalize .any v = v := by
  cases v <;> rfl

theorem normalize_scalar (ty : Ty) (v : TL) (h1 : ∀ xs, v ≠ .list xs) (h2 : ∀ es, v ≠ .map es) :
    normalize ty v = v := by
  cases v with
  | list xs => exact absurd rfl (h1 xs)
  | map es => exact absurd rfl (h2 es)
  | _ => rfl

mutual
theorem conforms_normalize {v : TL} {ty : Ty} {nul : Bool} (hwf : ty.wf = true)
    (h : conforms ty nul v = true) : conforms ty nul (normalize ty v) = true := by
  cases v with
  | list xs =>
    unfold normalize
    split
    · next ety enul => exact conformsList_normalize xs ety enul hwf h
    · exact h
  | map es =>
    unfold normalize
    split
    · next vty vnul => exact conformsMap_normalize es vty vnul hwf [] h
    · next fs sr =>
      have hw := wf_struct hwf
      refine conformsStruct_canonFields fs.toList hw.2.1 _
        (conformsStruct_entries es fs.toList hw.1 [] h) fun f hf => ?_
      rw [normalizeStruct_keys]
      exact ((conformsStruct_iff.1 h).2.2.2 f hf).imp_right fun h' => h'.resolve_left nofun
    · next ms ur =>
      have hw := wf_union hwf
      cases es with
      | nil => exact h
      | cons k v es =>
        cases es with
        | cons _ _ _ => exact h
        | nil =>
          simp only [conforms] at h
          split at h
          · next m hm =>
            simp only [conforms, hm]
            exact conforms_normalize (hw.1 m (List.mem_of_find?_eq_some hm)) h
          · cases h
    · exact h
  | _ => exact h
theorem conformsList_normalize : (xs : TLs) → (ety : Ty) → (enul : Bool) → ety.wf = true →
    conformsList ety enul xs = true → conformsList ety enul (normalizeList ety xs) = true := by
  intro xs ety enul hwf h
  cases xs with
  | nil => rfl
  | cons x xs =>
    have h := Bool.and_eq_true_iff.1 h
    exact Bool.and_eq_true_iff.2
      ⟨conforms_normalize hwf h.1, conformsList_normalize xs ety enul hwf h.2⟩
theorem conformsMap_normalize : (es : TLKVs) → (vty : Ty) → (vnul : Bool) → vty.wf = true →
    (seen : List Bytes) → conformsMap vty vnul seen es = true →
    conformsMap vty vnul seen (normalizeMap vty es) = true := by
  intro es vty vnul hwf seen h
  cases es with
  | nil => rfl
  | cons k x xs =>
    have h := Bool.and_eq_true_iff.1 h
    have h1 := Bool.and_eq_true_iff.1 h.1
    exact Bool.and_eq_true_iff.2
      ⟨Bool.and_eq_true_iff.2 ⟨h1.1, conforms_normalize hwf h1.2⟩,
        conformsMap_normalize xs vty vnul hwf (k :: seen) h.2⟩
theorem conformsStruct_entries : (es : TLKVs) → (F : List Field) → (∀ f ∈ F, f.ty.wf = true) →
    (seen : List Bytes) → conformsStruct F seen es = true →
    ∀ e ∈ (normalizeStruct F es).toList,
      ∃ f, F.find? (fun f => f.name == e.1) = some f ∧ fieldValOK f e.2 = true := by
  intro es F hwf seen h e he
  cases es with
  | nil => nomatch he
  | cons k v es =>
    rw [conformsStruct_cons] at h
    split at h
    · cases h
    · next f hf =>
      have h := Bool.and_eq_true_iff.1 h
      rcases List.mem_cons.1 he with rfl | he
      · refine ⟨f, hf, ?_⟩
        simp only [hf]
        have h1 := (Bool.and_eq_true_iff.1 h.1).2
        by_cases hva : v = .absent
        · subst hva
          exact h1
        · rw [fieldValOK_ne_absent f hva] at h1
          exact fieldValOK_of_conforms (conforms_normalize (hwf f (List.mem_of_find?_eq_some hf)) h1)
      · exact conformsStruct_entries es F hwf (k :: seen) h.2 e he
end

/-- Position by position: the keys being distinct, the entry at a position is the one its own key finds. -/
theorem canonFields_self (F : List Field) (L : List (Bytes × TL)) (hk : L.map (·.1) = F.map (·.name))
    (hnd : (F.map (·.name)).Nodup) : canonFields F L = L := by
  refine List.ext_getElem? fun i => ?_
  have hi := congrArg (·[i]?) hk
  simp only [List.getElem?_map] at hi
  rw [canonFields, List.getElem?_map]
  cases hL : L[i]? with
  | none => rw [hL] at hi; rw [Option.map_eq_none_iff.1 hi.symm]; rfl
  | some e =>
    obtain ⟨k, v⟩ := e
    rw [hL] at hi
    obtain ⟨f, hF, hf⟩ := Option.map_eq_some_iff.1 hi.symm
    have hfind : L.find? (fun e => e.1 == k) = some (k, v) :=
      find?_key_of_mem (·.1) (hk ▸ hnd) (k, v) (List.mem_of_getElem? hL)
    rw [hF, Option.map_some, (hf : f.name = k), hfind]

mutual
theorem normalize_of_repr {v : TL} {ty : Ty} {nul : Bool} (hwf : ty.wf = true) {d : DM}
    (h : toRepr ty nul v = some d) : normalize ty v = v := by
  cases v with
  | list xs =>
    unfold normalize
    split
    · next ety enul =>
      obtain ⟨ys, hys, _⟩ := Option.map_eq_some_iff.1 h
      rw [normList_of_repr xs ety enul hwf ys hys]
    · rfl
  | map es =>
    unfold normalize
    split
    · next vty vnul =>
      obtain ⟨ys, hys, _⟩ := Option.map_eq_some_iff.1 h
      rw [normMap_of_repr es vty vnul hwf ys hys]
    · next fs sr =>
      have hw := wf_struct hwf
      simp only [toRepr] at h
      split at h
      · cases h
      · next vals hv =>
        rw [normStruct_of_repr es fs.toList hw.1 hw.2.1 fs.toList (fun _ h => h) vals hv,
          canonFields_self fs.toList es.toList (reprFields_keys _ _ _ hv) hw.2.1,
          TLKVs.ofList_toList]
    · next ms ur =>
      have hw := wf_union hwf
      cases es with
      | nil => rfl
      | cons k v es =>
        cases es with
        | cons _ _ _ => rfl
        | nil =>
          simp only [toRepr] at h
          split at h
          · cases h
          · next m hm =>
            split at h
            · cases h
            · next d0 hd0 =>
              simp only [hm, normalize_of_repr (hw.1 m (List.mem_of_find?_eq_some hm)) hd0]
    · rfl
  | _ => rfl
theorem normList_of_repr : (xs : TLs) → (ety : Ty) → (enul : Bool) → ety.wf = true → (ys : List DM) →
    reprList ety enul xs = some ys → normalizeList ety xs = xs := by
  intro xs ety enul hwf ys h
  cases xs with
  | nil => rfl
  | cons x xs =>
    unfold reprList at h
    split at h
    · next d ds hd hds =>
      rw [normalizeList, normalize_of_repr hwf hd, normList_of_repr xs ety enul hwf ds hds]
    · cases h
theorem normMap_of_repr : (es : TLKVs) → (vty : Ty) → (vnul : Bool) → vty.wf = true →
    (ys : List (Bytes × DM)) → reprMap vty vnul es = some ys → normalizeMap vty es = es := by
  intro es vty vnul hwf ys h
  cases es with
  | nil => rfl
  | cons k x xs =>
    unfold reprMap at h
    split at h
    · next d ds hd hds =>
      rw [normalizeMap, normalize_of_repr hwf hd, normMap_of_repr xs vty vnul hwf ds hds]
    · cases h
theorem normStruct_of_repr : (es : TLKVs) → (F : List Field) → (∀ f ∈ F, f.ty.wf = true) →
    (F.map (·.name)).Nodup → (suf : List Field) → (∀ f ∈ suf, f ∈ F) → (vals : List (Option DM)) →
    reprFields suf es = some vals → normalizeStruct F es = es := by
  intro es F hwf hnd suf hsub vals h
  cases es with
  | nil => rfl
  | cons k v es =>
    cases suf with
    | nil => nomatch h
    | cons f suf =>
      obtain ⟨hk, vals', hv', h2⟩ := reprFields_cons_inv h
      subst hk
      have hfF : f ∈ F := hsub f List.mem_cons_self
      rw [normalizeStruct, find?_key_of_mem (·.name) hnd f hfF,
        normStruct_of_repr es F hwf hnd suf (fun f' hf' => hsub f' (List.mem_cons_of_mem f hf')) vals' hv']
      rcases h2 with ⟨rfl, _, _⟩ | ⟨_, d, hd, _⟩
      · rfl
      · exact congrArg (TLKVs.cons f.name · es) (normalize_of_repr (hwf f hfF) hd)
end

end Schema
end Ipld

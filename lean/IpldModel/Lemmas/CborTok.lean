/-
  The item decoder un-fused: refmt's tokenizer (`nextTok`: no budget, depth or fuel) followed by `unmarshal`'s
  step on the token (`afterTok`).  Both restate parts of the body of `decItem`; `decItem_eq` is the tie, and with
  `decItem_zero` the only place where `decItem` is unfolded.
-/
import IpldModel.Lemmas.CborDecItem
import IpldModel.Lemmas.CborFloat
namespace Ipld
namespace Cbor
open Spec

/-- What the tokenizer hands to `unmarshal` for one step: a complete scalar (with what it is charged), a byte
    string (with its declared length), the opening of a list or a map of `n` entries, or a tag. -/
inductive Tok where
  | scalar (w : DM) (c : Int)
  | bytes (p : Bytes) (n : Nat)
  | list (n : Nat)
  | map (n : Nat)
  | tag (t : Nat)

def strBody (n : Nat) (r : Bytes) : R (Bytes × Bytes) :=
  if n > 33554432 then .error .oversized else take? n r

/-- The token that a head of major type `m ≤ 6` with argument `n` announces; `r` follows the head. -/
def headTok (cfg : DecCfg) (m n : Nat) (r : Bytes) : R (Tok × Bytes) :=
  match m with
  | 0 => .ok (.scalar (.int n) 1, r)
  | 1 =>
    let pos := if cfg.negWrap then (n + 1) % 18446744073709551616 else n + 1
    if pos > 9223372036854775808 then .error .negOverflow else .ok (.scalar (.int (-(pos : Int))) 1, r)
  | 2 => strBody n r >>= fun p => pure (.bytes p.1 n, p.2)
  | 3 => strBody n r >>= fun p => pure (.scalar (.str p.1) n, p.2)
  | 4 => .ok (.list n, r)
  | 5 => .ok (.map n, r)
  | _ => .ok (.tag n, r)

/-- Unless `n + 1` wraps (it does for `n = 2^64 - 1` alone, and only with `negWrap` on), the token after a
    negative-integer head does not depend on the switch. -/
theorem headTok_nint (cfg : DecCfg) {n : Nat} (h : cfg.negWrap = false ∨ n + 1 < 18446744073709551616) (r : Bytes) :
    headTok cfg 1 n r =
      if n + 1 > 9223372036854775808 then .error .negOverflow else .ok (.scalar (.int (-((n + 1 : Nat) : Int))) 1, r) := by
  have e : (if cfg.negWrap then (n + 1) % 18446744073709551616 else n + 1) = n + 1 := by
    rcases h with h | h
    · rw [h]; rfl
    · split
      · exact Nat.mod_eq_of_lt h
      · rfl
  simp only [headTok, e]

/-- One token.  The pending tag matters only in that a second tag is refused before its argument is read. -/
def nextTok (cfg : DecCfg) (tag : Option Nat) : Bytes → R (Tok × Bytes)
  | [] => .error .eof
  | b0 :: rest =>
    let b := b0.toNat
    let strict := !cfg.relaxed
    if b = 0xf6 ∨ b = 0xf7 then .ok (.scalar .null 0, rest)
    else if b = 0xf4 then .ok (.scalar (.bool false) 1, rest)
    else if b = 0xf5 then .ok (.scalar (.bool true) 1, rest)
    else if b = 0xf9 then do
      let (a, r) ← take? 2 rest
      let v ← checkFloat strict (f16to64 (beVal a))
      pure (.scalar v 1, r)
    else if b = 0xfa then do
      let (a, r) ← take? 4 rest
      let v ← checkFloat strict (f32to64 (beVal a))
      pure (.scalar v 1, r)
    else if b = 0xfb then do
      let (a, r) ← take? 8 rest
      let v ← checkFloat strict (beVal a)
      pure (.scalar v 1, r)
    else if b = 0x5f ∨ b = 0x7f ∨ b = 0x9f ∨ b = 0xbf then .error .indefinite
    else if b / 32 = 7 then .error .badInfo
    else if b / 32 = 6 ∧ tag ≠ none then .error .multiTag
    else readHead strict (b / 32) (b % 32) rest >>= fun p => headTok cfg (b / 32) p.1 p.2

/-- A byte string that is paid for: plain, or under tag 42 a link. -/
def linkGate (cfg : DecCfg) (tag : Option Nat) (p : Bytes) (s' : DS) : R (DM × DS) :=
  match tag with
  | none => pure (.bytes p, s')
  | some t =>
    if t ≠ 42 then .error .badTag
    else if !cfg.allowLinks then .error .linksDisabled
    else match p with
      | 0 :: cid => if cidValid cid then pure (.link cid, s') else .error .badCid
      | _ => .error .badMultibase

/-- What `unmarshal` does with a token; `r` is the input after it. -/
def afterTok (cfg : DecCfg) (fuel depth : Nat) (extra : Int) (tag : Option Nat) (B : Int) : Tok → Bytes → R (DM × DS)
  | .scalar w c, r => finish tag extra c w ⟨r, B⟩
  | .bytes p n, r => do
    let s0 ← charge ⟨r, B⟩ extra
    let s' ← charge s0 n
    linkGate cfg tag p s'
  | .list n, r => decColl cfg depth extra tag n r B fun s1 => do
    let (xs, s2) ← decList (decItem cfg fuel (depth + 1) 4 none) n s1
    pure (.list (DMs.ofList xs), s2)
  | .map n, r => decColl cfg depth extra tag n r B fun s1 => do
    let (es, s2) ← decMap cfg (decItem cfg fuel (depth + 1) 0 none) n [] s1
    pure (.map (DMKVs.ofList es), s2)
  | .tag t, r => decItem cfg fuel depth extra (some t) ⟨r, B⟩

/-- `decItem` is the tokenizer followed by `unmarshal`'s step: with the binds of the right-hand side re-associated,
    the first byte's cases agree as they stand; the major types are gone through one by one. -/
theorem decItem_eq (cfg : DecCfg) (fuel depth : Nat) (extra : Int) (tag : Option Nat) (bs : Bytes) (B : Int) :
    decItem cfg (fuel + 1) depth extra tag ⟨bs, B⟩ =
      nextTok cfg tag bs >>= fun p => afterTok cfg fuel depth extra tag B p.1 p.2 := by
  cases bs with
  | nil => rfl
  | cons b0 rest =>
    rw [decItem, nextTok]
    dsimp only
    simp only [ite_bind, bind_assoc, error_bind, ok_bind]
    have same : ∀ {c : Prop} [Decidable c] {x y y' : R (DM × DS)}, y = y' → (if c then x else y) = if c then x else y' :=
      fun h => h ▸ rfl
    refine same (same (same (same (same (same (same ?_))))))
    have hm : b0.toNat / 32 ≤ 7 := Nat.le_of_lt_succ ((Nat.div_lt_iff_lt_mul (by decide)).mpr b0.toNat_lt)
    generalize b0.toNat % 32 = info
    generalize b0.toNat / 32 = m at hm
    have tl : ∀ {z y : R (DM × DS)}, ¬ m = 7 → ¬ (m = 6 ∧ tag ≠ none) → z = y →
        z = if m = 7 then .error .badInfo else if m = 6 ∧ tag ≠ none then .error .multiTag else y :=
      fun h1 h2 h => by rw [if_neg h1, if_neg h2]; exact h
    refine ite_cases (fun h => ?m0) fun n0 => ite_cases (fun h => ?m1) fun n1 => ite_cases (fun h => ?m2) fun n2 =>
      ite_cases (fun h => ?m3) fun n3 => ite_cases (fun h => ?m4) fun n4 => ite_cases (fun h => ?m5) fun n5 =>
      ite_cases (fun h => ?m6) fun n6 => ?m7
    case m0 => subst h; exact tl (by decide) (fun h => absurd h.1 (by decide)) rfl
    case m1 =>
      subst h; refine tl (by decide) (fun h => absurd h.1 (by decide)) ?_
      simp only [headTok, ite_bind, error_bind, ok_bind]; rfl
    case m2 =>
      subst h; refine tl (by decide) (fun h => absurd h.1 (by decide)) ?_
      simp only [headTok, strBody, ite_bind, bind_assoc, error_bind]; rfl
    case m3 =>
      subst h; refine tl (by decide) (fun h => absurd h.1 (by decide)) ?_
      simp only [headTok, strBody, ite_bind, bind_assoc, error_bind]; rfl
    case m4 => subst h; exact tl (by decide) (fun h => absurd h.1 (by decide)) rfl
    case m5 => subst h; exact tl (by decide) (fun h => absurd h.1 (by decide)) rfl
    case m6 =>
      subst h
      cases tag with
      | some t => rfl
      | none => exact tl (by decide) (fun h => absurd h.2 (by decide)) rfl
    case m7 =>
      rcases Nat.lt_or_eq_of_le hm with h | rfl
      · rcases le_six (Nat.le_of_lt_succ h) with rfl | rfl | rfl | rfl | rfl | rfl | rfl <;> contradiction
      · rfl

theorem decItem_tok {cfg : DecCfg} {fuel depth : Nat} {extra : Int} {tag : Option Nat} {bs r : Bytes} {B : Int} {t : Tok}
    (h : nextTok cfg tag bs = .ok (t, r)) :
    decItem cfg (fuel + 1) depth extra tag ⟨bs, B⟩ = afterTok cfg fuel depth extra tag B t r := by
  rw [decItem_eq, h, ok_bind]

/-- What a token is, whatever its spelling: a scalar is a leaf charged what it costs; a byte string has
    its declared length, under the cap; counts and tags are Go `int`s; no tag is read while one is pending. -/
def Tok.Wf (tag : Option Nat) : Tok → Prop
  | .scalar w c => w.depth = 0 ∧ cost w = c
  | .bytes p n => p.length = n ∧ n ≤ 33554432
  | .list n | .map n => n < 2 ^ 63
  | .tag n => n < 2 ^ 63 ∧ tag = none

/-- The one spelling the Spec allows for a token: for a scalar what `Denotes` says, else the shortest head
    (for a byte string followed by its bytes). -/
def Tok.Spelt : Tok → Bytes → Prop
  | .scalar w _, b => Denotes w b
  | .bytes p _, b => b = shortestHead 2 p.length ++ p
  | .list n, b => b = shortestHead 4 n
  | .map n, b => b = shortestHead 5 n
  | .tag t, b => b = shortestHead 6 t

theorem strBody_ok {n : Nat} {r p r' : Bytes} (h : strBody n r = .ok (p, r')) :
    r = p ++ r' ∧ p.length = n ∧ n ≤ 33554432 := by
  unfold strBody at h
  split at h
  · cases h
  · obtain ⟨e, hl⟩ := take?_ok h
    exact ⟨e, hl, Nat.le_of_not_lt ‹_›⟩

theorem strBody_append (p r : Bytes) (hp : p.length ≤ 33554432) : strBody p.length (p ++ r) = .ok (p, r) := by
  unfold strBody
  rw [if_neg (Nat.not_lt_of_le hp), take?_append]

theorem floatBytes64 (a : Bytes) (ha : a.length = 8) : beVal a < 2 ^ 64 ∧ FloatBytes (beVal a) (0xfb :: a) := by
  have hlt : beVal a < 256 ^ 8 := ha ▸ beVal_lt a
  exact ⟨hlt, .inl (by rw [spec_be_eq, ← ha, beBytes_beVal])⟩

theorem floatBytes32 (a : Bytes) (ha : a.length = 4) :
    f32to64 (beVal a) < 2 ^ 64 ∧ FloatBytes (f32to64 (beVal a)) (0xfa :: a) := by
  have hlt : beVal a < 256 ^ 4 := ha ▸ beVal_lt a
  exact ⟨f32to64_lt _ hlt, .inr (.inl ⟨_, hlt, rfl, by rw [spec_be_eq, ← ha, beBytes_beVal]⟩)⟩

theorem floatBytes16 (a : Bytes) (ha : a.length = 2) :
    f16to64 (beVal a) < 2 ^ 64 ∧ FloatBytes (f16to64 (beVal a)) (0xf9 :: a) := by
  have hlt : beVal a < 256 ^ 2 := ha ▸ beVal_lt a
  exact ⟨f16to64_lt _ hlt, .inr (.inr ⟨_, hlt, rfl, by rw [spec_be_eq, ← ha, beBytes_beVal]⟩)⟩

/-- The conclusion of `nextTok_ok` in the form in which it is assembled branch by branch: a token read after the
    bytes `hd` took the bytes `a` that follow, is well formed, and in strict mode (with the wrap-around of negative
    integers off) `hd ++ a` is its one spelling. -/
def TokPost (cfg : DecCfg) (tg : Option Nat) (hd rest : Bytes) (t : Tok) (r : Bytes) : Prop :=
  ∃ a, rest = a ++ r ∧ t.Wf tg ∧ (cfg.relaxed = false → cfg.negWrap = false → t.Spelt (hd ++ a))

theorem TokPost.of_ok {cfg : DecCfg} {tg : Option Nat} {hd rest r : Bytes} {t' t : Tok}
    (e : (Except.ok (t', rest) : R (Tok × Bytes)) = .ok (t, r)) (hw : t'.Wf tg)
    (hs : cfg.relaxed = false → cfg.negWrap = false → t'.Spelt hd) : TokPost cfg tg hd rest t r := by
  injection e with e; injection e with e1 e2; subst e1 e2
  exact ⟨[], rfl, hw, fun hr hn => (List.append_nil hd).symm ▸ hs hr hn⟩

theorem float_tok {cfg : DecCfg} {tg : Option Nat} {b0 x0 : UInt8} (hb : b0.toNat = x0.toNat) {k : Nat} {g : Nat → Nat}
    (fb : ∀ a : Bytes, a.length = k → g (beVal a) < 2 ^ 64 ∧ FloatBytes (g (beVal a)) (x0 :: a))
    {rest r : Bytes} {t : Tok}
    (h : (do let (a, r) ← take? k rest
             let v ← checkFloat (!cfg.relaxed) (g (beVal a))
             pure (Tok.scalar v 1, r)) = .ok (t, r)) : TokPost cfg tg [b0] rest t r := by
  obtain ⟨⟨a, r1⟩, h1, h2⟩ := bind_ok h
  obtain ⟨w, h3, h4⟩ := bind_ok h2
  obtain ⟨e, hl⟩ := take?_ok h1
  obtain ⟨rfl, hfin⟩ := checkFloat_ok h3
  obtain ⟨hlt, hfb⟩ := fb a hl
  injection h4 with h4; injection h4 with e1 e2; subst e1 e2
  refine ⟨a, e, ⟨rfl, rfl⟩, fun hr _ => ?_⟩
  simp only [Tok.Spelt, Denotes, UInt64.toNat_ofNat', Nat.mod_eq_of_lt hlt]
  exact ⟨hfin (by rw [hr]; rfl), UInt8.toNat_inj.mp hb ▸ hfb⟩

theorem headTok_ok {cfg : DecCfg} {tg : Option Nat} {m n : Nat} {r1 r : Bytes} {t : Tok} (hm : m ≤ 6) (hl : 2 ≤ m → n < 2 ^ 63)
    (hn : n < 2 ^ 64) (htg : m = 6 → tg = none) (h : headTok cfg m n r1 = .ok (t, r)) :
    TokPost cfg tg (shortestHead m n) r1 t r := by
  have str : ∀ {mk : Bytes → Tok}, (strBody n r1 >>= fun p => pure (mk p.1, p.2)) = .ok (t, r) →
      ∃ p, r1 = p ++ r ∧ p.length = n ∧ n ≤ 33554432 ∧ t = mk p := by
    intro mk h
    obtain ⟨⟨p, r2⟩, h3, h4⟩ := bind_ok h
    obtain ⟨e, hl, hc⟩ := strBody_ok h3
    injection h4 with h4; injection h4 with e1 e2; subst e1 e2
    exact ⟨p, e, hl, hc, rfl⟩
  rcases le_six hm with rfl | rfl | rfl | rfl | rfl | rfl | rfl
  · exact .of_ok h ⟨rfl, rfl⟩ fun _ _ => Or.inl ⟨Int.natCast_nonneg n, Int.ofNat_lt.mpr hn, by rw [Int.toNat_natCast]⟩
  · refine ite_ok h (fun _ h => nomatch h) fun hp h => .of_ok h ⟨rfl, rfl⟩ fun _ hw => ?_
    simp only [hw, Bool.false_eq_true, if_false] at hp ⊢
    refine Or.inr ⟨by omega, by omega, ?_⟩
    have : (-1 - -((n + 1 : Nat) : Int)).toNat = n := by omega
    rw [this]
  · obtain ⟨p, e, hl, hc, rfl⟩ := str (mk := fun p => Tok.bytes p n) h
    exact ⟨p, e, ⟨hl, hc⟩, fun _ _ => by rw [← hl]; rfl⟩
  · obtain ⟨p, e, hl, hc, rfl⟩ := str (mk := fun p => Tok.scalar (.str p) n) h
    exact ⟨p, e, ⟨rfl, congrArg Int.ofNat hl⟩, fun _ _ => by rw [← hl]; rfl⟩
  · exact .of_ok h (hl (by decide)) fun _ _ => rfl
  · exact .of_ok h (hl (by decide)) fun _ _ => rfl
  · exact .of_ok h ⟨hl (by decide), htg rfl⟩ fun _ _ => rfl

theorem nextTok_ok {cfg : DecCfg} {tg : Option Nat} {bs r : Bytes} {t : Tok} (h : nextTok cfg tg bs = .ok (t, r)) :
    ∃ b1, bs = b1 ++ r ∧ 1 ≤ b1.length ∧ t.Wf tg ∧ (cfg.relaxed = false → cfg.negWrap = false → t.Spelt b1) := by
  cases bs with
  | nil => cases h
  | cons b0 rest =>
    suffices TokPost cfg tg [b0] rest t r by
      obtain ⟨a, e, hw, hs⟩ := this
      exact ⟨b0 :: a, by rw [e, List.cons_append], Nat.succ_le_succ (Nat.zero_le _), hw, hs⟩
    rw [nextTok] at h
    dsimp only at h
    refine ite_ok h (fun c h => TokPost.of_ok h ⟨rfl, rfl⟩ fun _ _ =>
      c.imp (fun c => congrArg (· :: []) ((UInt8.toNat_inj (b := 0xf6)).mp c)) fun c => congrArg (· :: []) ((UInt8.toNat_inj (b := 0xf7)).mp c))
      fun _ h => ?_
    refine ite_ok h (fun c h => TokPost.of_ok h ⟨rfl, rfl⟩ fun _ _ =>
      congrArg (· :: []) ((UInt8.toNat_inj (b := 0xf4)).mp c)) fun _ h => ?_
    refine ite_ok h (fun c h => TokPost.of_ok h ⟨rfl, rfl⟩ fun _ _ =>
      congrArg (· :: []) ((UInt8.toNat_inj (b := 0xf5)).mp c)) fun _ h => ?_
    refine ite_ok h (fun c h => float_tok (x0 := 0xf9) c floatBytes16 h) fun _ h => ?_
    refine ite_ok h (fun c h => float_tok (x0 := 0xfa) c floatBytes32 h) fun _ h => ?_
    refine ite_ok h (fun c h => float_tok (x0 := 0xfb) (g := fun x => x) c floatBytes64 h) fun _ h => ?_
    refine ite_ok h (fun _ h => nomatch h) fun _ h => ?_
    refine ite_ok h (fun _ h => nomatch h) fun m7 h => ?_
    refine ite_ok h (fun _ h => nomatch h) fun mt h => ?_
    obtain ⟨⟨n, r1⟩, h1, h2⟩ := bind_ok h
    obtain ⟨a, e, hn, hl, hs⟩ := readHead_ok h1
    have hm : b0.toNat / 32 ≤ 6 := by have := b0.toNat_lt; omega
    obtain ⟨p, e', hw, hsp⟩ := headTok_ok (tg := tg) hm hl hn
      (fun m6 => Decidable.not_not.mp fun htg => mt ⟨m6, htg⟩) h2
    refine ⟨a ++ p, by rw [e, show r1 = p ++ r from e', List.append_assoc], hw, fun hr hw' => ?_⟩
    obtain ⟨hi, rfl⟩ := hs (by rw [hr]; rfl)
    show t.Spelt ((b0 :: headArg n) ++ p)
    rw [head_recon b0 n hi]
    exact hsp hr hw'

theorem nextTok_len {cfg : DecCfg} {tg : Option Nat} {bs r : Bytes} {t : Tok} (h : nextTok cfg tg bs = .ok (t, r)) :
    r.length < bs.length := by
  obtain ⟨b1, rfl, hl, _⟩ := nextTok_ok h
  rw [List.length_append]
  exact Nat.lt_add_of_pos_left hl

theorem nextTok_major (cfg : DecCfg) {tg : Option Nat} {b0 : UInt8} {rest : Bytes} (hm : b0.toNat / 32 ≤ 6)
    (hi : ¬ (b0.toNat = 0x5f ∨ b0.toNat = 0x7f ∨ b0.toNat = 0x9f ∨ b0.toNat = 0xbf)) :
    nextTok cfg tg (b0 :: rest) =
      if b0.toNat / 32 = 6 ∧ tg ≠ none then .error .multiTag
      else readHead (!cfg.relaxed) (b0.toNat / 32) (b0.toNat % 32) rest >>= fun p => headTok cfg (b0.toNat / 32) p.1 p.2 := by
  rw [nextTok]
  dsimp only
  -- such a first byte is below 0xe0
  have hb : b0.toNat < 7 * 32 := (Nat.div_lt_iff_lt_mul (by decide)).mp (Nat.lt_succ_of_le hm)
  have ne : ∀ x : Nat, 7 * 32 ≤ x → ¬ b0.toNat = x := fun x hx e => Nat.lt_irrefl _ (Nat.lt_of_lt_of_le (e ▸ hb) hx)
  rw [if_neg (fun e => e.elim (ne _ (by decide)) (ne _ (by decide))), if_neg (ne _ (by decide)), if_neg (ne _ (by decide)),
    if_neg (ne _ (by decide)), if_neg (ne _ (by decide)), if_neg (ne _ (by decide)), if_neg hi,
    if_neg (fun e => absurd (e ▸ hm) (by decide))]

theorem nextTok_head (cfg : DecCfg) (tg : Option Nat) (m n : Nat) (hm : m ≤ 6) (hn : n < 2 ^ 64) (hl : 2 ≤ m → n < 2 ^ 63)
    (ht : m = 6 → tg = none) (r : Bytes) : nextTok cfg tg (shortestHead m n ++ r) = headTok cfg m n r := by
  have hi := headInfo_le n
  obtain ⟨hd, hmod⟩ := head_byte m n (Nat.lt_of_le_of_lt hm (by decide))
  rw [shortestHead_eq, List.cons_append, nextTok_major cfg (hd.symm ▸ hm) (by omega), hd, hmod,
    if_neg (fun h => h.2 (ht h.1)), readHead_headArg _ m n hn hl]
  rfl

theorem nextTok_int (cfg : DecCfg) {tg : Option Nat} {m n : Nat} (hm : m < 2) (hn : n < 2 ^ 64) (r : Bytes) :
    nextTok cfg tg (shortestHead m n ++ r) = headTok cfg m n r :=
  nextTok_head cfg tg m n (Nat.le_trans (Nat.le_of_lt hm) (by decide)) hn (fun h => absurd hm (Nat.not_lt_of_le h))
    (fun h => absurd (h ▸ hm) (by decide)) r

theorem nextTok_bytes (cfg : DecCfg) {tg : Option Nat} (p r : Bytes) (hp : p.length ≤ 33554432) :
    nextTok cfg tg (shortestHead 2 p.length ++ (p ++ r)) = .ok (.bytes p p.length, r) := by
  rw [nextTok_head cfg tg 2 _ (by decide) (Nat.lt_of_le_of_lt hp (by decide)) (fun _ => Nat.lt_of_le_of_lt hp (by decide))
    (fun h => absurd h (by decide))]
  show (strBody _ _ >>= _) = _
  rw [strBody_append p r hp]; rfl

theorem nextTok_str (cfg : DecCfg) {tg : Option Nat} (p r : Bytes) (hp : p.length ≤ 33554432) :
    nextTok cfg tg (shortestHead 3 p.length ++ (p ++ r)) = .ok (.scalar (.str p) p.length, r) := by
  rw [nextTok_head cfg tg 3 _ (by decide) (Nat.lt_of_le_of_lt hp (by decide)) (fun _ => Nat.lt_of_le_of_lt hp (by decide))
    (fun h => absurd h (by decide))]
  show (strBody _ _ >>= _) = _
  rw [strBody_append p r hp]; rfl

theorem nextTok_tag (cfg : DecCfg) (t : Nat) (ht : t < 2 ^ 63) (r : Bytes) :
    nextTok cfg none (shortestHead 6 t ++ r) = .ok (.tag t, r) :=
  nextTok_head cfg none 6 t (by decide) (Nat.lt_trans ht (by decide)) (fun _ => ht) (fun _ => rfl) r

theorem nextTok_list (cfg : DecCfg) {tg : Option Nat} {n : Nat} (hn : n < 2 ^ 63) (r : Bytes) :
    nextTok cfg tg (shortestHead 4 n ++ r) = .ok (.list n, r) :=
  nextTok_head cfg tg 4 n (by decide) (Nat.lt_trans hn (by decide)) (fun _ => hn) (fun h => absurd h (by decide)) r

theorem nextTok_map (cfg : DecCfg) {tg : Option Nat} {n : Nat} (hn : n < 2 ^ 63) (r : Bytes) :
    nextTok cfg tg (shortestHead 5 n ++ r) = .ok (.map n, r) :=
  nextTok_head cfg tg 5 n (by decide) (Nat.lt_trans hn (by decide)) (fun _ => hn) (fun h => absurd h (by decide)) r

section unmarshal
variable {cfg : DecCfg} {fuel depth : Nat} {extra : Int} {tag : Option Nat} {B : Int} {r : Bytes}

theorem afterTok_bytes (p : Bytes) (hB : extra + p.length ≤ B) :
    afterTok cfg fuel depth extra tag B (.bytes p p.length) r = linkGate cfg tag p ⟨r, B - extra - p.length⟩ := by
  have h0 : (0 : Int) ≤ p.length := Int.natCast_nonneg _
  simp only [afterTok]
  rw [charge_ok (by omega)]
  simp only [bind, Except.bind]
  rw [charge_ok (by omega)]

theorem decItem_bytes {p : Bytes} (hp : p.length ≤ 33554432) (hB : extra + p.length ≤ B) :
    decItem cfg (fuel + 1) depth extra tag ⟨(shortestHead 2 p.length ++ p) ++ r, B⟩ =
      linkGate cfg tag p ⟨r, B - extra - p.length⟩ := by
  rw [List.append_assoc, decItem_tok (nextTok_bytes cfg p r hp)]
  exact afterTok_bytes p hB

theorem afterTok_bytes_ok {p : Bytes} {n : Nat} {v : DM} {s' : DS}
    (h : afterTok cfg fuel depth extra tag B (.bytes p n) r = .ok (v, s')) :
    s' = ⟨r, B - extra - n⟩ ∧ 0 ≤ B - extra - n ∧
      ((tag = none ∧ v = .bytes p) ∨
        (tag = some 42 ∧ ∃ c, p = 0 :: c ∧ cidValid c = true ∧ v = .link c)) := by
  simp only [afterTok] at h
  obtain ⟨s0, h5, h6⟩ := bind_ok h
  obtain ⟨_, rfl⟩ := charge_eq_ok h5
  obtain ⟨s1, h7, h8⟩ := bind_ok h6
  obtain ⟨hle, rfl⟩ := charge_eq_ok h7
  -- the gate returns the state it is given, so `s'` is the state after the two charges; which value is next
  suffices hv : s' = _ ∧ _ from ⟨hv.1, Int.sub_nonneg_of_le hle, hv.2⟩
  cases tag with
  | none =>
    injection h8 with h8; injection h8 with ha hb
    exact ⟨hb.symm, Or.inl ⟨rfl, ha.symm⟩⟩
  | some t =>
    simp only [] at h8
    refine ite_ok h8 (fun _ h => nomatch h) fun ht h8 => ?_
    refine ite_ok h8 (fun _ h => nomatch h) fun _ h8 => ?_
    split at h8
    · refine ite_ok h8 (fun hcid h8 => ?_) fun _ h => nomatch h
      injection h8 with h8; injection h8 with ha hb
      exact ⟨hb.symm, Or.inr ⟨by rw [Decidable.not_not.mp ht], _, rfl, hcid, ha.symm⟩⟩
    · cases h8

/-- Under a pending tag every token but a byte string is refused once the entry charge is paid (a second tag
    is refused by the tokenizer itself). -/
theorem afterTok_tagged (t : Nat) (he : extra ≤ B) : (tok : Tok) → (∀ p n, tok ≠ .bytes p n) → tok.Wf (some t) →
    afterTok cfg fuel depth extra (some t) B tok r = .error .badTag
  | .scalar w c, _, _ => finish_tag t extra c w r B he
  | .list n, _, _ => by rw [afterTok]; exact decColl_tag t he
  | .map n, _, _ => by rw [afterTok]; exact decColl_tag t he
  | .bytes p n, h, _ => absurd rfl (h p n)
  | .tag _, _, h => nomatch h.2

end unmarshal

theorem floatRead (strict : Bool) (k : Nat) (g : Nat → Nat) {w : Nat} (hw : w < 256 ^ k) (r : Bytes) :
    (do let (a, r') ← take? k (be k w ++ r)
        let v ← checkFloat strict (g (beVal a))
        pure (Tok.scalar v 1, r')) = checkFloat strict (g w) >>= fun v => pure (.scalar v 1, r) := by
  rw [spec_be_eq, take?_append' (beBytes_length _ _)]
  simp only [bind, Except.bind, beVal_beBytes, Nat.mod_eq_of_lt hw]

theorem nextTok_floatBytes (cfg : DecCfg) {tg : Option Nat} {x : Nat} {b1 : Bytes} (h : FloatBytes x b1) (hx : x < 2 ^ 64)
    (r : Bytes) :
    nextTok cfg tg (b1 ++ r) = checkFloat (!cfg.relaxed) x >>= fun v => pure (.scalar v 1, r) := by
  rcases h with rfl | ⟨w, hw, rfl, rfl⟩ | ⟨w, hw, rfl, rfl⟩
  · exact floatRead _ 8 (fun x => x) hx r
  · exact floatRead _ 4 f32to64 hw r
  · exact floatRead _ 2 f16to64 hw r

/-- The values that are one token: everything but byte strings, links, lists and maps. -/
def IsScalar : DM → Prop
  | .null | .bool _ | .int _ | .float _ | .str _ => True
  | _ => False

theorem nextTok_scalar (cfg : DecCfg) {tg : Option Nat} : (w : DM) → IsScalar w → ∀ {b1 : Bytes}, Denotes w b1 →
    maxStr w ≤ 33554432 → ∀ r, nextTok cfg tg (b1 ++ r) = .ok (.scalar w (cost w), r)
  | .null, _, b1, hd, _, r => by
    rcases hd with rfl | rfl <;> rfl
  | .bool b, _, b1, hd, _, r => by
    obtain rfl : b1 = [if b then 0xf5 else 0xf4] := hd
    cases b <;> rfl
  | .int i, _, b1, hd, _, r => by
    rcases hd with ⟨h1, h2, rfl⟩ | ⟨h1, h2, rfl⟩
    · rw [nextTok_int cfg (by decide) (Int.toNat_lt h1 |>.mpr h2)]
      show Except.ok (Tok.scalar (DM.int (i.toNat : Int)) 1, r) = _
      rw [Int.toNat_of_nonneg h1]; rfl
    · -- the head argument `-1 - i` of a negative `i` that fits an `int64`, and back
      obtain ⟨hlt, hi⟩ : (-1 - i).toNat + 1 ≤ 9223372036854775808 ∧ (-(((-1 - i).toNat + 1 : Nat) : Int)) = i := by omega
      rw [nextTok_int cfg (by decide) (Nat.lt_trans (Nat.lt_of_succ_le hlt) (by decide))]
      rw [headTok_nint cfg (.inr (Nat.lt_of_le_of_lt hlt (by decide))), if_neg (Nat.not_lt_of_le hlt), hi]; rfl
  | .float x, _, b1, hd, _, r => by
    rw [nextTok_floatBytes cfg hd.2 x.toNat_lt, checkFloat_finite _ _ hd.1, UInt64.ofNat_toNat]; rfl
  | .str s, _, b1, hd, hm, r => by
    obtain rfl : b1 = shortestHead 3 s.length ++ s := hd
    rw [List.append_assoc]
    exact nextTok_str cfg s r hm

end Cbor
end Ipld

/-
  The token-level DAG-JSON decoder `unTok`.  `classify` says what its two look-aheads after a `mapOpen`
  conclude: each is the match of its pattern (`Lemmas/JsonScan`), both together are their `Cls.seq`.
  `closes` (bracket matching) counts the tokens up to a closing bracket: a value is transparent to it.
-/
import IpldModel.Lemmas.JsonScan
namespace Ipld
namespace Json

/-- What the two lookaheads conclude about the tokens after a `mapOpen`.  `plain n`: it is an ordinary
    map, and `n` tokens were looked at to find that out. -/
inductive Cls where
  | eof | link (s : Bytes) | bytes (s : Bytes) | plain (n : Nat)
  deriving Repr, DecidableEq

/-- Classifying with one look-ahead and then, where it found an ordinary map, with another: an ordinary
    map for both, looked at as far as the one that went further. -/
def Cls.seq : Cls → Cls → Cls
  | .plain n, .plain n' => .plain (max n n')
  | .plain _, c => c
  | c, _ => c

def classify (pl pb : Bool) (rest : List JTok) : Cls :=
  Cls.seq (if pl then scan Cls.eof Cls.plain Cls.link linkPat 0 [] rest else Cls.plain 0)
    (if pb then scan Cls.eof Cls.plain Cls.bytes bytesPat 0 [] rest else Cls.plain 0)

@[simp] theorem bytesWord_ne_slash : ¬ (bytesWord = slash) := by decide

/-- `unTok`'s local `asMap`: the tokens after a `mapOpen` read as an ordinary map -/
def asMap (cfg : DecCfg) (fuel depth : Nat) (rest : List JTok) : JR (DM × List JTok) := do
  let (es, rest') ← unMapLoop (unTok cfg fuel (depth + 1)) (rest.length + 1) [] rest
  pure (.map (DMKVs.ofList es), rest')

/-- What `unTok` makes of the tokens `rest` after a `mapOpen` once they are classified; `X` is the reading
    it falls through to. -/
def readAs (rest : List JTok) (X : JR (DM × List JTok)) : Cls → JR (DM × List JTok)
  | .eof => .error .eof
  | .link s => (match cidParse s with | some c => .ok (.link c, rest.drop 3) | none => .error .badCid)
  | .bytes s => (match decodeB64 s with | some b => .ok (.bytes b, rest.drop 6) | none => .error .badBase64)
  | .plain _ => X

theorem readAs_seq (rest : List JTok) (X : JR (DM × List JTok)) (c1 c2 : Cls) :
    readAs rest X (c1.seq c2) = readAs rest (readAs rest X c2) c1 := by
  cases c1 <;> cases c2 <;> rfl

theorem unTok_mapOpen (cfg : DecCfg) (fuel depth : Nat) (rest : List JTok) :
    unTok cfg (fuel + 1) depth (.mapOpen :: rest) =
    if depth ≥ cfg.maxDepth then .error .depth else
      readAs rest (asMap cfg fuel depth rest) (classify cfg.parseLinks cfg.parseBytes rest) := by
  rw [unTok]
  by_cases hd : depth ≥ cfg.maxDepth
  · rw [if_pos hd, if_pos hd]
  rw [if_neg hd, if_neg hd]
  -- the code is two `peekScan`s, the link one falling through to the bytes one
  show (if cfg.parseLinks = true then
      peekScan rest
        (if cfg.parseBytes = true then
          peekScan rest (asMap cfg fuel depth rest) (readAs rest (asMap cfg fuel depth rest) ∘ .bytes) bytesPat 0 []
          else asMap cfg fuel depth rest)
        (readAs rest (asMap cfg fuel depth rest) ∘ .link) linkPat 0 []
      else if cfg.parseBytes = true then
        peekScan rest (asMap cfg fuel depth rest) (readAs rest (asMap cfg fuel depth rest) ∘ .bytes) bytesPat 0 []
      else asMap cfg fuel depth rest) = _
  unfold classify
  rw [readAs_seq, peekScan_eq, peekScan_eq, List.drop_zero]
  cases cfg.parseLinks <;> cases cfg.parseBytes <;>
    simp only [if_true, if_false, Bool.false_eq_true, scan_map (readAs rest _)] <;> rfl

theorem unTok_arrOpen (cfg : DecCfg) (fuel depth : Nat) (rest : List JTok) :
    unTok cfg (fuel + 1) depth (.arrOpen :: rest) =
      if depth ≥ cfg.maxDepth then .error .depth else
        unListLoop (unTok cfg fuel (depth + 1)) (rest.length + 1) rest >>= fun r =>
          pure (.list (DMs.ofList r.1), r.2) := rfl

/-- `closes d toks`: the number of tokens up to and including the one that closes the outermost of `d` open
    brackets (none open: none needed). -/
def closes : Nat → List JTok → Option Nat
  | 0, _ => some 0
  | _ + 1, [] => none
  | d + 1, .mapOpen :: r | d + 1, .arrOpen :: r => (closes (d + 2) r).map (· + 1)
  | d + 1, .mapClose :: r | d + 1, .arrClose :: r => (closes d r).map (· + 1)
  | d + 1, _ :: r => (closes (d + 1) r).map (· + 1)

/-- The tokens it is safe to find in the window (`tk[0]` included).  An `arrOpen` can only be the last:
    the list loop reads the source directly, so it must find the window empty.  A `mapOpen` that is not the
    last is followed by a token other than `"/"`, or by the last slot: a nested look-ahead that recognises
    a form drops the whole window, so it must have consumed exactly the window. -/
def safe : List JTok → Bool
  | [] => true
  | [_] => true
  | .arrOpen :: _ :: _ => false
  | .mapOpen :: t :: rest => (t != .str slash || rest.isEmpty) && safe (t :: rest)
  | _ :: t :: rest => safe (t :: rest)

theorem closes_map_ge {d n k : Nat} {toks : List JTok} (h : (closes (d + 1) toks).map (· + n) = some k) :
    n + 1 ≤ k := by
  obtain ⟨a, ha, rfl⟩ := Option.map_eq_some_iff.mp h
  rcases toks with _ | ⟨t, r⟩
  · cases ha
  have : ∃ e, (closes e r).map (· + 1) = some a := by cases t <;> exact ⟨_, ha⟩
  obtain ⟨_, b, _, rfl⟩ := this.imp fun _ => Option.map_eq_some_iff.mp
  omega

/-- What a classification of `rest` promises. For an ordinary map: the `n` tokens looked at may stay in
    the window, and the map does not end within them. -/
def Cls.Fits (rest : List JTok) : Cls → Prop
  | .eof => True
  | .link s => ∃ r, rest = .str slash :: .str s :: .mapClose :: r
  | .bytes s => ∃ r, rest = .str slash :: .mapOpen :: .str bytesWord :: .str s :: .mapClose :: .mapClose :: r
  | .plain n => n ≤ 6 ∧ safe (rest.take n) = true ∧ ∀ k, closes 1 rest = some k → n ≤ k

/-- A proper beginning of a reserved form, then any token: the window may keep them, and the map they
    begin is still open.  The beginnings are those of the bytes form; the link form shares its first token
    (`i ≤ 1`, where `s` plays no part), and `Cls.fits_linkLead` is its own second one. -/
theorem Cls.fits_lead (s : Bytes) (i : Nat) (t : JTok) (r : List JTok) (hi : i ≤ 5 := by decide) :
    (Cls.plain (i + 1)).Fits ([.str slash, .mapOpen, .str bytesWord, .str s, .mapClose].take i ++ t :: r) := by
  have : i = 0 ∨ i = 1 ∨ i = 2 ∨ i = 3 ∨ i = 4 ∨ i = 5 := by omega
  rcases this with rfl | rfl | rfl | rfl | rfl | rfl
  · exact ⟨by decide, rfl, fun _ h => closes_map_ge (n := 0) (congrArg (Option.map (· + 0)) h)⟩
  all_goals
    refine ⟨by decide, by simp [safe], fun k h => ?_⟩
    simp only [List.take, List.cons_append, List.nil_append, closes, Option.map_map, Function.comp_def,
      Nat.add_assoc] at h
    exact closes_map_ge h

theorem Cls.fits_linkLead (s : Bytes) (t : JTok) (r : List JTok) :
    (Cls.plain 3).Fits (.str slash :: .str s :: t :: r) := by
  refine ⟨by decide, by simp [safe], fun k h => ?_⟩
  simp only [closes, Option.map_map, Function.comp_def, Nat.add_assoc] at h
  exact closes_map_ge h

/-- A place of a pattern that expects the token `c`, `pre` having matched before it: the stream ends there, or
    holds another token (`miss`), or goes on (`next`). -/
theorem Cls.fits_lit {rest : List JTok} {fin : Bytes → Cls} {c : JTok} {ps : List Pat} (i : Nat) (s : Bytes)
    (toks pre : List JTok) (hr : rest = pre ++ toks) (miss : ∀ t r, (Cls.plain (i + 1)).Fits (pre ++ t :: r))
    (next : ∀ r, rest = pre ++ c :: r → (scan Cls.eof Cls.plain fin ps (i + 1) s r).Fits rest) :
    (scan Cls.eof Cls.plain fin (.lit c :: ps) i s toks).Fits rest := by
  rcases toks with _ | ⟨t, r⟩
  · trivial
  rw [scan]
  by_cases h : t = c
  · rw [if_pos h]; exact next r (h ▸ hr)
  · rw [if_neg h]; exact hr ▸ miss t r

theorem scan_link_fits (rest : List JTok) : (scan Cls.eof Cls.plain Cls.link linkPat 0 [] rest).Fits rest := by
  refine Cls.fits_lit 0 [] rest [] rfl (Cls.fits_lead [] 0) fun r1 h1 => ?_
  subst h1
  rcases r1 with _ | ⟨t, r2⟩
  · trivial
  cases t <;> try exact Cls.fits_lead [] 1 _ _
  rename_i s
  exact Cls.fits_lit 2 s r2 [.str slash, .str s] rfl (Cls.fits_linkLead s) fun r3 h3 => ⟨r3, h3⟩

theorem scan_bytes_fits (rest : List JTok) : (scan Cls.eof Cls.plain Cls.bytes bytesPat 0 [] rest).Fits rest := by
  refine Cls.fits_lit 0 [] rest [] rfl (Cls.fits_lead [] 0) fun r1 h1 => ?_
  refine Cls.fits_lit 1 [] r1 [.str slash] h1 (Cls.fits_lead [] 1) fun r2 h2 => ?_
  refine Cls.fits_lit 2 [] r2 [.str slash, .mapOpen] h2 (Cls.fits_lead [] 2) fun r3 h3 => ?_
  subst h3
  rcases r3 with _ | ⟨t, r4⟩
  · trivial
  cases t <;> try exact Cls.fits_lead [] 3 _ _
  rename_i s
  refine Cls.fits_lit 4 s r4 [.str slash, .mapOpen, .str bytesWord, .str s] rfl (Cls.fits_lead s 4) fun r5 h5 => ?_
  exact Cls.fits_lit 5 s r5 [.str slash, .mapOpen, .str bytesWord, .str s, .mapClose] h5 (Cls.fits_lead s 5)
    fun r6 h6 => ⟨r6, h6⟩

theorem Cls.Fits.seq {rest : List JTok} {c1 c2 : Cls} (h1 : c1.Fits rest) (h2 : c2.Fits rest) :
    (c1.seq c2).Fits rest := by
  cases c1 <;> cases c2 <;> try assumption
  rename_i n n'
  show (Cls.plain (max n n')).Fits rest
  rcases Nat.le_total n n' with h | h
  · rwa [Nat.max_eq_right h]
  · rwa [Nat.max_eq_left h]

theorem Cls.fits_zero (rest : List JTok) : (Cls.plain 0).Fits rest :=
  ⟨by decide, rfl, fun _ _ => Nat.zero_le _⟩

theorem classify_fits (pl pb : Bool) (rest : List JTok) : (classify pl pb rest).Fits rest := by
  refine Cls.Fits.seq ?_ ?_
  · cases pl
    · exact Cls.fits_zero rest
    · exact scan_link_fits rest
  · cases pb
    · exact Cls.fits_zero rest
    · exact scan_bytes_fits rest

theorem classify_key_ne {pl pb : Bool} {k : Bytes} (hk : k ≠ slash) {r : List JTok} :
    ∃ n, classify pl pb (.str k :: r) = .plain n := by
  have hne : ¬ JTok.str k = JTok.str slash := fun e => hk (JTok.str.inj e)
  have hL : scan Cls.eof Cls.plain Cls.link linkPat 0 [] (.str k :: r) = .plain 1 := if_neg hne
  have hB : scan Cls.eof Cls.plain Cls.bytes bytesPat 0 [] (.str k :: r) = .plain 1 := if_neg hne
  unfold classify
  rw [hL, hB]
  cases pl <;> cases pb <;> exact ⟨_, rfl⟩

theorem scan_bytesWord_ne {k : Bytes} (hk : k ≠ bytesWord) {r : List JTok} :
    scan Cls.eof Cls.plain Cls.bytes bytesPat 0 [] (.str slash :: .mapOpen :: .str k :: r) = .plain 3 := by
  rw [bytesPat, scan, if_pos rfl, scan, if_pos rfl, scan, if_neg (fun e => hk (JTok.str.inj e))]

theorem unListLoop_ok {item : List JTok → JR (DM × List JTok)} {lf : Nat} {toks rest : List JTok} {xs : List DM}
    (h : unListLoop item (lf + 1) toks = .ok (xs, rest)) :
    (toks = .arrClose :: rest ∧ xs = []) ∨
    ∃ v r' xs', item toks = .ok (v, r') ∧ unListLoop item lf r' = .ok (xs', rest) ∧ xs = v :: xs' := by
  unfold unListLoop at h
  split at h
  · cases h
  · cases h; exact Or.inl ⟨rfl, rfl⟩
  · obtain ⟨⟨v, r'⟩, hi, h⟩ := bind_ok h
    obtain ⟨⟨xs', r''⟩, hl, h⟩ := bind_ok h
    cases h
    exact Or.inr ⟨v, r', xs', hi, hl, rfl⟩

theorem unMapLoop_ok {item : List JTok → JR (DM × List JTok)} {lf : Nat} {seen : List Bytes}
    {toks rest : List JTok} {es : List (Bytes × DM)}
    (h : unMapLoop item (lf + 1) seen toks = .ok (es, rest)) :
    (toks = .mapClose :: rest ∧ es = []) ∨
    ∃ k r v r' es', toks = .str k :: r ∧ item r = .ok (v, r') ∧
      unMapLoop item lf (k :: seen) r' = .ok (es', rest) ∧ es = (k, v) :: es' := by
  unfold unMapLoop at h
  split at h
  · cases h
  · cases h; exact Or.inl ⟨rfl, rfl⟩
  · rename_i k r
    split at h
    · cases h
    split at h
    · cases h
    obtain ⟨⟨v, r'⟩, hi, h⟩ := bind_ok h
    obtain ⟨⟨es', r''⟩, hl, h⟩ := bind_ok h
    cases h
    exact Or.inr ⟨k, r, v, r', es', rfl, hi, hl, rfl⟩
  · cases h

theorem unListLoop_cons_ne {item : List JTok → JR (DM × List JTok)} {lf : Nat} {t : JTok} {r : List JTok}
    (h : t ≠ .arrClose) :
    unListLoop item (lf + 1) (t :: r) = (do
      let (v, rest') ← item (t :: r)
      let (xs, rest'') ← unListLoop item lf rest'
      pure (v :: xs, rest'')) := by
  cases t <;> first | exact absurd rfl h | rfl

theorem unMapLoop_cons_str {item : List JTok → JR (DM × List JTok)} {fuel : Nat} {seen : List Bytes} {k : Bytes}
    {t : JTok} {r : List JTok} (h : seen.contains k = false) :
    unMapLoop item (fuel + 1) seen (.str k :: t :: r) =
      item (t :: r) >>= fun a => unMapLoop item fuel (k :: seen) a.2 >>= fun b => pure ((k, a.1) :: b.1, b.2) := by
  simp only [unMapLoop, h, Bool.false_eq_true, if_false]

theorem JR.bind_pure_ok {α : Type} {a : JR (α × List JTok)} {f : α → DM} {v : DM} {r : List JTok}
    (h : (do let (x, r') ← a; pure (f x, r')) = .ok (v, r)) : ∃ x, a = .ok (x, r) ∧ v = f x := by
  rcases a with e | ⟨x, r'⟩ <;> cases h
  exact ⟨x, rfl, rfl⟩

theorem unTok_arrOpen_ok {cfg : DecCfg} {fuel depth : Nat} {rest r : List JTok} {v : DM}
    (h : unTok cfg (fuel + 1) depth (.arrOpen :: rest) = .ok (v, r)) :
    depth < cfg.maxDepth ∧ ∃ xs, unListLoop (unTok cfg fuel (depth + 1)) (rest.length + 1) rest = .ok (xs, r) ∧
      v = .list (DMs.ofList xs) := by
  rw [unTok] at h
  split at h
  · cases h
  · exact ⟨by omega, JR.bind_pure_ok h⟩

theorem unTok_mapOpen_ok {cfg : DecCfg} {fuel depth : Nat} {rest r : List JTok} {v : DM}
    (h : unTok cfg (fuel + 1) depth (.mapOpen :: rest) = .ok (v, r)) :
    depth < cfg.maxDepth ∧
    ((∃ s c, rest = .str slash :: .str s :: .mapClose :: r ∧ v = .link c) ∨
     (∃ s b, rest = .str slash :: .mapOpen :: .str bytesWord :: .str s :: .mapClose :: .mapClose :: r ∧ v = .bytes b) ∨
     ∃ es, unMapLoop (unTok cfg fuel (depth + 1)) (rest.length + 1) [] rest = .ok (es, r) ∧
       v = .map (DMKVs.ofList es)) := by
  rw [unTok_mapOpen] at h
  split at h
  · cases h
  refine ⟨by omega, ?_⟩
  have hs := classify_fits cfg.parseLinks cfg.parseBytes rest
  cases hc : classify cfg.parseLinks cfg.parseBytes rest with
  | eof => rw [hc] at h; cases h
  | link s =>
    rw [hc] at h hs
    obtain ⟨r3, rfl⟩ := hs
    dsimp only [readAs] at h
    split at h <;> cases h
    exact Or.inl ⟨s, _, rfl, rfl⟩
  | bytes s =>
    rw [hc] at h hs
    obtain ⟨r6, rfl⟩ := hs
    dsimp only [readAs] at h
    split at h <;> cases h
    exact Or.inr (Or.inl ⟨s, _, rfl, rfl⟩)
  | plain n =>
    rw [hc] at h
    exact Or.inr (Or.inr (JR.bind_pure_ok h))

theorem decodeToks_eq_ok {cfg : DecCfg} {toks : List JTok} {v : DM} :
    decodeToks cfg toks = .ok v ↔
      ∃ r, unTok cfg (toks.length + 1) 0 toks = .ok (v, r) ∧ (cfg.dontParseBeyondEnd = false → r = []) := by
  unfold decodeToks
  cases unTok cfg (toks.length + 1) 0 toks with
  | error e => exact ⟨nofun, fun ⟨_, h, _⟩ => nomatch h⟩
  | ok p =>
    obtain ⟨v', r⟩ := p
    cases hp : cfg.dontParseBeyondEnd <;> cases r <;> simp [bind, Except.bind, pure, Except.pure]

/-- The tokens an element decoder consumes are transparent to bracket counting: they are those of one value. -/
def ItemExt (item : List JTok → JR (DM × List JTok)) : Prop :=
  ∀ toks v r, item toks = .ok (v, r) →
    ∃ n, r = toks.drop n ∧ ∀ d, closes (d + 1) toks = (closes (d + 1) r).map (· + n)

/-- What a loop consumes ends with the bracket that closes the container. -/
def LoopExt (toks rest : List JTok) : Prop :=
  ∃ n, rest = toks.drop n ∧ ∀ d, closes (d + 1) toks = (closes d rest).map (· + n)

theorem LoopExt.cons {toks r rest : List JTok} {n : Nat} (h1 : ∀ d, closes (d + 1) toks = (closes (d + 1) r).map (· + n))
    (hr : r = toks.drop n) (h2 : LoopExt r rest) : LoopExt toks rest := by
  obtain ⟨n2, rfl, h2⟩ := h2
  refine ⟨n2 + n, by rw [hr, List.drop_drop, Nat.add_comm], fun d => ?_⟩
  rw [h1, h2, Option.map_map]
  exact congrArg (Option.map · _) (funext fun x => Nat.add_assoc x n2 n)

theorem unMapLoop_extent {item : List JTok → JR (DM × List JTok)} (hi : ItemExt item) :
    ∀ {lf : Nat} {seen : List Bytes} {toks : List JTok} {es : List (Bytes × DM)} {rest : List JTok},
    unMapLoop item lf seen toks = .ok (es, rest) → LoopExt toks rest
  | 0, _, _, _, _, h => by cases h
  | lf + 1, seen, toks, es, rest, h => by
    rcases unMapLoop_ok h with ⟨rfl, rfl⟩ | ⟨k, r, v, r', es', rfl, hit, hl, rfl⟩
    · exact ⟨1, rfl, fun _ => rfl⟩
    · obtain ⟨n1, hr, h1⟩ := hi _ _ _ hit
      refine LoopExt.cons (n := n1 + 1) (fun d => ?_) (by rw [hr]; rfl) (unMapLoop_extent hi hl)
      show (closes (d + 1) r).map (· + 1) = _
      rw [h1, Option.map_map]
      rfl

theorem unListLoop_extent {item : List JTok → JR (DM × List JTok)} (hi : ItemExt item) :
    ∀ {lf : Nat} {toks : List JTok} {xs : List DM} {rest : List JTok},
    unListLoop item lf toks = .ok (xs, rest) → LoopExt toks rest
  | 0, _, _, _, h => by cases h
  | lf + 1, toks, xs, rest, h => by
    rcases unListLoop_ok h with ⟨rfl, rfl⟩ | ⟨v, r', xs', hit, hl, rfl⟩
    · exact ⟨1, rfl, fun _ => rfl⟩
    · obtain ⟨n1, hr, h1⟩ := hi _ _ _ hit
      exact LoopExt.cons h1 hr (unListLoop_extent hi hl)

theorem unTok_extent (cfg : DecCfg) : ∀ (fuel depth : Nat), ItemExt (unTok cfg fuel depth)
  | 0, _ => fun _ _ _ h => by cases h
  | fuel + 1, depth => by
    intro toks v r h
    -- an opening bracket, then a loop that ends with its closing bracket
    have container {rest : List JTok} (hl : LoopExt rest r)
        (ho : ∀ d, closes (d + 1) toks = (closes (d + 2) rest).map (· + 1)) (ht : rest = toks.drop 1) :
        ∃ n, r = toks.drop n ∧ ∀ d, closes (d + 1) toks = (closes (d + 1) r).map (· + n) := by
      obtain ⟨n, rfl, h1⟩ := hl
      refine ⟨n + 1, by rw [ht, List.drop_drop, Nat.add_comm], fun d => ?_⟩
      rw [ho, h1, Option.map_map]
      rfl
    rcases toks with _ | ⟨t, rest⟩
    · cases h
    cases t
    case mapOpen =>
      obtain ⟨_, ⟨s, c, rfl, _⟩ | ⟨s, b, rfl, _⟩ | ⟨es, hl, _⟩⟩ := unTok_mapOpen_ok h
      · exact ⟨4, rfl, fun d => by simp only [closes, Option.map_map]; rfl⟩
      · exact ⟨7, rfl, fun d => by simp only [closes, Option.map_map]; rfl⟩
      · exact container (unMapLoop_extent (unTok_extent cfg fuel (depth + 1)) hl) (fun _ => rfl) rfl
    case arrOpen =>
      obtain ⟨_, xs, hl, _⟩ := unTok_arrOpen_ok h
      exact container (unListLoop_extent (unTok_extent cfg fuel (depth + 1)) hl) (fun _ => rfl) rfl
    case mapClose => cases h
    case arrClose => cases h
    all_goals
      cases h
      exact ⟨1, rfl, fun _ => rfl⟩

theorem Cls.Fits.map_ends_after {n : Nat} {toks : List JTok} (hf : (Cls.plain n).Fits toks) {cfg : DecCfg}
    {fuel depth lf : Nat} {seen : List Bytes} {es : List (Bytes × DM)} {rest : List JTok}
    (h : unMapLoop (unTok cfg fuel depth) lf seen toks = .ok (es, rest)) : ∃ k, n ≤ k ∧ rest = toks.drop k := by
  obtain ⟨k, hr, hk⟩ := unMapLoop_extent (unTok_extent cfg fuel depth) h
  have h0 := hk 0
  rw [show closes 0 rest = some 0 by cases rest <;> rfl] at h0
  exact ⟨k, Nat.zero_add k ▸ hf.2.2 (0 + k) h0, hr⟩

end Json
end Ipld

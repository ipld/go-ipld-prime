/-
  No path is visited twice, provided at every reachable position the child segments the walk loops over are
  pairwise distinct.
-/
import IpldModel.Lemmas.WalkReach
import IpldModel.Lemmas.ListMore
namespace Ipld
namespace Walk
open Sel

def isVisitAt (p : Path) : Event → Bool
  | .visit q _ _ => q == p
  | _ => false

def cnt (q : Path) (es : List Event) : Nat := es.countP (isVisitAt q)

theorem cnt_load (q : Path) (c : Bytes) (es : List Event) : cnt q (.load c :: es) = cnt q es := by
  simp [cnt, isVisitAt]

theorem cnt_visitEvent (q path : Path) (n : DM) (s : S) (es : List Event) :
    cnt q (visitEvent path n s :: es) = cnt q es + (if path = q then 1 else 0) := by
  obtain ⟨m, r, h⟩ := visitEvent_is_visit path n s
  rw [h]
  simp only [cnt, List.countP_cons, isVisitAt, beq_iff_eq]

/-- From `a` to `b` the number of visits at `q` grows by at most one, and grows only if `P q`: what every call of the
    walk does at every path (`grow_all`), with `P` the paths at or below the call's position. -/
def Grow (P : Path → Prop) (a b : St) (q : Path) : Prop :=
  cnt q a.events ≤ cnt q b.events ∧ cnt q b.events ≤ cnt q a.events + 1 ∧ (cnt q a.events < cnt q b.events → P q)

theorem Grow.same {P : Path → Prop} {a b : St} {q : Path} (h : b.events = a.events) : Grow P a b q := by
  unfold Grow; rw [h]; exact ⟨Nat.le_refl _, Nat.le_succ _, fun h => absurd h (Nat.lt_irrefl _)⟩

theorem Grow.weaken {P R : Path → Prop} {a b : St} {q : Path} (h : Grow P a b q) (hpr : P q → R q) : Grow R a b q :=
  ⟨h.1, h.2.1, fun hlt => hpr (h.2.2 hlt)⟩

theorem Grow.comp {P P' R : Path → Prop} {a b c : St} {q : Path} (h1 : Grow P a b q) (h2 : Grow P' b c q)
    (hex : P q → P' q → False) (hp : P q → R q) (hp' : P' q → R q) : Grow R a c q := by
  obtain ⟨a1, a2, a3⟩ := h1
  obtain ⟨b1, b2, b3⟩ := h2
  refine ⟨Nat.le_trans a1 b1, ?_, ?_⟩
  · by_cases c1 : cnt q a.events < cnt q b.events
    · by_cases c2 : cnt q b.events < cnt q c.events
      · exact absurd (b3 c2) (fun h => hex (a3 c1) h)
      · exact Nat.le_trans (Nat.le_of_not_lt c2) a2
    · exact Nat.le_trans b2 (Nat.succ_le_succ (Nat.le_of_not_lt c1))
  · intro hlt
    by_cases c1 : cnt q a.events < cnt q b.events
    · exact hp (a3 c1)
    · exact hp' (b3 (Nat.lt_of_le_of_lt (Nat.le_of_not_lt c1) hlt))

theorem count_visit_paths (q : Path) (es : List Event) : ((visitsOf es).map (·.1)).count q = cnt q es := by
  induction es with
  | nil => rfl
  | cons e es ih =>
    cases e with
    | load c => rw [cnt_load, ← ih]; rfl
    | visit p m r =>
      rw [visitsOf_cons_visit, List.map_cons, List.count_cons, ih]
      simp only [cnt, List.countP_cons, isVisitAt]
      congr 1

def explored (n : DM) (s : S) (x : Seg × DM) : Bool :=
  match explore s n x.1 with
  | .ok (some _) => true
  | _ => false

theorem enterNode_grow {cfg : Cfg} {past : Bool} {path : Path} {n : DM} {s : S} {st st2 : St}
    (h : enterNode cfg past path n s st = (st2, .ok ())) (q : Path) : Grow (fun q => q = path) st st2 q := by
  rcases enterNode_ok_events h with ⟨h1, _⟩ | h1
  · exact Grow.same h1
  · unfold Grow
    rw [h1, cnt_visitEvent]
    by_cases hq : path = q
    · subst hq; simp only [if_true]; exact ⟨Nat.le_succ _, Nat.le_refl _, fun _ => trivial⟩
    · simp only [hq, if_false, Nat.add_zero]
      exact ⟨Nat.le_refl _, Nat.le_succ _, fun h => absurd h (Nat.lt_irrefl _)⟩

theorem linkStep_grow (cfg : Cfg) (c : Bytes) (st : St) (P : Path → Prop) (q : Path) :
    Grow P st (linkStep cfg c st).1 q := by
  rcases linkStep_events_cases cfg c st with h | h
  · exact Grow.same h
  · unfold Grow; rw [h, cnt_load]
    exact ⟨Nat.le_refl _, Nat.le_succ _, fun h => absurd h (Nat.lt_irrefl _)⟩

section
variable (cfg : Cfg) (root : DM) (s0 : S)
  (H : ∀ path n s, Reach cfg root s0 path n s → (((childList n s).filter (explored n s)).map (·.1)).Nodup)
include H

/-- between the start and the end of a call the visits at a path `q` grow by at most one, and only below the
    call's position: at or below `path` for `walkAdv`, below one explored child of the list for `walkChildren`,
    below the child, which is then explored, for `exploreChild` -/
theorem grow_all (fuel : Nat) : WalkAll cfg
    (fun _ _ path n s st r => Reach cfg root s0 path n s → ∀ q, Grow (fun q => path <+: q) st r.1 q)
    (fun _ path n s l _ st r => Reach cfg root s0 path n s → (∀ x ∈ l, x ∈ childList n s) →
      ((l.filter (explored n s)).map (·.1)).Nodup → ∀ q,
      Grow (fun q => ∃ x ∈ l, explored n s x = true ∧ (path ++ [x.1]) <+: q) st r.1 q)
    (fun _ _ path n s ps v st r => Reach cfg root s0 path n s → (ps, v) ∈ childList n s → ∀ q,
      Grow (fun q => explored n s (ps, v) = true ∧ (path ++ [ps]) <+: q) st r.1 q) fuel := by
  refine walk_ind cfg
    (fun _ _ => .same rfl) (fun _ _ _ _ => .same rfl) (fun _ _ _ => .same rfl)
    (fun h _ _ => .same (enterNode_error h).2)
    (fun h _ _ q => (enterNode_grow h q).weaken fun h => h ▸ List.prefix_refl _) ?inner
    (fun _ _ _ _ => .same rfl) ?skip
    (fun _ hE hr hl _ q => (hE hr (hl _ List.mem_cons_self) q).weaken fun hp => ⟨_, List.mem_cons_self, hp⟩) ?cons
    (fun _ _ _ _ => .same rfl) (fun _ _ _ _ q => linkStep_grow cfg _ _ _ q) ?linkGo
    (fun hx hnl hA hr hmem q => (hA (Reach.child hr hmem hx hnl) q).weaken fun h => ⟨by simp only [explored, hx], h⟩)
    fuel
  case inner =>
    intro _ _ path n s _ _ _ h _ hC hr q
    refine (enterNode_grow h q).comp (hC hr (fun _ hx => hx) (H path n s hr) q) ?_ ?_ ?_
    · rintro rfl ⟨x, _, _, hx⟩; exact not_snoc_prefix_self _ _ hx
    · intro h; rw [h]; exact List.prefix_refl _
    · rintro ⟨x, _, _, hx⟩; exact (List.prefix_append path [x.1]).trans hx
  case skip =>
    refine fun _ hC hr hl hnd q => ?_
    refine (hC hr (fun x hx => hl x (List.mem_cons_of_mem _ hx)) ?_ q).weaken
      fun ⟨x, hx, hp⟩ => ⟨x, List.mem_cons_of_mem _ hx, hp⟩
    rw [List.filter_cons] at hnd
    split at hnd
    · exact (List.nodup_cons.1 hnd).2
    · exact hnd
  case cons =>
    intro _ path n s ps v rest _ _ _ _ _ _ _ hE hC hr hl hnd q
    have hnd2 : ((rest.filter (explored n s)).map (·.1)).Nodup := by
      rw [List.filter_cons] at hnd
      split at hnd
      · exact (List.nodup_cons.1 hnd).2
      · exact hnd
    refine (hE hr (hl _ List.mem_cons_self) q).comp
      (hC hr (fun x hx => hl x (List.mem_cons_of_mem _ hx)) hnd2 q) ?_
      (fun hp => ⟨(ps, v), List.mem_cons_self, hp⟩) fun ⟨x, hx, hp⟩ => ⟨x, List.mem_cons_of_mem _ hx, hp⟩
    -- two explored children of one loop go through different segments
    rintro ⟨hxp, hp⟩ ⟨x, hx, hxe, hp'⟩
    rw [List.filter_cons, if_pos hxp] at hnd
    exact (List.nodup_cons.1 hnd).1
      (List.mem_map.2 ⟨x, List.mem_filter.2 ⟨hx, hxe⟩, (prefix_snoc_inj hp hp').symm⟩)
  case linkGo =>
    intro _ _ _ n s ps c st _ _ _ hx hb hA hr hmem q
    obtain ⟨h1, h2, _⟩ := linkStep_some hb
    exact (linkStep_grow cfg c st (fun _ => False) q).comp (hA (Reach.link hr hmem hx h1 h2) q) (fun h _ => h)
      (fun h => h.elim) fun h => ⟨by simp only [explored, hx], h⟩

end

end Walk
end Ipld

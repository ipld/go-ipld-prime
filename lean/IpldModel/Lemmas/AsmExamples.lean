/-
  The values and histories that the examples of Props/C01.lean and Props/C12.lean run.
-/
import IpldModel.Model.Assembler
namespace Ipld
namespace Asm

/-- `{"a": 1, "b": 2}` -/
def exMap : DM := .map (.cons [97] (.int 1) (.cons [98] (.int 2) .nil))

/-- A history with three rejected calls: `AssembleEntry "a"` a second time, a key assembler given
    `"a"` again, and a key assembler given an integer before it is given `"b"`. -/
def exHistory : List Op :=
  [.beginMap 2, .assembleEntry [97], .assign (.int 1),
   .assembleEntry [97],                       -- rejected: repeated key
   .assembleKey, .assign (.str [97]),         -- rejected: repeated key; the map assembler is back
   .assembleKey, .assign (.int 5),            -- rejected: wrong kind; the key assembler still waits
   .assignNode (.str [98]), .assembleValue, .assign (.int 2), .finish]

/-- a nested value: `{"a": [1, {"x": null}], "b": "s"}` -/
def exNested : DM :=
  .map (.cons [97] (.list (.cons (.int 1) (.cons (.map (.cons [120] .null .nil)) .nil)))
       (.cons [98] (.str [115]) .nil))

/-- a variant plan for `exNested`: odd hints, the first entry opened through the key assembler,
    the inner map handed over with `AssignNode` -/
def exVariantPlan : List Op :=
  [.beginMap (-7), .assembleKey, .assign (.str [97]), .assembleValue,
     .beginList 1000, .assembleValue, .assign (.int 1),
       .assembleValue, .assignNode (.map (.cons [120] .null .nil)), .finish,
   .assembleEntry [98], .assign (.str [115]), .finish]

end Asm
end Ipld

/-
  Typed values and the type-level predicates on their own, no builder involved: what `conforms` says of each form of
  value (equations, and the types a conforming value of that form can have), what `conformsList`, `conformsMap`,
  `conformsStruct` say entry by entry, that `TL.ofDM` and `TL.toDM?` are inverse to each other, and what `TL.ofDM` and
  `normalize` do entry by entry.
-/
import IpldModel.Lemmas.SchemaBasic
import IpldModel.Lemmas.TLInduct
namespace Ipld
namespace Schema

theorem conforms_ne_absent {ty : Ty} {nul : Bool} {v : TL} (h : conforms ty nul v = true) : v ≠ .absent := by
  rintro rfl
  exact Bool.false_ne_true h

/-- Only `null` looks at the slot's nullability. -/
theorem conforms_mono_nul {ty : Ty} {nul : Bool} {v : TL} (h : conforms ty false v = true) :
    conforms ty nul v = true := by
  cases v with
  | absent => exact absurd rfl (conforms_ne_absent h)
  | null => exact absurd h Bool.false_ne_true
  | map _ => unfold conforms at h ⊢; exact h
  | _ => exact h

/-- What `conformsStruct` asks of one entry's value. -/
def fieldValOK (f : Field) (v : TL) : Bool :=
  match v with
  | .absent => f.opt
  | _ => conforms f.ty f.nullable v

theorem fieldValOK_of_conforms {f : Field} {v : TL} (h : conforms f.ty f.nullable v = true) :
    fieldValOK f v = true := by
  cases v with
  | absent => exact absurd rfl (conforms_ne_absent h)
  | _ => exact h

theorem fieldValOK_ne_absent (f : Field) {v : TL} (hv : v ≠ .absent) :
    fieldValOK f v = conforms f.ty f.nullable v := by
  cases v with
  | absent => exact absurd rfl hv
  | _ => rfl

theorem fieldValOK_absent_iff (f : Field) : fieldValOK f .absent = f.opt := rfl

theorem conformsStruct_cons (fs : List Field) (seen : List Bytes) (k : Bytes) (v : TL) (es : TLKVs) :
    conformsStruct fs seen (.cons k v es) =
      match fs.find? (fun f => f.name == k) with
      | none => false
      | some f => !seen.contains k && fieldValOK f v && conformsStruct fs (k :: seen) es := by
  rw [conformsStruct]; rfl

@[simp] theorem conforms_absent (ty : Ty) (nul : Bool) : conforms ty nul .absent = false := rfl
@[simp] theorem conforms_null (ty : Ty) (nul : Bool) : conforms ty nul .null = nul := rfl

theorem conforms_list (ty : Ty) (nul : Bool) (xs : TLs) :
    conforms ty nul (.list xs) =
      match ty with
      | .list ety enul => conformsList ety enul xs
      | .any => anyOK (.list xs)
      | _ => false := by
  cases ty <;> rfl

theorem conforms_map (ty : Ty) (nul : Bool) (es : TLKVs) :
    conforms ty nul (.map es) =
      match ty with
      | .map vty vnul => conformsMap vty vnul [] es
      | .struct fs _ => conformsStruct fs.toList [] es
      | .union ms _ =>
        match es with
        | .cons k v .nil =>
          match ms.toList.find? (fun m => m.name == k) with
          | some m => conforms m.ty false v
          | none => false
        | _ => false
      | .any => anyOK (.map es)
      | _ => false := by
  cases ty <;> first | rfl | skip
  rcases es with _ | ⟨k, v, _ | _⟩ <;> rfl

@[simp] theorem conforms_list_list (ety : Ty) (enul nul : Bool) (xs : TLs) :
    conforms (.list ety enul) nul (.list xs) = conformsList ety enul xs := rfl
@[simp] theorem conforms_map_map (vty : Ty) (vnul nul : Bool) (es : TLKVs) :
    conforms (.map vty vnul) nul (.map es) = conformsMap vty vnul [] es := conforms_map _ nul es
theorem conforms_union_map (ms : Members) (ur : UnionRepr) (nul : Bool) (k : Bytes) (v : TL) :
    conforms (.union ms ur) nul (.map (.cons k v .nil)) =
      match ms.toList.find? (fun m => m.name == k) with
      | some m => conforms m.ty false v
      | none => false := conforms_map _ nul _

theorem conformsList_cons (ety : Ty) (enul : Bool) (x : TL) (xs : TLs) :
    conformsList ety enul (.cons x xs) = (conforms ety enul x && conformsList ety enul xs) := rfl
theorem conformsMap_cons (vty : Ty) (vnul : Bool) (seen : List Bytes) (k : Bytes) (v : TL) (es : TLKVs) :
    conformsMap vty vnul seen (.cons k v es) =
      (!seen.contains k && conforms vty vnul v && conformsMap vty vnul (k :: seen) es) := rfl
theorem conformsStruct_nil (fs : List Field) (seen : List Bytes) :
    conformsStruct fs seen .nil = fs.all fun f => f.opt || seen.contains f.name := rfl

theorem conforms_of_ne_null (t : Ty) (nul : Bool) (v : TL) (hn : v ≠ .null) (h : conforms t nul v = true) :
    conforms t false v = true := by
  cases v <;> first | exact absurd rfl hn | (unfold conforms at h ⊢; exact h)

theorem conforms_list_cases {ty : Ty} {nul : Bool} {xs : TLs} (h : conforms ty nul (.list xs) = true) :
    (∃ ety enul, ty = .list ety enul ∧ conformsList ety enul xs = true) ∨ (ty = .any ∧ anyOK (.list xs) = true) := by
  cases ty <;> first | cases h | skip
  · exact .inr ⟨rfl, h⟩
  · exact .inl ⟨_, _, rfl, h⟩

theorem conforms_map_cases {ty : Ty} {nul : Bool} {es : TLKVs} (h : conforms ty nul (.map es) = true) :
    (∃ vty vnul, ty = .map vty vnul ∧ conformsMap vty vnul [] es = true) ∨
    (∃ fs sr, ty = .struct fs sr ∧ conformsStruct fs.toList [] es = true) ∨
    (∃ ms ur k v m, ty = .union ms ur ∧ es = .cons k v .nil ∧
      ms.toList.find? (fun m => m.name == k) = some m ∧ conforms m.ty false v = true) ∨
    (ty = .any ∧ anyOK (.map es) = true) := by
  rw [conforms_map] at h
  cases ty <;> first | cases h | skip
  · exact .inr (.inr (.inr ⟨rfl, h⟩))
  · exact .inl ⟨_, _, rfl, h⟩
  · exact .inr (.inl ⟨_, _, rfl, h⟩)
  · rename_i ms ur
    rcases es with _ | ⟨k, v, _ | _⟩ <;> first | cases h | skip
    dsimp only at h
    cases hm : ms.toList.find? (fun m => m.name == k) with
    | none => rw [hm] at h; cases h
    | some m => rw [hm] at h; exact .inr (.inr (.inl ⟨ms, ur, k, v, m, rfl, rfl, hm, h⟩))

theorem conforms_str_cases {ty : Ty} {nul : Bool} {s : Bytes} (h : conforms ty nul (.str s) = true) :
    ty = .str ∨ ty = .any ∨ ∃ ms r, ty = .enum ms r ∧ ms.any (fun m => m.name == s) = true := by
  cases ty <;> first | cases h | skip
  · exact .inl rfl
  · exact .inr (.inl rfl)
  · exact .inr (.inr ⟨_, _, rfl, h⟩)

theorem conforms_bool_cases {ty : Ty} {nul : Bool} {b : Bool} (h : conforms ty nul (.bool b) = true) :
    ty = .bool ∨ ty = .any := by
  cases ty <;> first | cases h | skip
  · exact .inl rfl
  · exact .inr rfl
theorem conforms_float_cases {ty : Ty} {nul : Bool} {f : UInt64} (h : conforms ty nul (.float f) = true) :
    ty = .float ∨ ty = .any := by
  cases ty <;> first | cases h | skip
  · exact .inl rfl
  · exact .inr rfl
theorem conforms_bytes_cases {ty : Ty} {nul : Bool} {b : Bytes} (h : conforms ty nul (.bytes b) = true) :
    ty = .bytes ∨ ty = .any := by
  cases ty <;> first | cases h | skip
  · exact .inl rfl
  · exact .inr rfl
theorem conforms_link_cases {ty : Ty} {nul : Bool} {c : Bytes} (h : conforms ty nul (.link c) = true) :
    ty = .link ∨ ty = .any := by
  cases ty <;> first | cases h | skip
  · exact .inl rfl
  · exact .inr rfl
theorem conforms_int_cases {ty : Ty} {nul : Bool} {i : Int} (h : conforms ty nul (.int i) = true) :
    ty = .int ∨ ty = .any := by
  cases ty <;> first | cases h | skip
  · exact .inl rfl
  · exact .inr rfl

theorem conformsList_iff {ety : Ty} {enul : Bool} : {xs : TLs} →
    (conformsList ety enul xs = true ↔ ∀ x ∈ xs.toList, conforms ety enul x = true)
  | .nil => ⟨fun _ _ hx => (nomatch hx), fun _ => rfl⟩
  | .cons x xs => by
    rw [conformsList_cons, Bool.and_eq_true, conformsList_iff (xs := xs), TLs.toList]
    exact (List.forall_mem_cons (p := fun y => conforms ety enul y = true)).symm

theorem keyed_check_iff {c : List Bytes → TLKVs → Bool} {P : Bytes × TL → Prop}
    (hcons : ∀ seen k v es, c seen (.cons k v es) = true ↔ k ∉ seen ∧ P (k, v) ∧ c (k :: seen) es = true) :
    (es : TLKVs) → (seen : List Bytes) →
    (c seen es = true ↔ (es.toList.map (·.1)).Nodup ∧ (∀ k ∈ es.toList.map (·.1), k ∉ seen) ∧
      (∀ p ∈ es.toList, P p) ∧ c ((es.toList.map (·.1)).reverse ++ seen) .nil = true)
  | .nil, _ => ⟨fun h => ⟨List.nodup_nil, fun _ hk => (nomatch hk), fun _ hp => (nomatch hp), h⟩, fun h => h.2.2.2⟩
  | .cons k v es, seen => by
    rw [hcons, keyed_check_iff hcons es (k :: seen), TLKVs.toList, List.map_cons, List.nodup_cons,
      List.forall_mem_cons, List.forall_mem_cons, List.reverse_cons, List.append_assoc]
    constructor
    · rintro ⟨hk, hp, hnd, hns, hall, hr⟩
      exact ⟨⟨fun hin => hns k hin List.mem_cons_self, hnd⟩,
        ⟨hk, fun a ha has => hns a ha (List.mem_cons_of_mem _ has)⟩, ⟨hp, hall⟩, hr⟩
    · rintro ⟨⟨hk', hnd⟩, ⟨hk, hns⟩, ⟨hp, hall⟩, hr⟩
      refine ⟨hk, hp, hnd, fun a ha has => ?_, hall, hr⟩
      rcases List.mem_cons.1 has with rfl | has
      · exact hk' ha
      · exact hns a ha has

theorem conformsMap_iff {vty : Ty} {vnul : Bool} {es : TLKVs} {seen : List Bytes} :
    conformsMap vty vnul seen es = true ↔
      (es.toList.map (·.1)).Nodup ∧ (∀ k ∈ es.toList.map (·.1), k ∉ seen) ∧
      ∀ p ∈ es.toList, conforms vty vnul p.2 = true := by
  rw [keyed_check_iff (c := conformsMap vty vnul) (P := fun p => conforms vty vnul p.2 = true) fun seen k v es => by
    rw [conformsMap_cons, Bool.and_eq_true, Bool.and_eq_true, Bool.not_eq_true', ← Bool.not_eq_true,
      List.contains_iff_mem, and_assoc]]
  exact ⟨fun h => ⟨h.1, h.2.1, h.2.2.1⟩, fun h => ⟨h.1, h.2.1, h.2.2, rfl⟩⟩

def FieldVals (F : List Field) (l : List (Bytes × TL)) : Prop :=
  ∀ e ∈ l, ∃ f, F.find? (fun f => f.name == e.1) = some f ∧ fieldValOK f e.2 = true

theorem fieldValOK_head {F : List Field} (hnd : (F.map (·.name)).Nodup) {f : Field} (hf : f ∈ F) {v : TL}
    {es : TLKVs} (hvals : FieldVals F (TLKVs.cons f.name v es).toList) : fieldValOK f v = true := by
  obtain ⟨f', hf', hok⟩ := hvals (f.name, v) List.mem_cons_self
  rw [find?_key_of_mem (·.name) hnd f hf] at hf'
  cases hf'
  exact hok

theorem conformsStruct_iff {F : List Field} {es : TLKVs} {seen : List Bytes} :
    conformsStruct F seen es = true ↔
      (es.toList.map (·.1)).Nodup ∧ (∀ k ∈ es.toList.map (·.1), k ∉ seen) ∧
      FieldVals F es.toList ∧
      ∀ f ∈ F, f.opt = true ∨ f.name ∈ seen ∨ f.name ∈ es.toList.map (·.1) := by
  rw [keyed_check_iff (c := conformsStruct F)
    (P := fun p => ∃ f, F.find? (fun f => f.name == p.1) = some f ∧ fieldValOK f p.2 = true) fun seen k v es => by
      rw [conformsStruct_cons]
      cases F.find? (fun f => f.name == k) with
      | none => exact ⟨nofun, fun h => nomatch h.2.1⟩
      | some f =>
        dsimp only
        rw [Bool.and_eq_true, Bool.and_eq_true, Bool.not_eq_true', ← Bool.not_eq_true, List.contains_iff_mem,
          and_assoc]
        exact and_congr_right fun _ => and_congr_left fun _ =>
          ⟨fun h => ⟨f, rfl, h⟩, fun ⟨_, hf, h⟩ => Option.some.inj hf ▸ h⟩,
    conformsStruct_nil, List.all_eq_true]
  refine and_congr_right fun _ => and_congr_right fun _ => and_congr_right fun _ => forall₂_congr fun f _ => ?_
  rw [Bool.or_eq_true, List.contains_iff_mem, List.mem_append, List.mem_reverse]
  exact or_congr_right or_comm

theorem anyOKs_iff : {xs : TLs} → (anyOKs xs = true ↔ ∀ x ∈ xs.toList, anyOK x = true)
  | .nil => ⟨fun _ _ hx => (nomatch hx), fun _ => rfl⟩
  | .cons x xs => by
    rw [anyOKs, Bool.and_eq_true, anyOKs_iff (xs := xs), TLs.toList]
    exact (List.forall_mem_cons (p := fun y => anyOK y = true)).symm

theorem anyOKkv_iff {es : TLKVs} {seen : List Bytes} :
    anyOKkv seen es = true ↔
      (es.toList.map (·.1)).Nodup ∧ (∀ k ∈ es.toList.map (·.1), k ∉ seen) ∧ ∀ p ∈ es.toList, anyOK p.2 = true := by
  rw [keyed_check_iff (c := anyOKkv) (P := fun p => anyOK p.2 = true) fun seen k v es => by
    rw [anyOKkv, Bool.and_eq_true, Bool.and_eq_true, Bool.not_eq_true', ← Bool.not_eq_true, List.contains_iff_mem,
      and_assoc]]
  exact ⟨fun h => ⟨h.1, h.2.1, h.2.2.1⟩, fun h => ⟨h.1, h.2.1, h.2.2, rfl⟩⟩

theorem conforms_list_ofList (ety : Ty) (enul : Bool) {nul : Bool} (ys : List TL)
    (h : ∀ y ∈ ys, conforms ety enul y = true) : conforms (.list ety enul) nul (.list (TLs.ofList ys)) = true :=
  conformsList_iff.2 (by rw [TLs.toList_ofList]; exact h)

theorem conforms_map_ofList (vty : Ty) (vnul : Bool) {nul : Bool} (ys : List (Bytes × TL))
    (hnd : (ys.map (·.1)).Nodup) (hc : ∀ e ∈ ys, conforms vty vnul e.2 = true) :
    conforms (.map vty vnul) nul (.map (TLKVs.ofList ys)) = true := by
  rw [conforms_map_map, conformsMap_iff, TLKVs.toList_ofList]
  exact ⟨hnd, fun _ _ => List.not_mem_nil, hc⟩

theorem conformsStruct_cons_inv {F : List Field} (hnd : (F.map (·.name)).Nodup) {seen : List Bytes}
    {f : Field} (hf : f ∈ F) {v : TL} {es : TLKVs}
    (h : conformsStruct F seen (.cons f.name v es) = true) :
    fieldValOK f v = true ∧ conformsStruct F (f.name :: seen) es = true := by
  rw [conformsStruct_cons, find?_key_of_mem (·.name) hnd f hf] at h
  simp only [Bool.and_eq_true] at h
  exact ⟨h.1.2, h.2⟩

def entriesOK : List Field → List (Bytes × TL) → Prop
  | [], [] => True
  | f :: fs, e :: es => e.1 = f.name ∧ fieldValOK f e.2 = true ∧ entriesOK fs es
  | _, _ => False

theorem entriesOK_keys : (fs : List Field) → (es : List (Bytes × TL)) → entriesOK fs es →
    es.map (·.1) = fs.map (·.name)
  | [], [], _ => rfl
  | [], _ :: _, h | _ :: _, [], h => h.elim
  | f :: fs, e :: es, h => by
    rw [List.map_cons, List.map_cons, h.1, entriesOK_keys fs es h.2.2]

theorem conformsStruct_canon (fs : List Field) (hnd : (fs.map (·.name)).Nodup) :
    (suf : List Field) → (pre : List Field) → (seen : List Bytes) → (es : List (Bytes × TL)) →
    fs = pre ++ suf → (∀ k, seen.contains k = true ↔ k ∈ pre.map (·.name)) → entriesOK suf es →
    conformsStruct fs seen (TLKVs.ofList es) = true
  | [], pre, seen, [] => fun hfs hseen _ => by
    rw [List.append_nil] at hfs
    rw [TLKVs.ofList_nil, conformsStruct, List.all_eq_true]
    intro f hf
    rw [Bool.or_eq_true, hseen]
    exact .inr (List.mem_map_of_mem (hfs ▸ hf))
  | [], _, _, _ :: _ => fun _ _ h => h.elim
  | _ :: _, _, _, [] => fun _ _ h => h.elim
  | f :: suf, pre, seen, (k, v) :: es => fun hfs hseen h => by
    obtain ⟨hk, hv, hrest⟩ := h
    cases hk
    have hnotseen : seen.contains f.name = false := by
      rw [← Bool.not_eq_true, hseen]
      intro hin
      rw [hfs, List.map_append] at hnd
      exact (List.nodup_append.1 hnd).2.2 _ hin f.name List.mem_cons_self rfl
    rw [TLKVs.ofList_cons, conformsStruct_cons,
      find?_key_of_mem (·.name) hnd f (hfs ▸ List.mem_append_right _ List.mem_cons_self)]
    simp only [hnotseen, hv, Bool.not_false, Bool.true_and]
    refine conformsStruct_canon fs hnd suf (pre ++ [f]) (f.name :: seen) es
      (by rw [hfs, List.append_assoc]; rfl) (fun k => ?_) hrest
    rw [List.contains_cons, Bool.or_eq_true, beq_iff_eq, hseen, List.map_append, List.mem_append,
      List.map_cons, List.map_nil, List.mem_singleton]
    exact or_comm

theorem conforms_struct_of_entriesOK (fs : Fields) (r : StructRepr) (nul : Bool)
    (hnd : (fs.toList.map (·.name)).Nodup) (es : List (Bytes × TL)) (h : entriesOK fs.toList es) :
    conforms (.struct fs r) nul (.map (TLKVs.ofList es)) = true :=
  conformsStruct_canon fs.toList hnd fs.toList [] [] es rfl (fun _ => ⟨nofun, nofun⟩) h

theorem entriesOK_map (g : Field → Bytes × TL) (fs : List Field)
    (h : ∀ f ∈ fs, (g f).1 = f.name ∧ fieldValOK f (g f).2 = true) : entriesOK fs (fs.map g) := by
  induction fs with
  | nil => trivial
  | cons f fs ih =>
    exact ⟨(h f List.mem_cons_self).1, (h f List.mem_cons_self).2,
      ih fun f' hf' => h f' (List.mem_cons_of_mem f hf')⟩

theorem conforms_union_single {ms : Members} {ur : UnionRepr} {nul : Bool}
    (hnd : (ms.toList.map (·.name)).Nodup) {m : Member} (hm : m ∈ ms.toList) {tv : TL}
    (h : conforms m.ty false tv = true) :
    conforms (.union ms ur) nul (.map (.cons m.name tv .nil)) = true := by
  rw [conforms_union_map, find?_key_of_mem (·.name) hnd m hm]
  exact h

def wrapMember (n : Bytes) (v : TL) : TL := .map (.cons n v .nil)

/-- the entries of the map representation: present fields under their representation keys -/
def mapEntries (fs : List Field) (vals : List (Option DM)) : List (Bytes × DM) :=
  (fs.zip vals).filterMap fun (f, ov) => ov.map fun d => (f.rename, d)

/-- the entries of the listpairs representation: `[name, value]` for the present fields -/
def pairEntries (fs : List Field) (vals : List (Option DM)) : List DM :=
  (fs.zip vals).filterMap fun (f, ov) => ov.map fun d => DM.list (.cons (.str f.name) (.cons d .nil))

@[simp] theorem mapEntries_none (f : Field) (fs : List Field) (vals : List (Option DM)) :
    mapEntries (f :: fs) (none :: vals) = mapEntries fs vals := rfl
@[simp] theorem mapEntries_some (f : Field) (fs : List Field) (d : DM) (vals : List (Option DM)) :
    mapEntries (f :: fs) (some d :: vals) = (f.rename, d) :: mapEntries fs vals := rfl
@[simp] theorem mapEntries_nil (vals : List (Option DM)) : mapEntries [] vals = [] := rfl
@[simp] theorem pairEntries_none (f : Field) (fs : List Field) (vals : List (Option DM)) :
    pairEntries (f :: fs) (none :: vals) = pairEntries fs vals := rfl
@[simp] theorem pairEntries_some (f : Field) (fs : List Field) (d : DM) (vals : List (Option DM)) :
    pairEntries (f :: fs) (some d :: vals) =
      DM.list (.cons (.str f.name) (.cons d .nil)) :: pairEntries fs vals := rfl
@[simp] theorem pairEntries_nil (vals : List (Option DM)) : pairEntries [] vals = [] := rfl

theorem reprFields_cons_absent (f : Field) (fs : List Field) (es : TLKVs) (ho : f.opt = true) :
    reprFields (f :: fs) (.cons f.name .absent es) = (reprFields fs es).map (none :: ·) := by
  rw [reprFields, bne_self_eq_false, if_neg Bool.false_ne_true]
  exact if_pos ho

theorem reprFields_cons_present (f : Field) (fs : List Field) (v : TL) (es : TLKVs) (d : DM)
    (r : List (Option DM)) (hne : v ≠ .absent) (hd : toRepr f.ty f.nullable v = some d)
    (hr : reprFields fs es = some r) :
    reprFields (f :: fs) (.cons f.name v es) = some (some d :: r) := by
  rw [reprFields, bne_self_eq_false, if_neg Bool.false_ne_true, hd, hr]
  exact hne

theorem reprFields_nil_inv {es : TLKVs} {vals : List (Option DM)} (h : reprFields [] es = some vals) :
    es = .nil ∧ vals = [] := by
  cases es with
  | nil => cases h; exact ⟨rfl, rfl⟩
  | cons k v es => cases h

theorem reprFields_cons_nil (f : Field) (fs : List Field) : reprFields (f :: fs) .nil = none := rfl

theorem reprFields_cons_inv {f : Field} {fs : List Field} {k : Bytes} {v : TL} {es : TLKVs}
    {vals : List (Option DM)} (h : reprFields (f :: fs) (.cons k v es) = some vals) :
    k = f.name ∧ ∃ vals', reprFields fs es = some vals' ∧
      ((v = .absent ∧ f.opt = true ∧ vals = none :: vals') ∨
       (v ≠ .absent ∧ ∃ d, toRepr f.ty f.nullable v = some d ∧ vals = some d :: vals')) := by
  unfold reprFields at h
  split at h
  · cases h
  · next hk =>
    refine ⟨Decidable.byContradiction fun hne => hk (bne_iff_ne.2 hne), ?_⟩
    split at h
    · split at h
      · next ho =>
        obtain ⟨vals', hv, rfl⟩ := Option.map_eq_some_iff.1 h
        exact ⟨vals', hv, Or.inl ⟨rfl, ho, rfl⟩⟩
      · cases h
    · next hne =>
      split at h
      · next d r hd hr => cases h; exact ⟨r, hr, Or.inr ⟨fun hv => hne hv, d, hd, rfl⟩⟩
      · cases h

theorem reprFields_keys : (fs : List Field) → (es : TLKVs) → (vals : List (Option DM)) →
    reprFields fs es = some vals → es.toList.map (·.1) = fs.map (·.name) := by
  intro fs
  induction fs with
  | nil => intro es vals h; obtain ⟨rfl, _⟩ := reprFields_nil_inv h; rfl
  | cons f fs ih =>
    intro es vals h
    cases es with
    | nil => cases h
    | cons k v es =>
      obtain ⟨hk, vals', hv, _⟩ := reprFields_cons_inv h
      rw [TLKVs.toList, List.map_cons, List.map_cons, hk, ih es vals' hv]

theorem reprFields_length {fs es vals} (h : reprFields fs es = some vals) : vals.length = fs.length := by
  induction fs generalizing es vals with
  | nil => obtain ⟨_, rfl⟩ := reprFields_nil_inv h; rfl
  | cons f fs ih =>
    cases es with
    | nil => cases h
    | cons k v es =>
      obtain ⟨_, vals', hv, h2⟩ := reprFields_cons_inv h
      rcases h2 with ⟨_, _, rfl⟩ | ⟨_, d, _, rfl⟩ <;> exact congrArg (· + 1) (ih hv)

theorem toRepr_enum (ms : List EnumMember) (r : EnumRepr) (nul : Bool) (s : Bytes) :
    toRepr (.enum ms r) nul (.str s) =
      match ms.find? (fun m => m.name == s) with
      | some m => (match r with | .str => some (.str m.rstr) | .int => some (.int m.rint))
      | none => none := rfl

theorem toRepr_union (ms : Members) (ur : UnionRepr) (nul : Bool) (k : Bytes) (v : TL) :
    toRepr (.union ms ur) nul (.map (.cons k v .nil)) =
      match ms.toList.find? (fun m => m.name == k) with
      | none => none
      | some m =>
        match toRepr m.ty false v with
        | none => none
        | some d =>
          match ur with
          | .keyed => some (.map (.cons m.disc d .nil))
          | .kinded => some d
          | .stringprefix delim =>
            match d with
            | .str s => some (.str (m.disc ++ delim ++ s))
            | _ => none := rfl

theorem toRepr_struct (fs : Fields) (sr : StructRepr) (nul : Bool) (es : TLKVs) :
    toRepr (.struct fs sr) nul (.map es) =
      match reprFields fs.toList es with
      | none => none
      | some vals =>
        match sr with
        | .map => some (.map (DMKVs.ofList (mapEntries fs.toList vals)))
        | .listpairs => some (.list (DMs.ofList (pairEntries fs.toList vals)))
        | .tuple => (allSome (dropTrailingNone vals)).map fun ds => .list (DMs.ofList ds)
        | .stringjoin delim =>
          match allSome vals with
          | none => none
          | some ds => (allStr ds).map fun ss => .str (joinBytes delim ss) := rfl

theorem toRepr_struct_map (fs : Fields) (nul : Bool) (es : TLKVs) :
    toRepr (.struct fs .map) nul (.map es) =
      (reprFields fs.toList es).map fun vals => .map (DMKVs.ofList (mapEntries fs.toList vals)) := by
  rw [toRepr_struct]; cases reprFields fs.toList es <;> rfl

theorem toRepr_struct_listpairs (fs : Fields) (nul : Bool) (es : TLKVs) :
    toRepr (.struct fs .listpairs) nul (.map es) =
      (reprFields fs.toList es).map fun vals => .list (DMs.ofList (pairEntries fs.toList vals)) := by
  rw [toRepr_struct]; cases reprFields fs.toList es <;> rfl

theorem toRepr_struct_tuple (fs : Fields) (nul : Bool) (es : TLKVs) :
    toRepr (.struct fs .tuple) nul (.map es) =
      match reprFields fs.toList es with
      | none => none
      | some vals => (allSome (dropTrailingNone vals)).map fun ds => .list (DMs.ofList ds) :=
  toRepr_struct fs .tuple nul es

theorem toRepr_struct_stringjoin (fs : Fields) (delim : Bytes) (nul : Bool) (es : TLKVs) :
    toRepr (.struct fs (.stringjoin delim)) nul (.map es) =
      match reprFields fs.toList es with
      | none => none
      | some vals =>
        match allSome vals with
        | none => none
        | some ds => (allStr ds).map fun ss => .str (joinBytes delim ss) :=
  toRepr_struct fs (.stringjoin delim) nul es

theorem allSome_eq_some {α : Type} {l : List (Option α)} {ds : List α} (h : allSome l = some ds) :
    l = ds.map some := by
  induction l generalizing ds with
  | nil => cases h; rfl
  | cons x l ih =>
    cases x with
    | none => cases h
    | some a =>
      obtain ⟨r, hr, rfl⟩ := Option.map_eq_some_iff.1 h
      exact congrArg (some a :: ·) (ih hr)

theorem eq_replicate_none {α : Type} : (l : List (Option α)) → (∀ x ∈ l, x.isNone = true) →
    l = List.replicate l.length none := by
  intro l
  induction l with
  | nil => intro _; rfl
  | cons x l ih =>
    intro h
    cases x with
    | some _ => cases h _ List.mem_cons_self
    | none => exact congrArg (none :: ·) (ih fun y hy => h y (List.mem_cons_of_mem _ hy))

theorem dropTrailingNone_spec {α : Type} (l : List (Option α)) :
    ∃ n, l = dropTrailingNone l ++ List.replicate n none := by
  have h3 := eq_replicate_none (l.reverse.takeWhile Option.isNone) (List.all_eq_true.1 List.all_takeWhile)
  refine ⟨(l.reverse.takeWhile Option.isNone).length, ?_⟩
  rw [← List.reverse_replicate, ← h3, dropTrailingNone, ← List.reverse_append, List.takeWhile_append_dropWhile,
    List.reverse_reverse]

theorem tuple_vals {vals : List (Option DM)} {ds : List DM}
    (h : allSome (dropTrailingNone vals) = some ds) :
    ∃ n, vals = ds.map some ++ List.replicate n none := by
  obtain ⟨n, hn⟩ := dropTrailingNone_spec vals
  rw [allSome_eq_some h] at hn
  exact ⟨n, hn⟩

theorem allSome_cons_some {α : Type} {a : α} {l ds} (h : allSome (some a :: l) = some ds) :
    ∃ ds', allSome l = some ds' ∧ ds = a :: ds' := by
  obtain ⟨r, hr, rfl⟩ := Option.map_eq_some_iff.1 h
  exact ⟨r, hr, rfl⟩

theorem allStr_cons {d l ss} (h : allStr (d :: l) = some ss) :
    ∃ p ss', d = .str p ∧ allStr l = some ss' ∧ ss = p :: ss' := by
  cases d with
  | str p =>
    obtain ⟨r, hr, rfl⟩ := Option.map_eq_some_iff.1 h
    exact ⟨p, r, rfl, hr, rfl⟩
  | _ => cases h

theorem allStr_length {l r} (h : allStr l = some r) : r.length = l.length := by
  induction l generalizing r with
  | nil => cases h; rfl
  | cons a l ih =>
    obtain ⟨p, ss', _, hss', rfl⟩ := allStr_cons h
    exact congrArg (· + 1) (ih hss')

theorem allSome_map_some {α : Type} : (ds : List α) → allSome (ds.map some) = some ds
  | [] => rfl
  | a :: ds => congrArg (Option.map (a :: ·)) (allSome_map_some ds)

theorem dropTrailingNone_split {α : Type} (ds : List α) (n : Nat) :
    dropTrailingNone (ds.map some ++ List.replicate n none) = ds.map some := by
  have h : (ds.map some).reverse.dropWhile Option.isNone = (ds.map some).reverse := by
    rw [← List.map_reverse]
    cases ds.reverse <;> rfl
  unfold dropTrailingNone
  rw [List.reverse_append, List.reverse_replicate,
    List.dropWhile_append_of_pos fun a ha => List.eq_of_mem_replicate ha ▸ rfl, h, List.reverse_reverse]

theorem allStr_map_str : (l : List Bytes) → allStr (l.map DM.str) = some l
  | [] => rfl
  | a :: l => congrArg (Option.map (a :: ·)) (allStr_map_str l)

mutual
theorem anyOK_ofDM_eq : (d : DM) → anyOK (TL.ofDM d) = d.noDupKeys
  | .null => rfl
  | .bool _ => rfl
  | .int _ => rfl
  | .float _ => rfl
  | .str _ => rfl
  | .bytes _ => rfl
  | .link _ => rfl
  | .list xs => anyOKs_ofDMs_eq xs
  | .map es => anyOKkv_ofDMKVs_eq es []
theorem anyOKs_ofDMs_eq : (xs : DMs) → anyOKs (TLs.ofDMs xs) = xs.noDupKeys
  | .nil => rfl
  | .cons x xs => congr (congrArg and (anyOK_ofDM_eq x)) (anyOKs_ofDMs_eq xs)
theorem anyOKkv_ofDMKVs_eq : (es : DMKVs) → (seen : List Bytes) →
    anyOKkv seen (TLKVs.ofDMKVs es) = es.noDupKeysIn seen
  | .nil, _ => rfl
  | .cons k v es, seen =>
    congr (congrArg (fun b => and (!seen.contains k && b)) (anyOK_ofDM_eq v)) (anyOKkv_ofDMKVs_eq es (k :: seen))
end

theorem ofDM_ne_absent (d : DM) : TL.ofDM d ≠ .absent := by
  intro h; cases d <;> cases h

theorem anyOKs_ofDMs : (xs : DMs) → xs.noDupKeys = true → anyOKs (TLs.ofDMs xs) = true :=
  fun xs h => (anyOKs_ofDMs_eq xs).trans h
theorem anyOKkv_ofDMKVs : (es : DMKVs) → (seen : List Bytes) → es.noDupKeysIn seen = true →
    anyOKkv seen (TLKVs.ofDMKVs es) = true :=
  fun es seen h => (anyOKkv_ofDMKVs_eq es seen).trans h

theorem conforms_any_of_noDup (d : DM) (hd : d ≠ .null) (h : d.noDupKeys = true) :
    conforms .any false (TL.ofDM d) = true := by
  cases d with
  | null => exact absurd rfl hd
  | list xs => exact (anyOK_ofDM_eq (.list xs)).trans h
  | map es => exact (anyOK_ofDM_eq (.map es)).trans h
  | _ => rfl

theorem fieldValOK_ofDM (f : Field) (d : DM) :
    fieldValOK f (TL.ofDM d) = conforms f.ty f.nullable (TL.ofDM d) := by
  cases d <;> rfl

theorem ofDM_toDM_all :
    (∀ v d, TL.toDM? v = some d → TL.ofDM d = v) ∧ (∀ xs ds, TLs.toDMs? xs = some ds → TLs.ofDMs ds = xs) ∧
    ∀ es ds, TLKVs.toDMKVs? es = some ds → TLKVs.ofDMKVs ds = es := by
  refine TL.value_induct ?_ ?_ ?_ ?_ ?_ ?_ ?_ ?_ ?_ ?_ ?_ ?_ ?_ ?_
  · exact fun _ h => nomatch h
  · intro _ h; cases h; rfl
  iterate 6 (intro _ _ h; cases h; rfl)
  · intro xs ih d h
    unfold TL.toDM? at h
    cases hys : xs.toDMs? with
    | none => rw [hys] at h; cases h
    | some ys => rw [hys] at h; cases h; exact congrArg TL.list (ih ys hys)
  · intro es ih d h
    unfold TL.toDM? at h
    cases hys : es.toDMKVs? with
    | none => rw [hys] at h; cases h
    | some ys => rw [hys] at h; cases h; exact congrArg TL.map (ih ys hys)
  · intro _ h; cases h; rfl
  · intro x xs ihx ihs ds h
    unfold TLs.toDMs? at h
    split at h
    · next y ys hy hys => cases h; exact congr (congrArg TLs.cons (ihx y hy)) (ihs ys hys)
    · cases h
  · intro _ h; cases h; rfl
  · intro k x xs ihx ihs ds h
    unfold TLKVs.toDMKVs? at h
    split at h
    · next y ys hy hys => cases h; exact congr (congrArg (TLKVs.cons k) (ihx y hy)) (ihs ys hys)
    · cases h

theorem ofDM_of_toDM {v : TL} {d : DM} (h : v.toDM? = some d) : TL.ofDM d = v := ofDM_toDM_all.1 v d h
theorem ofDMs_of_toDMs : (xs : TLs) → (ds : DMs) → xs.toDMs? = some ds → TLs.ofDMs ds = xs := ofDM_toDM_all.2.1
theorem ofDMKVs_of_toDMKVs : (es : TLKVs) → (ds : DMKVs) → es.toDMKVs? = some ds → TLKVs.ofDMKVs ds = es :=
  ofDM_toDM_all.2.2

mutual
theorem toDM_ofDM : (d : DM) → TL.toDM? (TL.ofDM d) = some d
  | .null | .bool _ | .int _ | .float _ | .str _ | .bytes _ | .link _ => rfl
  | .list xs => by rw [TL.ofDM, TL.toDM?, toDMs_ofDMs xs]
  | .map es => by rw [TL.ofDM, TL.toDM?, toDMKVs_ofDMKVs es]
theorem toDMs_ofDMs : (xs : DMs) → TLs.toDMs? (TLs.ofDMs xs) = some xs
  | .nil => rfl
  | .cons x xs => by rw [TLs.ofDMs, TLs.toDMs?, toDM_ofDM x, toDMs_ofDMs xs]
theorem toDMKVs_ofDMKVs : (es : DMKVs) → TLKVs.toDMKVs? (TLKVs.ofDMKVs es) = some es
  | .nil => rfl
  | .cons k x xs => by rw [TLKVs.ofDMKVs, TLKVs.toDMKVs?, toDM_ofDM x, toDMKVs_ofDMKVs xs]
end

theorem ofDMs_toList : (xs : DMs) → (TLs.ofDMs xs).toList = xs.toList.map TL.ofDM
  | .nil => rfl
  | .cons x xs => by simp only [TLs.ofDMs, TLs.toList, DMs.toList, List.map_cons, ofDMs_toList xs]

theorem ofDMKVs_toList : (es : DMKVs) → (TLKVs.ofDMKVs es).toList = es.toList.map fun p => (p.1, TL.ofDM p.2)
  | .nil => rfl
  | .cons k v es => by simp only [TLKVs.ofDMKVs, TLKVs.toList, DMKVs.toList, List.map_cons, ofDMKVs_toList es]

theorem ofDMKVs_keys (es : DMKVs) : (TLKVs.ofDMKVs es).toList.map (·.1) = es.toList.map (·.1) := by
  rw [ofDMKVs_toList, List.map_map]; rfl

theorem normalizeList_toList (ety : Ty) : (xs : TLs) → (normalizeList ety xs).toList = xs.toList.map (normalize ety)
  | .nil => rfl
  | .cons x xs => by simp only [normalizeList, TLs.toList, List.map_cons, normalizeList_toList ety xs]

theorem normalizeMap_toList (vty : Ty) : (es : TLKVs) →
    (normalizeMap vty es).toList = es.toList.map fun p => (p.1, normalize vty p.2)
  | .nil => rfl
  | .cons k v es => by simp only [normalizeMap, TLKVs.toList, List.map_cons, normalizeMap_toList vty es]

theorem tls_eq_ofList {xs : TLs} {l : List TL} (h : xs.toList = l) : xs = TLs.ofList l := by
  rw [← h, TLs.ofList_toList]

theorem tlkvs_eq_ofList {es : TLKVs} {l : List (Bytes × TL)} (h : es.toList = l) : es = TLKVs.ofList l := by
  rw [← h, TLKVs.ofList_toList]

theorem ofDMs_ofList (l : List DM) : TLs.ofDMs (DMs.ofList l) = TLs.ofList (l.map TL.ofDM) :=
  tls_eq_ofList (by rw [ofDMs_toList, DMs.toList_ofList])

theorem ofDMKVs_ofList (l : List (Bytes × DM)) :
    TLKVs.ofDMKVs (DMKVs.ofList l) = TLKVs.ofList (l.map fun p => (p.1, TL.ofDM p.2)) :=
  tlkvs_eq_ofList (by rw [ofDMKVs_toList, DMKVs.toList_ofList])

theorem normalizeList_map (ety : Ty) (l : List TL) :
    normalizeList ety (TLs.ofList l) = TLs.ofList (l.map (normalize ety)) :=
  tls_eq_ofList (by rw [normalizeList_toList, TLs.toList_ofList])

theorem normalizeMap_map (vty : Ty) (l : List (Bytes × TL)) :
    normalizeMap vty (TLKVs.ofList l) = TLKVs.ofList (l.map fun p => (p.1, normalize vty p.2)) :=
  tlkvs_eq_ofList (by rw [normalizeMap_toList, TLKVs.toList_ofList])

theorem anyOK_toDM :
    (∀ v, anyOK v = true → ∃ d, v.toDM? = some d) ∧ (∀ xs, anyOKs xs = true → ∃ ds, xs.toDMs? = some ds) ∧
    ∀ es seen, anyOKkv seen es = true → ∃ ds, es.toDMKVs? = some ds := by
  apply TL.value_induct
  · exact nofun
  iterate 7 (intros; exact ⟨_, rfl⟩)
  · intro xs ih h
    obtain ⟨ys, hys⟩ := ih h
    exact ⟨.list ys, by simp only [TL.toDM?, hys]⟩
  · intro es ih h
    obtain ⟨ys, hys⟩ := ih [] h
    exact ⟨.map ys, by simp only [TL.toDM?, hys]⟩
  · exact fun _ => ⟨_, rfl⟩
  · intro x xs ihx ihs h
    simp only [anyOKs, Bool.and_eq_true] at h
    obtain ⟨d, hd⟩ := ihx h.1
    obtain ⟨ds, hds⟩ := ihs h.2
    exact ⟨.cons d ds, by simp only [TLs.toDMs?, hd, hds]⟩
  · exact fun _ _ => ⟨_, rfl⟩
  · intro k x xs ihx ihs seen h
    simp only [anyOKkv, Bool.and_eq_true] at h
    obtain ⟨d, hd⟩ := ihx h.1.2
    obtain ⟨ds, hds⟩ := ihs _ h.2
    exact ⟨.cons k d ds, by simp only [TLKVs.toDMKVs?, hd, hds]⟩

theorem toDM_of_anyOK {v : TL} : anyOK v = true → ∃ d, v.toDM? = some d := anyOK_toDM.1 v
theorem toDMs_of_anyOKs : (xs : TLs) → anyOKs xs = true → ∃ ds, xs.toDMs? = some ds := anyOK_toDM.2.1
theorem toDMKVs_of_anyOKkv : (es : TLKVs) → (seen : List Bytes) → anyOKkv seen es = true →
    ∃ ds, es.toDMKVs? = some ds := anyOK_toDM.2.2

end Schema
end Ipld

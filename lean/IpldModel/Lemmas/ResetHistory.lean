/-
  Histories with `Reset()` over any step function `σ → Op → σ × Out` and any `reset : σ → σ` (the new builder of the same
  type): without a reset they are `Hist.run`; what every call keeps and a reset restores, every such history keeps; only
  the calls after the last reset count.  `Call`, `hasReset`, `opsOf`, `tailOps` live in the typed model, hence the import;
  `TAsm.runC` and `RAsm.runC` are instances, defined in Model/ because those are the executable models the harness runs.
-/
import IpldModel.Model.TypedAssembler
import IpldModel.Lemmas.EraseHistory
namespace Ipld
namespace TAsm

theorem map_opsOf_of_noReset : (h : List Call) → hasReset h = false → (opsOf h).map .op = h
  | [], _ => rfl
  | .op o :: cs, hr => by
    simp only [hasReset] at hr
    simp only [opsOf, List.map_cons, map_opsOf_of_noReset cs hr]
  | .reset :: cs, hr => by simp [hasReset] at hr

theorem tailOps_of_noReset : (h : List Call) → hasReset h = false → tailOps h = opsOf h
  | [], _ => rfl
  | .op o :: cs, hr => by
    simp only [hasReset] at hr
    simp only [tailOps, hr, opsOf]
    rfl
  | .reset :: cs, hr => by simp [hasReset] at hr

end TAsm

namespace Hist
open Ipld.Asm (Op Out ErrClass)
open Ipld.TAsm (Call opsOf hasReset tailOps map_opsOf_of_noReset tailOps_of_noReset)

variable {σ : Type}

/-- Run a history with resets.  The Bool says that a call has panicked since the last `Reset`: from then on nothing is
    claimed - the calls are passed over, without an answer - up to the next `Reset`. -/
def runC (step : σ → Op → σ × Out) (reset : σ → σ) : Bool → σ → List Call → σ × List Out
  | _, st, [] => (st, [])
  | _, st, .reset :: cs =>
    let r := runC step reset false (reset st) cs
    (r.1, .ok :: r.2)
  | true, st, .op _ :: cs => runC step reset true st cs
  | false, st, .op o :: cs =>
    match step st o with
    | (st', .panic) =>
      let r := runC step reset true st' cs
      (r.1, .panic :: r.2)
    | (st', out) =>
      let r := runC step reset false st' cs
      (r.1, out :: r.2)

variable {step : σ → Op → σ × Out} {reset : σ → σ}

theorem runC_reset (b : Bool) (s : σ) (h : List Call) :
    runC step reset b s (.reset :: h) =
      ((runC step reset false (reset s) h).1, .ok :: (runC step reset false (reset s) h).2) := by
  cases b <;> rfl

theorem runC_skip_op (s : σ) (o : Op) (h : List Call) :
    runC step reset true s (.op o :: h) = runC step reset true s h := rfl

theorem runC_op {s s' : σ} {o : Op} {out : Out} (h : List Call) (hs : step s o = (s', out)) :
    runC step reset false s (.op o :: h) =
      ((runC step reset (out matches .panic) s' h).1, out :: (runC step reset (out matches .panic) s' h).2) := by
  cases out <;> simp only [runC, hs]

theorem runC_skip_ops (s : σ) : (ops : List Op) → runC step reset true s (ops.map .op) = (s, [])
  | [] => rfl
  | o :: ops => by simp only [List.map_cons, runC_skip_op, runC_skip_ops s ops]

theorem runC_ops : (s : σ) → (ops : List Op) → runC step reset false s (ops.map .op) = run step s ops
  | s, [] => rfl
  | s, o :: ops => by
    rcases hs : step s o with ⟨s', _ | c | _⟩ <;> simp only [List.map_cons, runC_op _ hs]
    · rw [run_cons_ok hs, runC_ops s' ops]
    · rw [run_cons_err hs, runC_ops s' ops]
    · rw [run_cons_panic hs, runC_skip_ops]

theorem runC_state {P : σ → Prop} (hstep : ∀ s op, P s → P (step s op).1) (hreset : ∀ s, P s → P (reset s)) :
    (b : Bool) → (s : σ) → (h : List Call) → P s → P (runC step reset b s h).1
  | b, s, [], hs => by cases b <;> exact hs
  | b, s, .reset :: cs, hs => by rw [runC_reset]; exact runC_state hstep hreset false (reset s) cs (hreset s hs)
  | true, s, .op o :: cs, hs => by rw [runC_skip_op]; exact runC_state hstep hreset true s cs hs
  | false, s, .op o :: cs, hs => by
    have h1 := hstep s o hs
    rcases hst : step s o with ⟨s', out⟩
    rw [hst] at h1
    rw [runC_op cs hst]
    exact runC_state hstep hreset _ s' cs h1

theorem runC_tail (hstep : ∀ s op, reset (step s op).1 = reset s) (hreset : ∀ s, reset (reset s) = reset s) :
    (b : Bool) → (s : σ) → (h : List Call) → hasReset h = true →
    (runC step reset b s h).1 = (run step (reset s) (tailOps h)).1
  | b, s, [], hr => by simp [hasReset] at hr
  | b, s, .reset :: cs, _ => by
    rw [runC_reset]
    simp only [tailOps]
    cases hr : hasReset cs with
    | true => rw [runC_tail hstep hreset false (reset s) cs hr, hreset]
    | false => rw [tailOps_of_noReset cs hr, ← runC_ops (reset := reset), map_opsOf_of_noReset cs hr]
  | true, s, .op o :: cs, hr => by
    simp only [hasReset] at hr
    rw [runC_skip_op]
    simp only [tailOps, hr, if_true]
    exact runC_tail hstep hreset true s cs hr
  | false, s, .op o :: cs, hr => by
    simp only [hasReset] at hr
    simp only [tailOps, hr, if_true]
    have h1 := hstep s o
    rcases hs : step s o with ⟨s', out⟩
    rw [hs] at h1
    rw [runC_op cs hs, runC_tail hstep hreset _ s' cs hr, show reset s' = reset s from h1]

end Hist
end Ipld

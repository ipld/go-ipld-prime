/-
  Reading heads: `beVal`/`beBytes` inverse to one another, `take?` on appended input, the four
  argument widths (`Wide`), and what `readArg`/`readLen` read: on a shortest head, and whenever
  they succeed.
-/
import IpldModel.Lemmas.CborHead
import IpldModel.Lemmas.ExceptBind
import IpldModel.Spec.CborLimits
namespace Ipld
namespace Cbor

theorem beVal_beBytes (w n : Nat) : beVal (beBytes w n) = n % 256 ^ w := by
  induction w with
  | zero => simp [beBytes, beVal, Nat.mod_one]
  | succ w ih =>
    simp only [beBytes, beVal, beBytes_length, ih, UInt8.toNat_ofNat']
    rw [Nat.mod_pow_succ (b := 256)]
    have : n / 256 ^ w % 256 % 2 ^ 8 = n / 256 ^ w % 256 := by omega
    rw [this, Nat.mul_comm]; omega

theorem beVal_lt : (a : Bytes) → beVal a < 256 ^ a.length
  | [] => by simp [beVal]
  | b :: bs => by
    have ih := beVal_lt bs
    have hb := b.toNat_lt
    simp only [beVal, List.length_cons, Nat.pow_succ]
    have : b.toNat * 256 ^ bs.length ≤ 255 * 256 ^ bs.length := Nat.mul_le_mul_right _ (by omega)
    omega

theorem beBytes_add_mul (w : Nat) : ∀ n m, beBytes w (m * 256 ^ w + n) = beBytes w n := by
  induction w with
  | zero => intros; rfl
  | succ w ih =>
    intro n m
    have hp : 0 < 256 ^ w := Nat.pow_pos (by omega)
    have e : m * 256 ^ (w + 1) = 256 ^ w * (m * 256) := by
      rw [Nat.pow_succ, Nat.mul_comm (256 ^ w) 256, ← Nat.mul_assoc, Nat.mul_comm]
    have e2 : m * 256 ^ (w + 1) = (m * 256) * 256 ^ w := by rw [e, Nat.mul_comm]
    simp only [beBytes]
    congr 1
    · congr 1
      rw [e, Nat.mul_add_div hp]
      omega
    · rw [e2]; exact ih n (m * 256)

theorem beBytes_beVal : (a : Bytes) → beBytes a.length (beVal a) = a
  | [] => rfl
  | b :: bs => by
    have ih := beBytes_beVal bs
    have hlt := beVal_lt bs
    simp only [beVal, List.length_cons, beBytes]
    have hpos : 0 < 256 ^ bs.length := Nat.pow_pos (by omega)
    have e1 : (b.toNat * 256 ^ bs.length + beVal bs) / 256 ^ bs.length = b.toNat := by
      rw [Nat.mul_comm, Nat.mul_add_div hpos, Nat.div_eq_of_lt hlt]; rfl
    have hb := b.toNat_lt
    rw [e1, Nat.mod_eq_of_lt (by omega), UInt8.ofNat_toNat, beBytes_add_mul, ih]

theorem take?_append (a r : Bytes) : take? a.length (a ++ r) = .ok (a, r) := by
  simp [take?]

theorem take?_append' {n : Nat} {a : Bytes} (h : a.length = n) (r : Bytes) : take? n (a ++ r) = .ok (a, r) := by
  subst h; exact take?_append a r

theorem take?_ok {n : Nat} {bs a r : Bytes} (h : take? n bs = .ok (a, r)) : bs = a ++ r ∧ a.length = n := by
  unfold take? at h
  split at h
  · cases h
  · rename_i hl
    injection h with h
    injection h with h1 h2
    subst h1 h2
    simp; omega

/-- The additional info (low five bits of the first byte) of the shortest head with argument `n`. -/
def headInfo (n : Nat) : Nat :=
  if n < 24 then n else if n < 256 then 24 else if n < 65536 then 25 else if n < 4294967296 then 26 else 27

/-- The argument bytes that follow the first byte in the shortest head with argument `n`. -/
def headArg (n : Nat) : Bytes :=
  if n < 24 then [] else if n < 256 then beBytes 1 n else if n < 65536 then beBytes 2 n
  else if n < 4294967296 then beBytes 4 n else beBytes 8 n

theorem headInfo_le (n : Nat) : headInfo n ≤ 27 := by
  unfold headInfo
  split
  · omega
  · simp only [apply_ite (· ≤ 27), Nat.reduceLeDiff, ite_self]

theorem shortestHead_eq (m n : Nat) : Spec.shortestHead m n = UInt8.ofNat (32 * m + headInfo n) :: headArg n := by
  unfold Spec.shortestHead headInfo headArg
  simp only [spec_be_eq]
  by_cases h1 : n < 24
  · rw [if_pos h1, if_pos h1, if_pos h1]
  rw [if_neg h1, if_neg h1, if_neg h1]
  by_cases h2 : n < 256
  · rw [if_pos h2, if_pos h2, if_pos h2]
  rw [if_neg h2, if_neg h2, if_neg h2]
  by_cases h3 : n < 65536
  · rw [if_pos h3, if_pos h3, if_pos h3]
  rw [if_neg h3, if_neg h3, if_neg h3]
  by_cases h4 : n < 4294967296
  · rw [if_pos h4, if_pos h4, if_pos h4]
  · rw [if_neg h4, if_neg h4, if_neg h4]

theorem shortestHead_length_pos (m n : Nat) : 1 ≤ (Spec.shortestHead m n).length := by
  rw [shortestHead_eq]; simp

theorem head_append_pos (m n : Nat) (r : Bytes) : 1 ≤ (Spec.shortestHead m n ++ r).length := by
  rw [List.length_append]; exact Nat.le_trans (shortestHead_length_pos m n) (Nat.le_add_right _ _)

/-- The table of the four argument widths of a head: additional info `info` announces `w`
    argument bytes, and `thr` is the least argument for which `w` bytes are the shortest form. -/
def Wide (info w thr : Nat) : Prop :=
  (info = 24 ∧ w = 1 ∧ thr = 24) ∨ (info = 25 ∧ w = 2 ∧ thr = 256) ∨ (info = 26 ∧ w = 4 ∧ thr = 65536) ∨
    (info = 27 ∧ w = 8 ∧ thr = 4294967296)

theorem readArg_wide {info w thr : Nat} (h : Wide info w thr) (strict : Bool) (bs : Bytes) :
    readArg strict info bs =
      take? w bs >>= fun p => if strict && beVal p.1 < thr then .error .nonMinimal else .ok (beVal p.1, p.2) := by
  rcases h with ⟨rfl, rfl, rfl⟩ | ⟨rfl, rfl, rfl⟩ | ⟨rfl, rfl, rfl⟩ | ⟨rfl, rfl, rfl⟩ <;> rfl

theorem wide_head {info w thr : Nat} (h : Wide info w thr) {n : Nat} (h1 : thr ≤ n) (h2 : n < 256 ^ w) :
    headInfo n = info ∧ headArg n = beBytes w n := by
  unfold headInfo headArg
  rcases h with ⟨rfl, rfl, rfl⟩ | ⟨rfl, rfl, rfl⟩ | ⟨rfl, rfl, rfl⟩ | ⟨rfl, rfl, rfl⟩
  · have a : ¬ n < 24 := by omega
    simp only [a, h2, if_true, if_false, and_self]
  · have a : ¬ n < 24 := by omega
    have b : ¬ n < 256 := by omega
    simp only [a, b, h2, if_true, if_false, and_self]
  · have a : ¬ n < 24 := by omega
    have b : ¬ n < 256 := by omega
    have c : ¬ n < 65536 := by omega
    simp only [a, b, c, h2, if_true, if_false, and_self]
  · have a : ¬ n < 24 := by omega
    have b : ¬ n < 256 := by omega
    have c : ¬ n < 65536 := by omega
    have d : ¬ n < 4294967296 := by omega
    simp only [a, b, c, d, if_false, and_self]

theorem wide_of_arg {n : Nat} (h1 : 24 ≤ n) (h2 : n < 2 ^ 64) :
    ∃ info w thr, Wide info w thr ∧ thr ≤ n ∧ n < 256 ^ w := by
  by_cases a : n < 256
  · exact ⟨24, 1, 24, Or.inl ⟨rfl, rfl, rfl⟩, h1, a⟩
  by_cases b : n < 65536
  · exact ⟨25, 2, 256, Or.inr (Or.inl ⟨rfl, rfl, rfl⟩), by omega, b⟩
  by_cases c : n < 4294967296
  · exact ⟨26, 4, 65536, Or.inr (Or.inr (Or.inl ⟨rfl, rfl, rfl⟩)), by omega, c⟩
  · exact ⟨27, 8, 4294967296, Or.inr (Or.inr (Or.inr ⟨rfl, rfl, rfl⟩)), by omega, h2⟩

theorem readArg_headArg (strict : Bool) (n : Nat) (hn : n < 2 ^ 64) (r : Bytes) :
    readArg strict (headInfo n) (headArg n ++ r) = .ok (n, r) := by
  by_cases h : n < 24
  · simp only [headInfo, headArg, h, if_true, readArg]; rfl
  · obtain ⟨info, w, thr, hw, h1, h2⟩ := wide_of_arg (by omega) hn
    obtain ⟨e1, e2⟩ := wide_head hw h1 h2
    rw [e1, e2, readArg_wide hw, take?_append' (beBytes_length _ _)]
    simp only [bind, Except.bind, beVal_beBytes, Nat.mod_eq_of_lt h2]
    rw [if_neg (by simp; omega)]

theorem readArg_ok {strict : Bool} {info n : Nat} {bs r : Bytes} (h : readArg strict info bs = .ok (n, r)) :
    ∃ a, bs = a ++ r ∧ n < 2 ^ 64 ∧ (strict = true → info = headInfo n ∧ a = headArg n) := by
  by_cases h0 : info < 24
  · simp only [readArg, h0, if_true] at h
    injection h with h; injection h with ha hb; subst ha hb
    exact ⟨[], rfl, by omega, fun _ => ⟨by simp only [headInfo, if_pos h0], by simp only [headArg, if_pos h0]⟩⟩
  · by_cases hw : ∃ w thr, Wide info w thr
    · obtain ⟨w, thr, hw⟩ := hw
      rw [readArg_wide hw] at h
      obtain ⟨⟨a, r'⟩, h1, h2⟩ := bind_ok h
      obtain ⟨rfl, hl⟩ := take?_ok h1
      simp only [] at h2
      split at h2
      · cases h2
      · rename_i hs
        injection h2 with h2; injection h2 with ha hb; subst ha hb
        have hlt := beVal_lt a
        have hwl : 256 ^ w ≤ 2 ^ 64 := by
          rcases hw with ⟨_, rfl, _⟩ | ⟨_, rfl, _⟩ | ⟨_, rfl, _⟩ | ⟨_, rfl, _⟩ <;> decide
        rw [hl] at hlt
        refine ⟨a, rfl, by omega, ?_⟩
        rintro rfl
        obtain ⟨e1, e2⟩ := wide_head hw (by simpa using hs) hlt
        rw [e1, e2, ← hl, beBytes_beVal]
        exact ⟨rfl, rfl⟩
    · have : readArg strict info bs = .error .badInfo := by
        unfold readArg Wide at *
        rw [if_neg h0, if_neg (fun e => hw ⟨1, 24, Or.inl ⟨e, rfl, rfl⟩⟩),
          if_neg (fun e => hw ⟨2, 256, Or.inr (Or.inl ⟨e, rfl, rfl⟩)⟩),
          if_neg (fun e => hw ⟨4, 65536, Or.inr (Or.inr (Or.inl ⟨e, rfl, rfl⟩))⟩),
          if_neg (fun e => hw ⟨8, 4294967296, Or.inr (Or.inr (Or.inr ⟨e, rfl, rfl⟩))⟩)]
      rw [this] at h; cases h

theorem readLen_headArg (strict : Bool) (n : Nat) (hn : n < 2 ^ 63) (r : Bytes) :
    readLen strict (headInfo n) (headArg n ++ r) = .ok (n, r) := by
  unfold readLen
  rw [readArg_headArg strict n (by omega) r]
  exact if_neg (by omega)

theorem readLen_ok {strict : Bool} {info n : Nat} {bs r : Bytes} (h : readLen strict info bs = .ok (n, r)) :
    ∃ a, bs = a ++ r ∧ n < 2 ^ 63 ∧ (strict = true → info = headInfo n ∧ a = headArg n) := by
  unfold readLen at h
  obtain ⟨⟨n', r'⟩, h1, h2⟩ := bind_ok h
  simp only [] at h2
  split at h2
  · cases h2
  · injection h2 with h2; injection h2 with ha hb; subst ha hb
    obtain ⟨a, e, _, hs⟩ := readArg_ok h1
    exact ⟨a, e, by omega, hs⟩

end Cbor
end Ipld

/-
  Soundness of the strict decoder: whatever it accepts denotes the value it returns.
-/
import IpldModel.Lemmas.CborDecComplete
namespace Ipld
namespace Cbor
open Spec

/-- What the bytes `b1` consumed by a successful `decItem` are: with no tag pending they denote the value; under a
    pending tag (which must be 42) they are the byte string holding 0x00 and the valid CID of the link returned. -/
def SoundPost (tag : Option Nat) (v : DM) (b1 : Bytes) : Prop :=
  match tag with
  | none => Denotes v b1
  | some t => t = 42 ∧ ∃ c, v = .link c ∧ cidValid c = true ∧ b1 = shortestHead 2 (c.length + 1) ++ (0 :: c)

def ItemSound (item : DS → R (DM × DS)) : Prop :=
  ∀ ⦃s v s'⦄, item s = .ok (v, s') → ∃ b1, s.rest = b1 ++ s'.rest ∧ Denotes v b1

theorem decList_sound {item : DS → R (DM × DS)} (hitem : ItemSound item) {n : Nat} {s : DS} {xs : List DM} {s' : DS}
    (h : decList item n s = .ok (xs, s')) :
    xs.length = n ∧ ∃ body, s.rest = body ++ s'.rest ∧ DenotesList (DMs.ofList xs) body :=
  decList_ind (P := fun s xs s' => ∃ body, s.rest = body ++ s'.rest ∧ DenotesList (DMs.ofList xs) body)
    (fun s => ⟨[], rfl, by simp only [DMs.ofList, DenotesList]⟩)
    (fun h1 ⟨b2, e2, d2⟩ => by
      obtain ⟨b1, e1, d1⟩ := hitem h1
      refine ⟨b1 ++ b2, by rw [e1, e2, List.append_assoc], ?_⟩
      simp only [DMs.ofList, DenotesList]
      exact ⟨b1, b2, rfl, d1, d2⟩) h

theorem decMap_sound {cfg : DecCfg} (hr : cfg.relaxed = false) {item : DS → R (DM × DS)} (hitem : ItemSound item)
    {n : Nat} {seen : List Bytes} {s : DS} {es : List (Bytes × DM)} {s' : DS}
    (h : decMap cfg item n seen s = .ok (es, s')) :
    es.length = n ∧ (es.map (·.1)).Nodup ∧ (∀ k ∈ es.map (·.1), k ∉ seen) ∧
      ∃ body, s.rest = body ++ s'.rest ∧ DenotesKVs (DMKVs.ofList es) body :=
  decMap_ind (P := fun seen s es s' => (es.map (·.1)).Nodup ∧ (∀ k ∈ es.map (·.1), k ∉ seen) ∧
      ∃ body, s.rest = body ++ s'.rest ∧ DenotesKVs (DMKVs.ofList es) body)
    (fun _ _ => ⟨List.nodup_nil, (fun _ hk => nomatch hk), [], rfl, by simp only [DMKVs.ofList, DenotesKVs]⟩)
    (fun {seen s k s1 v s3 es s4} h1 hseen h5 ⟨hnd, hdisj, b2, e2, d2⟩ => by
      obtain ⟨_, hd, ek, _, ehd⟩ := decKey_ok h1
      rw [ehd hr] at ek
      obtain ⟨b1, e1, d1⟩ := hitem h5
      simp only [] at e1
      refine ⟨List.nodup_cons.mpr ⟨fun hk => hdisj k hk List.mem_cons_self, hnd⟩, ?_,
        (shortestHead 3 k.length ++ k) ++ (b1 ++ b2), ?_, ?_⟩
      · intro k' hk'
        rcases List.mem_cons.mp hk' with rfl | hk'
        · simpa using hseen
        · exact fun hmem => hdisj k' hk' (List.mem_cons_of_mem _ hmem)
      · rw [ek, e1, e2]; simp only [List.append_assoc]
      · simp only [DMKVs.ofList, DenotesKVs]
        exact ⟨b1, b2, rfl, d1, d2⟩) h

section step
variable {cfg : DecCfg} {fuel depth : Nat} {extra : Int} {tag : Option Nat} {B : Int} {v : DM} {s' : DS}

theorem afterTok_sound (hr : cfg.relaxed = false) {t : Tok} {b1 r : Bytes} (hs : t.Spelt b1) (hw : t.Wf tag)
    (ih : ∀ d e tg ⦃s v s'⦄, decItem cfg fuel d e tg s = .ok (v, s') → ∃ b1, s.rest = b1 ++ s'.rest ∧ SoundPost tg v b1)
    (h : afterTok cfg fuel depth extra tag B t r = .ok (v, s')) :
    ∃ b2, b1 ++ r = b2 ++ s'.rest ∧ SoundPost tag v b2 := by
  cases t with
  | scalar w c =>
    obtain ⟨rfl, rfl, hr', _⟩ := finish_eq_ok h
    exact ⟨b1, by rw [hr'], hs⟩
  | bytes p n =>
    obtain ⟨rfl, _, hv⟩ := afterTok_bytes_ok h
    refine ⟨b1, rfl, ?_⟩
    rcases hv with ⟨rfl, rfl⟩ | ⟨rfl, c, rfl, hc, rfl⟩
    · exact hs
    · exact ⟨rfl, c, rfl, hc, hs⟩
  | list n =>
    simp only [afterTok] at h
    obtain ⟨rfl, _, _, h⟩ := decColl_ok h
    obtain ⟨⟨xs, s2⟩, h7, h8⟩ := bind_ok h
    injection h8 with h8; injection h8 with ha hb; subst ha hb
    obtain ⟨hl, body, e, d⟩ := decList_sound (ih (depth + 1) 4 none) h7
    obtain rfl : b1 = shortestHead 4 n := hs
    exact ⟨shortestHead 4 n ++ body, by rw [show r = body ++ s2.rest from e, List.append_assoc], body,
      by rw [DMs.length, DMs.toList_ofList, hl], d⟩
  | map n =>
    simp only [afterTok] at h
    obtain ⟨rfl, _, _, h⟩ := decColl_ok h
    obtain ⟨⟨es, s2⟩, h7, h8⟩ := bind_ok h
    injection h8 with h8; injection h8 with ha hb; subst ha hb
    obtain ⟨hl, hnd, _, body, e, d⟩ := decMap_sound hr (ih (depth + 1) 0 none) h7
    obtain rfl : b1 = shortestHead 5 n := hs
    exact ⟨shortestHead 5 n ++ body, by rw [show r = body ++ s2.rest from e, List.append_assoc],
      by rw [DMKVs.keys, DMKVs.toList_ofList]; exact hnd, body, by rw [DMKVs.length, DMKVs.toList_ofList, hl], d⟩
  | tag t =>
    obtain ⟨b2, e, rfl, c, rfl, hc, rfl⟩ := ih _ _ _ h
    obtain rfl : b1 = shortestHead 6 42 := hs
    obtain rfl : tag = none := hw.2
    exact ⟨_, by rw [show r = _ ++ s'.rest from e]; simp only [List.append_assoc], hc, rfl⟩

end step

theorem decItem_sound (cfg : DecCfg) (hr : cfg.relaxed = false) (hw : cfg.negWrap = false) :
    ∀ (fuel depth : Nat) (extra : Int) (tag : Option Nat) ⦃s : DS⦄ ⦃v : DM⦄ ⦃s' : DS⦄,
      decItem cfg fuel depth extra tag s = .ok (v, s') →
      ∃ b1, s.rest = b1 ++ s'.rest ∧ SoundPost tag v b1 := by
  intro fuel
  induction fuel with
  | zero => intro depth extra tag s v s' h; rw [decItem_zero] at h; cases h
  | succ fuel ih =>
    intro depth extra tag ⟨bs, B⟩ v s' h
    rw [decItem_eq] at h
    obtain ⟨⟨t, r⟩, h1, h2⟩ := bind_ok h
    obtain ⟨b1, rfl, _, hwf, hs⟩ := nextTok_ok h1
    exact afterTok_sound hr (hs hr hw) hwf ih h2

end Cbor
end Ipld

/-
  The Go value behind a built node is a well-typed inhabitant of the schema type, and wrapping it
  shows exactly what was assembled (`assignC_sound`, by induction over the children of the typed value: the facts about lists,
  entries and fields take the fact about the single values as a hypothesis).
-/
import IpldModel.Lemmas.GoBindCases
import IpldModel.Lemmas.SchemaValues
namespace Ipld
namespace GoBind
open Schema

theorem assignList_nil {g : GoTy} {t : Ty} {nul : Bool} : (xs : TLs) → assignList g t nul xs = some .nil → xs = .nil
  | .nil, _ => rfl
  | .cons x xs, h => by
    simp only [assignList, zipSome_eq_some] at h
    obtain ⟨_, _, _, _, h⟩ := h
    cases h

theorem conforms_false_of (t : Ty) (nul : Bool) (v : TL) (hn : v ≠ .null) (h : conforms t nul v = true) :
    conforms t false v = true :=
  conforms_of_ne_null t nul v hn h

theorem assignKVs_keys {g : GoTy} {t : Ty} {nul : Bool} : (es : TLKVs) → (kvs : GoKVs) →
    assignKVs g t nul es = some kvs → kvs.keys = es.toList.map (·.1)
  | .nil, kvs, h => by cases h; rfl
  | .cons k x es, kvs, h => by
    rw [assignKVs_cons, zipSome_eq_some] at h
    obtain ⟨a, r, _, hr, rfl⟩ := h
    exact congrArg (k :: ·) (assignKVs_keys es r hr)

theorem node_sound {v : TL} {d : DM} (hd : TL.toDM? v = some d) (hc : conforms .any false v = true) :
    wt .node .any false (.node d) = true ∧ view .node .any false (.node d) = some v := by
  refine ⟨?_, congrArg some (ofDM_of_toDM hd)⟩
  unfold wt
  rw [ofDM_of_toDM hd]
  exact hc

/-- an ordered-map struct stored from entries with distinct keys: `Keys` and `Values` are in step, and reading it
    looks every key up again -/
theorem omap_sound {gv0 : GoTy} {vt : Ty} {vnul : Bool} {es : TLKVs} {kvs : GoKVs}
    (hnd : (es.toList.map (·.1)).Nodup) (hkeys : kvs.keys = es.toList.map (·.1))
    (h1 : wtKVs gv0 vt vnul kvs = true) (h2 : viewKVs gv0 vt vnul kvs = some es.toList) :
    wt (.omap gv0) (.map vt vnul) false (.omap (keysOf es) false kvs) = true ∧
      view (.omap gv0) (.map vt vnul) false (.omap (keysOf es) false kvs) = some (.map es) := by
  refine ⟨?_, ?_⟩
  · unfold wt
    simp only [keysOf_getD, hkeys, nodupBytes_iff.2 hnd, h1, Bool.not_false, Bool.true_or,
      Bool.true_and, Bool.and_true, Bool.and_eq_true, List.all_eq_true, List.contains_eq_mem, decide_eq_true_eq]
    exact ⟨fun k hk => hk, fun k hk => hk⟩
  · rw [view_omap, h2, Option.bind_some, keysOf_getD, show lookupAll es.toList _ = _ from lookupAll_self es.toList [] hnd]
    exact congrArg (some ∘ TL.map) (TLKVs.ofList_toList es)

def assignC_sound.Motive (v : TL) : Prop :=
  ∀ g t nul gv, t.wf = true → compatible g t nul = true → conforms t nul v = true → assignC g t nul v = some gv →
    wt g t nul gv = true ∧ view g t nul gv = some v

theorem assignList_sound_of {g : GoTy} {t : Ty} {nul : Bool} (hwf : t.wf = true) (hc : compatible g t nul = true) :
    (xs : TLs) → (∀ x ∈ xs.toList, assignC_sound.Motive x) → (ys : GoVals) → conformsList t nul xs = true →
    assignList g t nul xs = some ys → wtList g t nul ys = true ∧ viewList g t nul ys = some xs
  | .nil, _, ys, _, ha => by cases ha; exact ⟨rfl, rfl⟩
  | .cons x xs, ih, ys, hcf, ha => by
    rw [assignList_cons, zipSome_eq_some] at ha
    rw [conformsList, Bool.and_eq_true] at hcf
    obtain ⟨a, r, h1, h2, rfl⟩ := ha
    obtain ⟨h3, h4⟩ := ih x List.mem_cons_self g t nul a hwf hc hcf.1 h1
    obtain ⟨h5, h6⟩ := assignList_sound_of hwf hc xs (fun y hy => ih y (List.mem_cons_of_mem _ hy)) r hcf.2 h2
    exact ⟨by rw [wtList_cons, h3, h5]; rfl, by rw [viewList_cons, h4, h6]; rfl⟩

theorem assignKVs_sound_of {g : GoTy} {t : Ty} {nul : Bool} (hwf : t.wf = true) (hc : compatible g t nul = true) :
    (es : TLKVs) → (∀ e ∈ es.toList, assignC_sound.Motive e.2) → (kvs : GoKVs) → (seen : List Bytes) →
    conformsMap t nul seen es = true → assignKVs g t nul es = some kvs →
    wtKVs g t nul kvs = true ∧ viewKVs g t nul kvs = some es.toList
  | .nil, _, ys, _, _, ha => by cases ha; exact ⟨rfl, rfl⟩
  | .cons k x xs, ih, ys, seen, hcf, ha => by
    rw [assignKVs_cons, zipSome_eq_some] at ha
    rw [conformsMap, Bool.and_eq_true, Bool.and_eq_true] at hcf
    obtain ⟨⟨_, hcx⟩, hcxs⟩ := hcf
    obtain ⟨a, r, h1, h2, rfl⟩ := ha
    obtain ⟨h3, h4⟩ := ih (k, x) List.mem_cons_self g t nul a hwf hc hcx h1
    obtain ⟨h5, h6⟩ := assignKVs_sound_of hwf hc xs (fun y hy => ih y (List.mem_cons_of_mem _ hy)) r (k :: seen) hcxs h2
    exact ⟨by rw [wtKVs_cons, h3, h5]; rfl, by rw [viewKVs_cons, h4, h6]; rfl⟩

theorem assignField_sound {g : GoTy} {f : Field} {v : TL} {a : GoVal} (ih : assignC_sound.Motive v)
    (hwf : f.ty.wf = true) (hc : compatField g f = true) (hok : fieldValOK f v = true)
    (h1 : assignField g f v = some a) :
    wtField g f a = true ∧ viewField g f a = some v := by
  rcases compatField_cases hc with ⟨hs, ho, hcg⟩ | ⟨g1, hs, rfl, _, hcg⟩ | ⟨hs, _, hn, hb, hcg⟩ <;>
    simp only [assignField, wtField, viewField, hs] at h1 ⊢
  · have hva : v ≠ .absent := fun h => by subst h; cases h1
    rw [fieldValOK_ne_absent f hva] at hok
    exact ih g f.ty f.nullable a hwf hcg hok h1
  · by_cases hva : v = .absent
    · subst hva
      cases h1
      exact ⟨rfl, rfl⟩
    · rw [if_neg hva, Option.map_eq_some_iff] at h1
      obtain ⟨a1, h1, rfl⟩ := h1
      rw [fieldValOK_ne_absent f hva] at hok
      exact ih g1 f.ty f.nullable a1 hwf hcg hok h1
  · by_cases hva : v = .absent
    · subst hva
      cases h1
      exact ⟨rfl, rfl⟩
    · rw [if_neg hva] at h1
      rw [fieldValOK_ne_absent f hva, hn] at hok
      obtain ⟨h5, h6⟩ := ih g f.ty false a hwf hcg hok h1
      obtain ⟨hne1, hne2⟩ := assignC_bare_ne hb h1
      exact ⟨by rw [h5, decide_eq_true hne2, Bool.and_self, Bool.or_true], by rw [if_neg hne1, h6]⟩

theorem assignFields_sound_of {F : List Field} (hnd : (F.map (·.name)).Nodup) (hwfF : ∀ f ∈ F, f.ty.wf = true) :
    (es : TLKVs) → (∀ e ∈ es.toList, assignC_sound.Motive e.2) → (gfs : GoFields) → (fs : List Field) → (vs : GoVals) →
    (∀ f ∈ fs, f ∈ F) → FieldVals F es.toList → compatFields gfs fs = true → assignFields gfs fs es = some vs →
    wtFields gfs fs vs = true ∧ viewFields gfs fs vs = some es
  | .nil, _, gfs, fs, vs, _, _, _, ha => by
    obtain ⟨rfl, rfl, rfl⟩ := assignFields_nil_inv ha
    exact ⟨rfl, rfl⟩
  | .cons k v es, ih, gfs, fs, vs, hsub, hvals, hc, ha => by
    obtain ⟨n, g, gfs, f, fs, a, r, rfl, rfl, rfl, h1, h2, rfl⟩ := assignFields_cons_inv ha
    rw [compatFields_cons, Bool.and_eq_true, Bool.and_eq_true] at hc
    have hfF : f ∈ F := hsub f List.mem_cons_self
    obtain ⟨h3, h4⟩ := assignFields_sound_of hnd hwfF es (fun e he => ih e (List.mem_cons_of_mem _ he)) gfs fs r
      (fun f hf => hsub f (List.mem_cons_of_mem _ hf)) (fun e he => hvals e (List.mem_cons_of_mem _ he)) hc.2 h2
    obtain ⟨h5, h6⟩ := assignField_sound (ih _ List.mem_cons_self) (hwfF f hfF) hc.1.2 (fieldValOK_head hnd hfF hvals) h1
    exact ⟨by rw [wtFields_cons, h5, h3]; rfl, by rw [viewFields_cons, h6, h4]; rfl⟩

theorem Stored.sound {g0 : GoTy} {t : Ty} {v : TL} {x : GoVal} (hs : Stored g0 t v x) (hwf : t.wf = true)
    (hc : compatible g0 t false = true) (hcf : conforms t false v = true)
    (ihl : ∀ xs, v = .list xs → ∀ x ∈ xs.toList, assignC_sound.Motive x)
    (ihm : ∀ es, v = .map es → ∀ e ∈ es.toList, assignC_sound.Motive e.2) :
    wt g0 t false x = true ∧ view g0 t false x = some v := by
  cases hs with
  | bool | float | str | bytes | link => exact ⟨rfl, rfl⟩
  | int hf => exact ⟨hf, rfl⟩
  | enumStr h => exact ⟨h, rfl⟩
  | @enumInt k ms s m hm hf =>
    obtain ⟨hmem, hname⟩ := find?_mem_key hm
    refine ⟨?_, ?_⟩
    · unfold wt
      simp only [hf, Bool.not_false, Bool.true_and, List.any_eq_true]
      exact ⟨m, hmem, beq_self_eq_true _⟩
    · rw [view_enum_int, find?_key_of_mem (·.rint) (wf_enum_int hwf) m hmem, Option.map_some, hname]
  | node hd _ => exact node_sound hd hcf
  | @list ge et enul xs ys hys =>
    obtain ⟨h1, h2⟩ := assignList_sound_of (g := ge) (t := et) (nul := enul) hwf hc xs (ihl xs rfl) ys hcf hys
    exact ⟨h1, by rw [view_slice, h2]; rfl⟩
  | @omap gv0 vt vnul es kvs hkvs =>
    have hcf' : conformsMap vt vnul [] es = true := hcf
    obtain ⟨h1, h2⟩ := assignKVs_sound_of (g := gv0) (t := vt) (nul := vnul) hwf hc es (ihm es rfl) kvs [] hcf' hkvs
    exact omap_sound (conformsMap_iff.1 hcf').1 (assignKVs_keys es kvs hkvs) h1 h2
  | @struct gfs fs es vs sr hvs =>
    have hw3 := wf_struct hwf
    obtain ⟨h1, h2⟩ := assignFields_sound_of hw3.2.1 hw3.1 es (ihm es rfl) gfs fs.toList vs
      (fun _ h => h) (conformsStruct_iff.1 hcf).2.2.1 hc hvs
    exact ⟨h1, by rw [view_struct, h2]; rfl⟩
  | @union gfs ms k v i m g1 a ur hfi hg1 hasg =>
    have hw3 := wf_union hwf
    obtain ⟨hmi, hmk, hfind⟩ := findIdx_some hfi
    obtain ⟨g1', hg1', hcg1⟩ := compatMembers_get gfs ms.toList hc i m hmi
    cases hg1.symm.trans hg1'
    have hcv : conforms m.ty false v = true := by
      rw [conforms_union_map, hfind] at hcf; exact hcf
    obtain ⟨h1, h2⟩ := ihm _ rfl (k, v) List.mem_cons_self g1 m.ty false a
      (hw3.1 m (List.mem_of_getElem? hmi)) hcg1 hcv hasg
    refine ⟨wtUnion_unionVals gfs ms.toList hc i g1 m a hg1 hmi h1, ?_⟩
    rw [show view (.struct gfs) (.union ms ur) false (.struct (unionVals gfs.length i a)) = _ from
      viewUnion_unionVals gfs ms.toList i g1 m a hg1 hmi, h2, beq_iff_eq.1 hmk]
    rfl

/-- By induction over the children of the value: null is a nil of the slot; anything else is `Stored` behind the pointers
    of the slot. -/
theorem assignC_sound : ∀ v, assignC_sound.Motive v := by
  refine TL.step_induct fun v ihl ihm g t nul gv hwf hc hcf ha => ?_
  by_cases hv : v = .null
  · subst hv
    unfold assignC at ha
    split at ha <;> first | cases ha | skip
    subst nul
    split at ha
    · cases ha
      exact ⟨rfl, rfl⟩
    · split at ha <;> cases ha
      rename_i hb
      exact ⟨hb, view_nilBare hb⟩
  · obtain ⟨g0, x, hu, hs, rfl⟩ := assignC_stored ha hv
    exact wrapFor_slot hu hs.ne_nil
      (hs.sound hwf (compatible_of_unptr t hu hc) (conforms_false_of t nul v hv hcf) ihl ihm)

theorem assignKVs_sound {g : GoTy} {t : Ty} {nul : Bool} (hwf : t.wf = true) (hc : compatible g t nul = true)
    (es : TLKVs) : (kvs : GoKVs) → (seen : List Bytes) → conformsMap t nul seen es = true →
    assignKVs g t nul es = some kvs → wtKVs g t nul kvs = true ∧ viewKVs g t nul kvs = some es.toList :=
  assignKVs_sound_of hwf hc es fun e _ => assignC_sound e.2

theorem assignFields_sound {F : List Field} (hnd : (F.map (·.name)).Nodup) (hwfF : ∀ f ∈ F, f.ty.wf = true)
    (es : TLKVs) : (gfs : GoFields) → (fs : List Field) → (vs : GoVals) → (∀ f ∈ fs, f ∈ F) →
    FieldVals F es.toList → compatFields gfs fs = true → assignFields gfs fs es = some vs →
    wtFields gfs fs vs = true ∧ viewFields gfs fs vs = some es :=
  assignFields_sound_of hnd hwfF es fun e _ => assignC_sound e.2

theorem assignKVs_view : (es : TLKVs) → (g : GoTy) → (t : Ty) → (nul : Bool) → (kvs : GoKVs) → t.wf = true →
    compatible g t nul = true → (seen : List Bytes) → conformsMap t nul seen es = true →
    assignKVs g t nul es = some kvs → ∀ tvs, viewKVs g t nul kvs = some tvs → tvs = es.toList :=
  fun es _ _ _ kvs hwf hc seen hcf ha _ hw =>
    Option.some.inj (hw.symm.trans (assignKVs_sound hwf hc es kvs seen hcf ha).2)

theorem assignFields_view : (es : TLKVs) → (gfs : GoFields) → (fs F : List Field) → (vs : GoVals) →
    (∀ f ∈ fs, f ∈ F) → (F.map (·.name)).Nodup → (∀ f ∈ F, f.ty.wf = true) →
    (∀ e ∈ es.toList, ∃ f, F.find? (fun f => f.name == e.1) = some f ∧ fieldValOK f e.2 = true) →
    compatFields gfs fs = true →
    assignFields gfs fs es = some vs → ∀ ws, viewFields gfs fs vs = some ws → ws = es :=
  fun es gfs fs _ vs hsub hnd hwfF hvals hc ha _ hw =>
    Option.some.inj (hw.symm.trans (assignFields_sound hnd hwfF es gfs fs vs hsub hvals hc ha).2)

theorem assignKVs_wt : (es : TLKVs) → (g : GoTy) → (t : Ty) → (nul : Bool) → (kvs : GoKVs) → t.wf = true →
    compatible g t nul = true → (seen : List Bytes) →
    conformsMap t nul seen es = true → assignKVs g t nul es = some kvs → wtKVs g t nul kvs = true :=
  fun es _ _ _ kvs hwf hc seen hcf ha => (assignKVs_sound hwf hc es kvs seen hcf ha).1

theorem assignFields_wt : (es : TLKVs) → (gfs : GoFields) → (fs F : List Field) → (vs : GoVals) →
    (∀ f ∈ fs, f ∈ F) → (F.map (·.name)).Nodup → (∀ f ∈ F, f.ty.wf = true) →
    (∀ e ∈ es.toList, ∃ f, F.find? (fun f => f.name == e.1) = some f ∧ fieldValOK f e.2 = true) →
    compatFields gfs fs = true →
    assignFields gfs fs es = some vs → wtFields gfs fs vs = true :=
  fun es gfs fs _ vs hsub hnd hwfF hvals hc ha => (assignFields_sound hnd hwfF es gfs fs vs hsub hvals hc ha).1

end GoBind
end Ipld

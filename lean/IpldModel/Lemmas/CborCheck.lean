/-
  The executable verifier `Spec.denotesCheck` against `Spec.Denotes`: each checker strips exactly the prefixes its
  relation denotes (`Parses`), one iff of which soundness and completeness are the halves.
-/
import IpldModel.Spec.CborDenotes
import IpldModel.Lemmas.CborDecHead
import IpldModel.Lemmas.BytesEq
namespace Ipld
namespace Cbor
open Spec

theorem beValS_eq : (a : Bytes) → Spec.beValS a = beVal a
  | [] => rfl
  | b :: bs => by simp only [Spec.beValS, beVal, beValS_eq bs]

theorem stripPrefix_iff : (p bs r : Bytes) → (Spec.stripPrefix p bs = some r ↔ bs = p ++ r)
  | [], bs, r => by simp [Spec.stripPrefix]
  | _ :: _, [], r => by simp [Spec.stripPrefix]
  | p :: ps, b :: bs, r => by
    simp only [Spec.stripPrefix, List.cons_append, List.cons.injEq]
    by_cases h : p = b
    · simp only [h, if_true, true_and]; exact stripPrefix_iff ps bs r
    · simp only [h, if_false]
      constructor
      · intro h'; cases h'
      · intro h'; exact absurd h'.1.symm h

def valsNoDup : DMKVs → Prop
  | .nil => True
  | .cons _ v es => v.noDupKeys = true ∧ valsNoDup es

theorem noDupKeysIn_iff : (es : DMKVs) → (seen : List Bytes) →
    (es.noDupKeysIn seen = true ↔ es.keys.Nodup ∧ (∀ k, k ∈ es.keys → k ∉ seen) ∧ valsNoDup es)
  | .nil, _ => by simp [DMKVs.noDupKeysIn, DMKVs.keys, DMKVs.toList, valsNoDup]
  | .cons k v es, seen => by
    simp only [DMKVs.noDupKeysIn, Bool.and_eq_true, Bool.not_eq_true', List.contains_eq_mem, decide_eq_false_iff_not,
      noDupKeysIn_iff es (k :: seen), DMKVs.keys, DMKVs.toList, List.map_cons, List.nodup_cons, List.mem_cons, valsNoDup]
    constructor
    · rintro ⟨⟨h1, hv⟩, hnd, hs, hvs⟩
      exact ⟨⟨fun hk => hs k hk (Or.inl rfl), hnd⟩, fun k' hk' => hk'.elim (· ▸ h1) fun hk' hm => hs k' hk' (Or.inr hm),
        hv, hvs⟩
    · rintro ⟨⟨hk, hnd⟩, hs, hv, hvs⟩
      exact ⟨⟨hs k (Or.inl rfl), hv⟩, hnd, fun k' hk' hm => hm.elim (fun e => hk (e ▸ hk')) (hs k' (Or.inr hk')), hvs⟩

mutual
theorem denotes_noDupKeys : (v : DM) → (bs : Bytes) → Spec.Denotes v bs → v.noDupKeys = true
  | .null, _, _ | .bool _, _, _ | .int _, _, _ | .float _, _, _ | .str _, _, _ | .bytes _, _, _ | .link _, _, _ => rfl
  | .list xs, bs, h => by
    simp only [Spec.Denotes] at h
    obtain ⟨body, _, hb⟩ := h
    simp only [DM.noDupKeys]
    exact denotesList_noDupKeys xs body hb
  | .map es, bs, h => by
    simp only [Spec.Denotes] at h
    obtain ⟨hnd, body, _, hb⟩ := h
    simp only [DM.noDupKeys]
    exact (noDupKeysIn_iff es []).2 ⟨hnd, (fun _ _ hm => nomatch hm), denotesKVs_valsNoDup es body hb⟩
theorem denotesList_noDupKeys : (xs : DMs) → (bs : Bytes) → Spec.DenotesList xs bs → xs.noDupKeys = true
  | .nil, _, _ => rfl
  | .cons x xs, bs, h => by
    simp only [Spec.DenotesList] at h
    obtain ⟨b1, b2, _, h1, h2⟩ := h
    simp only [DMs.noDupKeys, Bool.and_eq_true]
    exact ⟨denotes_noDupKeys x b1 h1, denotesList_noDupKeys xs b2 h2⟩
theorem denotesKVs_valsNoDup : (es : DMKVs) → (bs : Bytes) → Spec.DenotesKVs es bs → valsNoDup es
  | .nil, _, _ => trivial
  | .cons k v es, bs, h => by
    simp only [Spec.DenotesKVs] at h
    obtain ⟨b1, b2, _, h1, h2⟩ := h
    exact ⟨denotes_noDupKeys v b1 h1, denotesKVs_valsNoDup es b2 h2⟩
end

/-- The three float cases of `checkItem` after the tag byte, with width `n` and conversion `conv` as variables. -/
theorem floatArm_iff {n : Nat} {conv : Nat → Nat} {f : Nat} {r' r : Bytes} :
    (if r'.length < n then none
     else if conv (Spec.beValS (r'.take n)) = f then some (r'.drop n) else none) = some r ↔
      ∃ w, w < 256 ^ n ∧ conv w = f ∧ r' = Spec.be n w ++ r := by
  constructor
  · intro h
    split at h
    · cases h
    · rename_i hl
      split at h
      · rename_i hv
        cases h
        have hn : (r'.take n).length = n := by rw [List.length_take]; omega
        refine ⟨beVal (r'.take n), by have := beVal_lt (r'.take n); rwa [hn] at this, beValS_eq _ ▸ hv, ?_⟩
        rw [spec_be_eq, ← congrArg (beBytes · _) hn, beBytes_beVal, List.take_append_drop]
      · cases h
  · rintro ⟨w, hw, hc, rfl⟩
    have hl : (Spec.be n w).length = n := by rw [spec_be_eq, beBytes_length]
    rw [if_neg (by rw [List.length_append]; omega), List.take_left' hl, List.drop_left' hl, beValS_eq, spec_be_eq,
      beVal_beBytes, Nat.mod_eq_of_lt hw, if_pos hc]

def Parses (p : Bytes → Option Bytes) (L : Bytes → Prop) : Prop :=
  ∀ bs r, p bs = some r ↔ ∃ b1, bs = b1 ++ r ∧ L b1

namespace Parses
variable {p q : Bytes → Option Bytes} {L M : Bytes → Prop}

theorem strip (a : Bytes) : Parses (stripPrefix a) (· = a) := fun bs r =>
  (stripPrefix_iff a bs r).trans ⟨fun e => ⟨a, e, rfl⟩, fun ⟨_, e, h⟩ => h ▸ e⟩

theorem seq (hp : Parses p L) (hq : Parses q M) :
    Parses (fun bs => (p bs).bind q) (fun b => ∃ b1 b2, b = b1 ++ b2 ∧ L b1 ∧ M b2) := fun bs r => by
  constructor
  · intro h
    obtain ⟨r1, h1, h2⟩ := Option.bind_eq_some_iff.mp h
    obtain ⟨b1, rfl, l⟩ := (hp _ _).1 h1
    obtain ⟨b2, rfl, m⟩ := (hq _ _).1 h2
    exact ⟨b1 ++ b2, (List.append_assoc ..).symm, b1, b2, rfl, l, m⟩
  · rintro ⟨_, rfl, b1, b2, rfl, l, m⟩
    rw [List.append_assoc]
    exact Option.bind_eq_some_iff.mpr ⟨b2 ++ r, (hp _ _).2 ⟨b1, rfl, l⟩, (hq _ _).2 ⟨b2, rfl, m⟩⟩

theorem guard {c : Prop} [Decidable c] (hp : Parses p L) :
    Parses (fun bs => if c then p bs else none) (fun b => c ∧ L b) := fun bs r => by
  by_cases hc : c
  · simp only [hc, if_true, true_and]; exact hp bs r
  · simp only [hc, if_false, false_and, and_false, exists_false]
    exact ⟨nofun, nofun⟩

theorem ite {c : Prop} [Decidable c] (hp : Parses p L) (hq : Parses q M) :
    Parses (fun bs => if c then p bs else q bs) (fun b => (c ∧ L b) ∨ (¬ c ∧ M b)) := fun bs r => by
  by_cases hc : c
  · simp only [hc, if_true, true_and, not_true, false_and, or_false]; exact hp bs r
  · simp only [hc, if_false, false_and, not_false_eq_true, true_and, false_or]; exact hq bs r

theorem congr (hp : Parses p L) (h : ∀ b, L b ↔ M b) : Parses p M := fun bs r =>
  (hp bs r).trans (exists_congr fun b => and_congr_right fun _ => h b)

end Parses

theorem checkItem_float_parses (f : UInt64) : Parses (checkItem (.float f)) (Denotes (.float f)) := fun bs r => by
  constructor
  · intro h
    simp only [Spec.checkItem] at h
    split at h
    · cases h
    · rename_i hfin
      have hfin : finite64 f.toNat := Classical.not_not.1 hfin
      simp only [Spec.Denotes]
      split at h
      · obtain ⟨w, _, hc, rfl⟩ := (floatArm_iff (conv := fun x => x)).mp h
        exact ⟨0xfb :: Spec.be 8 w, rfl, hfin, Or.inl (hc ▸ rfl)⟩
      · obtain ⟨w, hw, hc, rfl⟩ := floatArm_iff.mp h
        exact ⟨0xfa :: Spec.be 4 w, rfl, hfin, Or.inr (Or.inl ⟨w, Nat.lt_of_lt_of_eq hw (by decide), hc, rfl⟩)⟩
      · obtain ⟨w, hw, hc, rfl⟩ := floatArm_iff.mp h
        exact ⟨0xf9 :: Spec.be 2 w, rfl, hfin, Or.inr (Or.inr ⟨w, Nat.lt_of_lt_of_eq hw (by decide), hc, rfl⟩)⟩
      · cases h
  · rintro ⟨b1, rfl, h⟩
    simp only [Spec.Denotes, Spec.FloatBytes] at h
    obtain ⟨hfin, h⟩ := h
    simp only [Spec.checkItem, hfin, not_true, if_false]
    rcases h with rfl | ⟨w, hw, hf, rfl⟩ | ⟨w, hw, hf, rfl⟩ <;> simp only [List.cons_append]
    · exact (floatArm_iff (conv := fun x => x)).mpr ⟨_, Nat.lt_of_lt_of_eq f.toNat_lt (by decide), rfl, rfl⟩
    · exact floatArm_iff.mpr ⟨w, Nat.lt_of_lt_of_eq hw (by decide), hf, rfl⟩
    · exact floatArm_iff.mpr ⟨w, Nat.lt_of_lt_of_eq hw (by decide), hf, rfl⟩

theorem seq_head {h : Bytes} {P : Bytes → Prop} (b : Bytes) :
    (∃ b1 b2, b = b1 ++ b2 ∧ b1 = h ∧ P b2) ↔ ∃ body, b = h ++ body ∧ P body :=
  ⟨fun ⟨_, body, e, e1, d⟩ => ⟨body, e1 ▸ e, d⟩, fun ⟨body, e, d⟩ => ⟨_, body, e, rfl, d⟩⟩

mutual
theorem checkItem_parses : (v : DM) → Parses (checkItem v) (Denotes v)
  | .null => fun bs r => by
    simp only [checkItem, Denotes]
    cases bs with
    | nil => exact ⟨nofun, fun ⟨b1, e, h⟩ => by rcases h with rfl | rfl <;> cases e⟩
    | cons b bs =>
      simp only []
      constructor
      · intro h
        split at h
        · rename_i hb
          injection h with h; subst h
          exact ⟨[b], rfl, hb.imp (congrArg (fun x => [x])) (congrArg (fun x => [x]))⟩
        · cases h
      · rintro ⟨b1, e, rfl | rfl⟩ <;> (injection e with e1 e2; subst e1 e2; rfl)
  | .bool _ | .str _ | .bytes _ => Parses.strip _
  | .int i => ((Parses.strip _).guard.ite (Parses.strip _).guard).congr fun _ => by simp only [Denotes, Int.not_le]
  | .float f => checkItem_float_parses f
  | .link c => (Parses.strip _).guard (c := cidValid c = true)
  | .list xs => ((Parses.strip _).seq (checkList_parses xs)).congr fun b => by simp only [Denotes]; exact seq_head b
  | .map es => (((Parses.strip _).seq (checkKVs_parses es)).guard (c := es.noDupKeysIn [] = true)).congr fun b => by
    simp only [Denotes]
    rw [seq_head b]
    exact ⟨fun ⟨hnd, h⟩ => ⟨((noDupKeysIn_iff es []).1 hnd).1, h⟩, fun ⟨hnd, body, e, d⟩ =>
      ⟨(noDupKeysIn_iff es []).2 ⟨hnd, (fun _ _ hm => nomatch hm), denotesKVs_valsNoDup es body d⟩, body, e, d⟩⟩
theorem checkList_parses : (xs : DMs) → Parses (checkList xs) (DenotesList xs)
  | .nil => Parses.strip []
  | .cons x xs => (checkItem_parses x).seq (checkList_parses xs)
theorem checkKVs_parses : (es : DMKVs) → Parses (checkKVs es) (DenotesKVs es)
  | .nil => Parses.strip []
  | .cons k v es => (((Parses.strip _).seq (checkItem_parses v)).seq (checkKVs_parses es)).congr fun b => by
    simp only [DenotesKVs]
    exact ⟨fun ⟨_, b2, e, ⟨_, b1, e1, rfl, d1⟩, d2⟩ => ⟨b1, b2, by rw [e, e1, List.append_assoc], d1, d2⟩,
      fun ⟨b1, b2, e, d1, d2⟩ => ⟨_, b2, by rw [e]; simp only [List.append_assoc], ⟨_, b1, rfl, rfl, d1⟩, d2⟩⟩
end

theorem checkList_sound : (xs : DMs) → (bs r : Bytes) → Spec.checkList xs bs = some r →
    ∃ b1, bs = b1 ++ r ∧ Spec.DenotesList xs b1 :=
  fun xs bs r => (checkList_parses xs bs r).1

theorem checkKVs_sound : (es : DMKVs) → (bs r : Bytes) → Spec.checkKVs es bs = some r →
    ∃ b1, bs = b1 ++ r ∧ Spec.DenotesKVs es b1 :=
  fun es bs r => (checkKVs_parses es bs r).1

theorem checkList_complete : (xs : DMs) → (b1 : Bytes) → Spec.DenotesList xs b1 →
    ∀ r, Spec.checkList xs (b1 ++ r) = some r :=
  fun xs b1 h r => (checkList_parses xs _ r).2 ⟨b1, rfl, h⟩

theorem checkKVs_complete : (es : DMKVs) → (b1 : Bytes) → Spec.DenotesKVs es b1 →
    ∀ r, Spec.checkKVs es (b1 ++ r) = some r :=
  fun es b1 h r => (checkKVs_parses es _ r).2 ⟨b1, rfl, h⟩

theorem denotesCheck_iff (v : DM) (bs : Bytes) : Spec.denotesCheck v bs = true ↔ Spec.Denotes v bs := by
  simp only [Spec.denotesCheck, beq_iff_eq]
  exact (checkItem_parses v bs []).trans
    ⟨fun ⟨b1, e, d⟩ => by rw [e, List.append_nil]; exact d, fun d => ⟨bs, (List.append_nil bs).symm, d⟩⟩

end Cbor
end Ipld

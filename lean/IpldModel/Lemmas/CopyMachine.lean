/-
  A builder machine given by its calls other than `AssignNode` (`prim`) and its mark (`tainted`): `AssignNode` is the
  copy `datamodel.Copy` makes (`putNode`), rolled back when refused or left half done and marked; a marked machine only
  panics.  `TAsm.step` and `RAsm.step` are `Mach.step` of their `stepPrim`; what is proved here of `Mach.step` from a few
  facts about `prim` holds of both.
-/
import IpldModel.Model.TypedAssembler
import IpldModel.Lemmas.EraseHistory
namespace Ipld
open Ipld.Asm (Op Out ErrClass)

theorem TAsm.isRec_eq (v : DM) : TAsm.isRec v = !Asm.isScalar v := by cases v <;> rfl

structure Mach (σ : Type) where
  prim : σ → Op → σ × Out
  tainted : σ → Bool
  taint : σ → σ
  /-- a refused copy that got past its `Begin…` is left half done (`anPartial`) -/
  leaves : Bool

namespace Mach
variable {σ : Type}

def andThen (r : σ × Out) (f : σ → σ × Out) : σ × Out :=
  match r with
  | (s, .ok) => f s
  | r => r

theorem andThen_ok (s : σ) (f : σ → σ × Out) : andThen (s, .ok) f = f s := rfl
theorem andThen_err (s : σ) (c : ErrClass) (f : σ → σ × Out) : andThen (s, .err c) f = (s, .err c) := rfl

theorem andThen_eq_ok {r : σ × Out} {f : σ → σ × Out} {s' : σ} (h : andThen r f = (s', .ok)) :
    ∃ s1, r = (s1, .ok) ∧ f s1 = (s', .ok) := by
  obtain ⟨s1, o⟩ := r
  cases o with
  | ok => exact ⟨s1, rfl, h⟩
  | err c => cases h
  | panic => cases h

theorem andThen_state {P : σ → Prop} {r : σ × Out} {f : σ → σ × Out} (hr : P r.1)
    (hf : ∀ s, P s → P (f s).1) : P (andThen r f).1 := by
  obtain ⟨s1, o⟩ := r
  cases o with
  | ok => exact hf s1 hr
  | err c => exact hr
  | panic => exact hr

variable (M : Mach σ)

mutual
def putNode (st : σ) : DM → σ × Out
  | .list xs =>
    andThen (M.prim st (.beginList 0)) fun s1 =>
    andThen (putList s1 xs) fun s2 => M.prim s2 .finish
  | .map es =>
    andThen (M.prim st (.beginMap 0)) fun s1 =>
    andThen (putKVs s1 es) fun s2 => M.prim s2 .finish
  | d => M.prim st (.assign d)
def putList (st : σ) : DMs → σ × Out
  | .nil => (st, .ok)
  | .cons x xs =>
    andThen (M.prim st .assembleValue) fun s1 =>
    andThen (putNode s1 x) fun s2 => putList s2 xs
def putKVs (st : σ) : DMKVs → σ × Out
  | .nil => (st, .ok)
  | .cons k v es =>
    andThen (M.prim st .assembleKey) fun s1 =>
    andThen (M.prim s1 (.assign (.str k))) fun s2 =>
    andThen (M.prim s2 .assembleValue) fun s3 =>
    andThen (putNode s3 v) fun s4 => putKVs s4 es
end

def stepU (st : σ) : Op → σ × Out
  | .assignNode v =>
    if TAsm.isRec v then
      match M.putNode st v with
      | (st', .ok) => (st', .ok)
      | (_, .err c) =>
        if M.leaves && (M.prim st (TAsm.beginOp v)).2 == .ok then (M.taint st, .err c) else (st, .err c)
      | (_, .panic) => (st, .panic)
    else M.prim st (.assign v)
  | op => M.prim st op

def step (st : σ) (op : Op) : σ × Out :=
  if M.tainted st then (st, .panic) else M.stepU st op

variable {M}

theorem putNode_of_not_rec {s : σ} {v : DM} (hv : TAsm.isRec v = false) : M.putNode s v = M.prim s (.assign v) := by
  cases v <;> first | (cases hv; done) | (simp only [putNode])

theorem step_prim {s : σ} (ht : M.tainted s = false) {op : Op} {r : σ × Out} (h : M.prim s op = r)
    (hop : ∀ v, op ≠ .assignNode v) : M.step s op = r := by
  unfold step
  rw [ht, ← h]
  cases op <;> first | rfl | exact absurd rfl (hop _)

theorem step_assignNode_ok {s s' : σ} (ht : M.tainted s = false) {v : DM} (h : M.putNode s v = (s', .ok)) :
    M.step s (.assignNode v) = (s', .ok) := by
  unfold step
  rw [ht]
  simp only [Bool.false_eq_true, if_false, stepU]
  cases hr : TAsm.isRec v with
  | true => simp only [if_true, h]
  | false => rw [← putNode_of_not_rec hr, h]; rfl

theorem step_assignNode_scalar {s : σ} (ht : M.tainted s = false) {v : DM} (hv : TAsm.isRec v = false) :
    M.step s (.assignNode v) = M.prim s (.assign v) := by
  unfold step
  rw [ht]
  simp only [Bool.false_eq_true, if_false, stepU, hv]

theorem step_assignNode_err {s s' : σ} (ht : M.tainted s = false) {v : DM} {c : ErrClass}
    (h : M.putNode s v = (s', .err c)) (hs : TAsm.isRec v = false → s' = s) :
    M.step s (.assignNode v) = (s, .err c) ∨ (M.leaves = true ∧ M.step s (.assignNode v) = (M.taint s, .err c)) := by
  cases hr : TAsm.isRec v with
  | false => rw [step_assignNode_scalar ht hr, ← putNode_of_not_rec hr, h, hs hr]; exact .inl rfl
  | true =>
    unfold step
    rw [ht]
    simp only [Bool.false_eq_true, if_false, stepU, hr, if_true, h]
    split
    · rename_i hb
      exact .inr ⟨(Bool.and_eq_true_iff.1 hb).1, rfl⟩
    · exact .inl rfl

variable (M)

theorem putNode_refusing {s : σ} {c : ErrClass} (hbl : M.prim s (.beginList 0) = (s, .err c))
    (hbm : M.prim s (.beginMap 0) = (s, .err c))
    (hsc : ∀ d, Asm.isScalar d = true → M.prim s (.assign d) = (s, .err c)) (v : DM) :
    M.putNode s v = (s, .err c) := by
  cases v with
  | list xs => simp only [putNode, hbl, andThen_err]
  | map es => simp only [putNode, hbm, andThen_err]
  | _ => exact hsc _ rfl

theorem putKVs_cons_noValue {s s1 : σ} {k : Bytes} (hak : M.prim s .assembleKey = (s1, .ok))
    (hkey : (∃ s' c, M.prim s1 (.assign (.str k)) = (s', .err c)) ∨
      ∃ s2 s3, M.prim s1 (.assign (.str k)) = (s2, .ok) ∧ M.prim s2 .assembleValue = (s3, .ok) ∧
        ∀ v, ∃ s' c, M.putNode s3 v = (s', .err c))
    (v : DM) (es : DMKVs) (g : σ → σ × Out) : ∃ s' c, andThen (M.putKVs s (.cons k v es)) g = (s', .err c) := by
  rcases hkey with ⟨s', c, h⟩ | ⟨s2, s3, h2, h3, hv⟩
  · exact ⟨s', c, by simp only [putKVs, hak, andThen_ok, h, andThen_err]⟩
  · obtain ⟨s', c, h4⟩ := hv v
    exact ⟨s', c, by simp only [putKVs, hak, andThen_ok, h2, h3, h4, andThen_err]⟩

/-- What the current object refuses and stays, `step` refuses and stays: a scalar, assigned or handed over as a node;
    `BeginMap` and `BeginList`, and with them every map / list node. -/
theorem step_refuses {s : σ} (ht : M.tainted s = false) {c : ErrClass}
    (hbm : ∀ n, M.prim s (.beginMap n) = (s, .err c)) (hbl : ∀ n, M.prim s (.beginList n) = (s, .err c)) :
    (∀ v, Asm.isScalar v = true → M.prim s (.assign v) = (s, .err c) →
      M.step s (.assign v) = (s, .err c) ∧ M.step s (.assignNode v) = (s, .err c)) ∧
    (∀ n, M.step s (.beginMap n) = (s, .err c)) ∧ (∀ n, M.step s (.beginList n) = (s, .err c)) ∧
      ∀ v, TAsm.isRec v = true → M.step s (.assignNode v) = (s, .err c) := by
  refine ⟨fun v hs h => ⟨step_prim ht h nofun, (step_assignNode_scalar ht (by rw [TAsm.isRec_eq, hs]; rfl)).trans h⟩,
    fun n => step_prim ht (hbm n) nofun, fun n => step_prim ht (hbl n) nofun, fun v hv => ?_⟩
  have hb : M.prim s (TAsm.beginOp v) = (s, .err c) := by cases v <;> first | exact hbl 0 | exact hbm 0 | cases hv
  have hp : M.putNode s v = (s, .err c) := by
    cases v with
    | list xs => simp only [putNode, show M.prim s (.beginList 0) = _ from hb, andThen_err]
    | map es => simp only [putNode, show M.prim s (.beginMap 0) = _ from hb, andThen_err]
    | _ => cases hv
  unfold step
  rw [ht]
  simp only [Bool.false_eq_true, if_false, stepU, hv, if_true, hp, hb]
  rw [show (Out.err c == Out.ok) = false from rfl, Bool.and_false]
  rfl

mutual
theorem putNode_state {P : σ → Prop} (hP : ∀ s op, P s → P (M.prim s op).1) :
    (v : DM) → (s : σ) → P s → P (M.putNode s v).1 := fun v s h => by
    cases v with
    | list xs =>
      simp only [putNode]
      exact andThen_state (hP _ _ h) fun s1 h1 => andThen_state (putList_state hP xs s1 h1) fun s2 h2 => hP _ _ h2
    | map es =>
      simp only [putNode]
      exact andThen_state (hP _ _ h) fun s1 h1 => andThen_state (putKVs_state hP es s1 h1) fun s2 h2 => hP _ _ h2
    | _ => exact hP s _ h
theorem putList_state {P : σ → Prop} (hP : ∀ s op, P s → P (M.prim s op).1) :
    (xs : DMs) → (s : σ) → P s → P (M.putList s xs).1
  | .nil => fun s h => h
  | .cons x xs => fun s h => by
    simp only [putList]
    exact andThen_state (hP _ _ h) fun s1 h1 =>
      andThen_state (putNode_state hP x s1 h1) fun s2 h2 => putList_state hP xs s2 h2
theorem putKVs_state {P : σ → Prop} (hP : ∀ s op, P s → P (M.prim s op).1) :
    (es : DMKVs) → (s : σ) → P s → P (M.putKVs s es).1
  | .nil => fun s h => h
  | .cons k v es => fun s h => by
    simp only [putKVs]
    exact andThen_state (hP _ _ h) fun s1 h1 => andThen_state (hP _ _ h1) fun s2 h2 =>
      andThen_state (hP _ _ h2) fun s3 h3 =>
      andThen_state (putNode_state hP v s3 h3) fun s4 h4 => putKVs_state hP es s4 h4
end

/-- How a step answers.  A marked machine only panics.  `AssignNode` of a scalar node is its assignment; of a map/list
    node, its copy: what the copy accepted stands, a refused copy is rolled back - or, `leaves`, left half done and the
    machine marked -, a copy that panicked leaves the state.  Every other call is `prim`. -/
inductive StepCase (M : Mach σ) (s : σ) (op : Op) (r : σ × Out) : Prop
  | stuck : r = (s, .panic) → StepCase M s op r
  | prim : (∀ v, op ≠ .assignNode v) → r = M.prim s op → StepCase M s op r
  | scalarNode (v : DM) : op = .assignNode v → TAsm.isRec v = false → r = M.prim s (.assign v) → StepCase M s op r
  | copied (v : DM) (s' : σ) : op = .assignNode v → TAsm.isRec v = true → M.putNode s v = (s', .ok) → r = (s', .ok) →
      StepCase M s op r
  | rolledBack (c : ErrClass) : r = (s, .err c) → StepCase M s op r
  | left (v : DM) (c : ErrClass) : op = .assignNode v → TAsm.isRec v = true → M.leaves = true →
      r = (M.taint s, .err c) → StepCase M s op r

theorem step_case (s : σ) (op : Op) : StepCase M s op (M.step s op) := by
  unfold step
  split
  · exact .stuck rfl
  · unfold stepU
    split
    · rename_i v
      split
      · rename_i hrec
        split
        · rename_i hp; exact .copied v _ rfl hrec hp rfl
        · split
          · rename_i hp
            simp only [Bool.and_eq_true] at hp
            exact .left v _ rfl hrec hp.1 rfl
          · exact .rolledBack _ rfl
        · exact .stuck rfl
      · rename_i hrec
        exact .scalarNode v rfl (Bool.eq_false_iff.2 hrec) rfl
    · rename_i hop
      exact .prim (fun v hv => hop v hv) rfl

theorem step_state {P : σ → Prop} (hP : ∀ s op, P s → P (M.prim s op).1) (hm : ∀ s, P s → P (M.taint s)) (s : σ)
    (op : Op) (h : P s) : P (M.step s op).1 := by
  rcases step_case M s op with hr | ⟨_, hr⟩ | ⟨_, _, _, hr⟩ | ⟨v, _, _, _, hp, hr⟩ | ⟨_, hr⟩ | ⟨_, _, _, _, _, hr⟩ <;>
    rw [hr]
  · exact h
  · exact hP _ _ h
  · exact hP _ _ h
  · exact hp ▸ putNode_state M hP v s h
  · exact h
  · exact hm s h

theorem step_tainted (hP : ∀ s op, M.tainted (M.prim s op).1 = M.tainted s) (s : σ) (op : Op) :
    M.tainted (M.step s op).1 = M.tainted s ∨ M.leaves = true := by
  rcases step_case M s op with hr | ⟨_, hr⟩ | ⟨_, _, _, hr⟩ | ⟨v, _, _, _, hp, hr⟩ | ⟨_, hr⟩ | ⟨_, _, _, _, hl, hr⟩ <;>
    rw [hr]
  · exact .inl rfl
  · exact .inl (hP _ _)
  · exact .inl (hP _ _)
  · exact .inl (hp ▸ putNode_state M (P := fun x => M.tainted x = M.tainted s) (fun s1 op h1 => (hP s1 op).trans h1) v s rfl)
  · exact .inl rfl
  · exact .inr hl

variable {M}

/-- What erasing refused calls needs of the calls other than `AssignNode`: a refusal leaves the state or - its class in
    `Cls` - ends the key assembler (`End s s'`: `s'` is `s` with it ended), which only `AssembleKey` hands out. -/
structure Keyed (M : Mach σ) (inKey : σ → Bool) (End : σ → σ → Prop) (Cls : ErrClass → Prop) : Prop where
  err : ∀ {s s' op c}, M.prim s op = (s', .err c) → s' = s ∨ (End s s' ∧ Cls c)
  ok : ∀ {s s' op}, M.prim s op = (s', .ok) → op ≠ .assembleKey → inKey s' = false
  key : ∀ {s s'}, M.prim s .assembleKey = (s', .ok) → End s' s
  ended : ∀ {s s'}, End s s' → inKey s = true ∧ inKey s' = false
  unique : ∀ {s s1 s2}, End s s1 → End s s2 → s1 = s2
  marked : ∀ s, M.tainted (M.taint s) = true

variable {inKey : σ → Bool} {End : σ → σ → Prop} {Cls : ErrClass → Prop}

theorem Keyed.step_err (K : M.Keyed inKey End Cls) {s s' : σ} {op : Op} {c : ErrClass}
    (h : M.step s op = (s', .err c)) :
    s' = s ∨ (End s s' ∧ Cls c) ∨
      (M.leaves = true ∧ s' = M.taint s ∧ ∃ v, op = .assignNode v ∧ TAsm.isRec v = true) := by
  rcases h ▸ step_case M s op with hr | ⟨_, hr⟩ | ⟨_, _, _, hr⟩ | ⟨_, _, _, _, _, hr⟩ | ⟨_, hr⟩ | ⟨v, _, hv, hrec, hp, hr⟩
  · cases hr
  · exact (K.err hr.symm).imp_right Or.inl
  · exact (K.err hr.symm).imp_right Or.inl
  · cases hr
  · exact Or.inl (Prod.mk.inj hr).1
  · exact Or.inr (Or.inr ⟨hp, (Prod.mk.inj hr).1, v, hv, hrec⟩)

theorem Keyed.step_ok (K : M.Keyed inKey End Cls) {s s' : σ} {op : Op} (h : M.step s op = (s', .ok))
    (hop : op ≠ .assembleKey) : inKey s' = false := by
  rcases h ▸ step_case M s op with hr | ⟨_, hr⟩ | ⟨_, _, _, hr⟩ | ⟨v, _, _, hrec, hp, hr⟩ | ⟨_, hr⟩ | ⟨_, _, _, _, _, hr⟩
  · cases hr
  · exact K.ok hr.symm hop
  · exact K.ok hr.symm nofun
  · cases hr
    -- an accepted copy ends with its `Finish`
    cases v with
    | list _ | map _ =>
      simp only [putNode] at hp
      obtain ⟨s1, _, hp⟩ := andThen_eq_ok hp
      obtain ⟨s2, _, hp⟩ := andThen_eq_ok hp
      exact K.ok hp nofun
    | _ => cases hrec
  · cases hr
  · cases hr

theorem Keyed.step_key (K : M.Keyed inKey End Cls) {s s' : σ} (h : M.step s .assembleKey = (s', .ok)) : End s' s := by
  rcases h ▸ step_case M s .assembleKey with hr | ⟨_, hr⟩ | ⟨_, hv, _⟩ | ⟨_, _, hv, _⟩ | ⟨_, hr⟩ | ⟨_, _, hv, _⟩
  · cases hr
  · exact K.key hr.symm
  · cases hv
  · cases hv
  · cases hr
  · cases hv

theorem Keyed.keyAsm (K : M.Keyed inKey End Cls) : Hist.KeyAsm M.step inKey M.tainted where
  key h := ⟨(K.ended (K.step_key h)).2, (K.ended (K.step_key h)).1⟩
  ok := K.step_ok
  err h := by
    rcases K.step_err h with h1 | ⟨h1, _⟩ | ⟨_, h1, _⟩
    · exact Or.inl h1
    · exact Or.inr (Or.inl ⟨(K.ended h1).1, (K.ended h1).2, fun s0 h0 => K.unique (K.step_key h0) h1⟩)
    · exact Or.inr (Or.inr (by rw [h1]; exact K.marked _))
  stuck op ht := by unfold step; rw [ht]; rfl

end Mach
end Ipld

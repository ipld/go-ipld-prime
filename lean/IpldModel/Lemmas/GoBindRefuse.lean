/-
  The type-level builder of a binding refuses a conforming tree exactly when an integer does not
  fit its Go kind (`assignC_isSome_iff`); the canonical value (`canon`) is what makes the struct case of `assignFields` go through.
-/
import IpldModel.Lemmas.GoBindCases
import IpldModel.Lemmas.SchemaHasRepr
namespace Ipld
namespace GoBind
open Schema

mutual
/-- Every struct value in `v` lists exactly the fields of its type, in declaration order: `Schema.shapeOK` without its
    clause on tuple-represented structs (`tupleDense`), clause for clause.  The normal form of EVERY conforming value
    is canonical (`canon_normalize`); it is `shapeOK` only if it has a representation. -/
def canon (t : Ty) : TL → Bool
  | .list xs => match t with
    | .list et _ => canonList et xs
    | _ => true
  | .map es => match t with
    | .map vt _ => canonMap vt es
    | .struct fs _ => canonFieldsB fs.toList es
    | .union ms _ =>
      match es with
      | .cons k v .nil =>
        match ms.toList.find? (fun m => m.name == k) with
        | some m => canon m.ty v
        | none => true
      | _ => true
    | _ => true
  | _ => true
def canonList (et : Ty) : TLs → Bool
  | .nil => true
  | .cons x xs => canon et x && canonList et xs
def canonMap (vt : Ty) : TLKVs → Bool
  | .nil => true
  | .cons _ v es => canon vt v && canonMap vt es
def canonFieldsB : List Field → TLKVs → Bool
  | [], .nil => true
  | f :: fs, .cons k v es => k == f.name && canon f.ty v && canonFieldsB fs es
  | _, _ => false
end

theorem canonFieldsB_canonFields (F : List Field) (hnd : (F.map (·.name)).Nodup) (L : List (Bytes × TL))
    (hL : ∀ e ∈ L, ∀ f ∈ F, f.name = e.1 → canon f.ty e.2 = true) :
    (suf : List Field) → (∀ f ∈ suf, f ∈ F) → canonFieldsB suf (TLKVs.ofList (canonFields suf L)) = true
  | [], _ => rfl
  | f :: suf, hsub => by
    have ih := canonFieldsB_canonFields F hnd L hL suf (fun f' hf' => hsub f' (by simp [hf']))
    unfold canonFields at ih ⊢
    simp only [List.map_cons]
    cases hf : L.find? (fun e => e.1 == f.name) with
    | none =>
      simp only [TLKVs.ofList_cons, canonFieldsB, beq_self_eq_true, Bool.true_and, Bool.and_eq_true]
      exact ⟨rfl, ih⟩
    | some e =>
      obtain ⟨k, v⟩ := e
      have hmem := List.mem_of_find?_eq_some hf
      have hk : k = f.name := by simpa using List.find?_some hf
      simp only [TLKVs.ofList_cons, canonFieldsB, beq_self_eq_true, Bool.true_and, Bool.and_eq_true]
      exact ⟨hL (k, v) hmem f (hsub f (by simp)) hk.symm, ih⟩

mutual
theorem canon_normalize : (v : TL) → (t : Ty) → (nul : Bool) → t.wf = true → conforms t nul v = true →
    canon t (normalize t v) = true
  | .absent, _, _, _, _ | .null, _, _, _, _ | .bool _, _, _, _, _ | .int _, _, _, _, _ | .float _, _, _, _, _
  | .str _, _, _, _, _ | .bytes _, _, _, _, _ | .link _, _, _, _, _ => rfl
  | .list xs, t, nul, hwf, hc => by
    rcases conforms_list_cases hc with ⟨et, enul, rfl, hc⟩ | ⟨rfl, _⟩
    · exact canonList_normalize xs et enul hwf hc
    · rfl
  | .map es, t, nul, hwf, hc => by
    -- the union case calls itself on the value inside `es`: `es` is taken apart by `cases`, not through an equation
    unfold conforms at hc
    split at hc
    · exact canonMap_normalize es _ _ hwf [] hc
    · rename_i fs sr
      have hw := wf_struct hwf
      refine canonFieldsB_canonFields fs.toList hw.2.1 _ (fun e he f hf hname => ?_) fs.toList (fun _ h => h)
      obtain ⟨f', hf', hcan⟩ := canonStruct_normalize es fs.toList hw.1 [] hc e he
      obtain ⟨hf'F, hf'n⟩ := find?_mem_key hf'
      cases eq_of_key_eq (·.name) hw.2.1 hf hf'F (by rw [hname, hf'n])
      exact hcan
    · rename_i ms ur
      cases es with
      | nil => cases hc
      | cons k v es' =>
        cases es' with
        | cons _ _ _ => cases hc
        | nil =>
          cases hm : ms.toList.find? (fun m => m.name == k) with
          | none => simp only [hm] at hc; cases hc
          | some m =>
            simp only [hm] at hc
            simp only [normalize, hm, canon]
            exact canon_normalize v m.ty false
              ((wf_union hwf).1 m (List.mem_of_find?_eq_some hm)) hc
    · rfl
    · cases hc
theorem canonList_normalize : (xs : TLs) → (et : Ty) → (enul : Bool) → et.wf = true →
    conformsList et enul xs = true → canonList et (normalizeList et xs) = true
  | .nil, _, _, _, _ => rfl
  | .cons x xs, et, enul, hwf, hc => by
    simp only [conformsList, Bool.and_eq_true] at hc
    simp only [normalizeList, canonList, Bool.and_eq_true]
    exact ⟨canon_normalize x et enul hwf hc.1, canonList_normalize xs et enul hwf hc.2⟩
theorem canonMap_normalize : (es : TLKVs) → (vt : Ty) → (vnul : Bool) → vt.wf = true → (seen : List Bytes) →
    conformsMap vt vnul seen es = true → canonMap vt (normalizeMap vt es) = true
  | .nil, _, _, _, _, _ => rfl
  | .cons k x xs, vt, vnul, hwf, seen, hc => by
    simp only [conformsMap, Bool.and_eq_true] at hc
    simp only [normalizeMap, canonMap, Bool.and_eq_true]
    exact ⟨canon_normalize x vt vnul hwf hc.1.2, canonMap_normalize xs vt vnul hwf (k :: seen) hc.2⟩
theorem canonStruct_normalize : (es : TLKVs) → (F : List Field) → (∀ f ∈ F, f.ty.wf = true) →
    (seen : List Bytes) → conformsStruct F seen es = true →
    ∀ e ∈ (normalizeStruct F es).toList,
      ∃ f, F.find? (fun f => f.name == e.1) = some f ∧ canon f.ty e.2 = true
  | .nil, _, _, _, _, e, he => by simp [normalizeStruct, TLKVs.toList] at he
  | .cons k v es, F, hwf, seen, h, e, he => by
    rw [conformsStruct_cons] at h
    cases hf : F.find? (fun f => f.name == k) with
    | none => simp [hf] at h
    | some f =>
      simp only [hf, Bool.and_eq_true] at h
      simp only [normalizeStruct, TLKVs.toList, hf, List.mem_cons] at he
      rcases he with rfl | he
      · refine ⟨f, hf, ?_⟩
        simp only []
        have hmem := List.mem_of_find?_eq_some hf
        by_cases hva : v = .absent
        · subst hva
          rfl
        · have h1 := h.1.2
          rw [fieldValOK_ne_absent f hva] at h1
          exact canon_normalize v f.ty f.nullable (hwf f hmem) h1
      · exact canonStruct_normalize es F hwf (k :: seen) h.2 e he
end

def assignC_isSome.Motive (v : TL) : Prop :=
  ∀ g t nul, t.wf = true → compatible g t nul = true → conforms t nul v = true → canon t v = true →
    intsFit g t nul v = true → ∃ gv, assignC g t nul v = some gv

theorem assignList_isSome_of {g : GoTy} {t : Ty} {nul : Bool} (hwf : t.wf = true) (hc : compatible g t nul = true) :
    (xs : TLs) → (∀ x ∈ xs.toList, assignC_isSome.Motive x) → conformsList t nul xs = true → canonList t xs = true →
    intsFitList g t nul xs = true → ∃ ys, assignList g t nul xs = some ys
  | .nil, _, _, _, _ => ⟨.nil, rfl⟩
  | .cons x xs, ih, hcf, hcan, hf => by
    simp only [conformsList, canonList, intsFitList, Bool.and_eq_true] at hcf hcan hf
    obtain ⟨a, ha⟩ := ih x List.mem_cons_self g t nul hwf hc hcf.1 hcan.1 hf.1
    obtain ⟨r, hr⟩ := assignList_isSome_of hwf hc xs (fun y hy => ih y (List.mem_cons_of_mem _ hy)) hcf.2 hcan.2 hf.2
    exact ⟨.cons a r, by rw [assignList_cons, ha, hr]; rfl⟩

theorem assignKVs_isSome_of {g : GoTy} {t : Ty} {nul : Bool} (hwf : t.wf = true) (hc : compatible g t nul = true) :
    (es : TLKVs) → (∀ e ∈ es.toList, assignC_isSome.Motive e.2) → (seen : List Bytes) → conformsMap t nul seen es = true →
    canonMap t es = true → intsFitKVs g t nul es = true → ∃ ys, assignKVs g t nul es = some ys
  | .nil, _, _, _, _, _ => ⟨.nil, rfl⟩
  | .cons k x xs, ih, seen, hcf, hcan, hf => by
    simp only [conformsMap, canonMap, intsFitKVs, Bool.and_eq_true] at hcf hcan hf
    obtain ⟨a, ha⟩ := ih (k, x) List.mem_cons_self g t nul hwf hc hcf.1.2 hcan.1 hf.1
    obtain ⟨r, hr⟩ := assignKVs_isSome_of hwf hc xs (fun y hy => ih y (List.mem_cons_of_mem _ hy)) (k :: seen) hcf.2 hcan.2 hf.2
    exact ⟨.cons k a r, by rw [assignKVs_cons, ha, hr]; rfl⟩

/-- one field: an unset optional field is stored as nil, any other value as in its value slot -/
theorem assignField_isSome {g : GoTy} {f : Field} {v : TL} (ih : assignC_isSome.Motive v) (hwf : f.ty.wf = true)
    (hc : compatField g f = true) (hok : fieldValOK f v = true) (hcan : canon f.ty v = true)
    (hf : intsFitField g f v = true) : ∃ a, assignField g f v = some a := by
  by_cases hva : v = .absent
  · subst hva
    rcases compatField_cases hc with ⟨_, ho, _⟩ | ⟨g1, hs, _⟩ | ⟨hs, _⟩
    · rw [fieldValOK, ho] at hok; cases hok
    · exact ⟨_, by simp only [assignField, hs]; rfl⟩
    · exact ⟨_, by simp only [assignField, hs]; rfl⟩
  · rw [fieldValOK_ne_absent f hva] at hok
    rcases compatField_cases hc with ⟨hs, _, hcg⟩ | ⟨g1, hs, rfl, _, hcg⟩ | ⟨hs, _, hn, _, hcg⟩ <;>
      simp only [assignField, intsFitField, hs, if_neg hva] at hf ⊢
    · exact ih g f.ty f.nullable hwf hcg hok hcan hf
    · obtain ⟨a, ha⟩ := ih g1 f.ty f.nullable hwf hcg hok hcan hf
      exact ⟨_, by rw [ha]; rfl⟩
    · exact ih g f.ty false hwf hcg (hn ▸ hok) hcan hf

theorem assignFields_isSome_of {F : List Field} (hnd : (F.map (·.name)).Nodup) (hwfF : ∀ f ∈ F, f.ty.wf = true) :
    (es : TLKVs) → (∀ e ∈ es.toList, assignC_isSome.Motive e.2) → (gfs : GoFields) → (fs : List Field) →
    (∀ f ∈ fs, f ∈ F) → FieldVals F es.toList → compatFields gfs fs = true → canonFieldsB fs es = true →
    intsFitFields gfs fs es = true →
    ∃ ys, assignFields gfs fs es = some ys
  | .nil, _, gfs, fs, _, _, hc, hcan, _ => by
    cases fs <;> first | cases hcan | skip
    cases gfs <;> first | cases hc | skip
    exact ⟨.nil, rfl⟩
  | .cons k v es, ih, gfs, fs, hsub, hvals, hc, hcan, hf => by
    cases fs with
    | nil => cases hcan
    | cons f fs =>
      cases gfs with
      | nil => cases hc
      | cons n g gfs =>
        rw [compatFields_cons] at hc
        rw [intsFitFields_cons] at hf
        simp only [canonFieldsB, Bool.and_eq_true, beq_iff_eq] at hcan hc hf
        obtain ⟨⟨rfl, hcv⟩, hcr⟩ := hcan
        have hfF : f ∈ F := hsub f List.mem_cons_self
        obtain ⟨r, hr⟩ := assignFields_isSome_of hnd hwfF es (fun e he => ih e (List.mem_cons_of_mem _ he)) gfs fs
          (fun f hf => hsub f (List.mem_cons_of_mem _ hf)) (fun e he => hvals e (List.mem_cons_of_mem _ he)) hc.2 hcr hf.2
        obtain ⟨a, ha⟩ := assignField_isSome (ih _ List.mem_cons_self) (hwfF f hfF) hc.1.2
          (fieldValOK_head hnd hfF hvals) hcv hf.1
        exact ⟨.cons a r, by rw [assignFields_cons, ha, hr]; simp only [bne_self_eq_false, Bool.false_eq_true, if_false]; rfl⟩

/-- By induction over the children of the value.  The slot is a base type behind its pointers (`compatible_unptr_some`); the
    type the value conforms to leaves one base type (`compatible_base`), and what is stored there is a `Stored`. -/
theorem assignC_isSome : ∀ v, assignC_isSome.Motive v := by
  refine TL.step_induct fun v ihl ihm g t nul hwf hc hcf hcan hf => ?_
  obtain ⟨g0, hu, hc0, hnp⟩ := compatible_unptr_some hc
  have hg0 := compatible_base hc0 hnp
  cases v with
  | absent => cases hcf
  | null =>
    cases (show nul = true from hcf)
    rcases compatible_nul hc with ⟨g1, rfl⟩ | hb
    · exact ⟨_, rfl⟩
    · exact ⟨_, assignC_null_bare hb⟩
  | bool _ | float _ | bytes _ | link _ =>
    unfold conforms at hcf
    split at hcf <;> first | cases hcf | skip
    all_goals first | subst hg0 | (obtain ⟨_, rfl⟩ := hg0)
    · exact ⟨_, Stored.assignC (by constructor) hu⟩
    · exact ⟨_, (Stored.node rfl (by nofun)).assignC hu⟩
  | int i =>
    rcases conforms_int_cases hcf with rfl | rfl
    · obtain ⟨k, rfl⟩ := hg0
      unfold intsFit at hf
      rw [hu] at hf
      exact ⟨_, (Stored.int hf).assignC hu⟩
    · cases hg0
      exact ⟨_, (Stored.node rfl (by nofun)).assignC hu⟩
  | str s =>
    rcases conforms_str_cases hcf with rfl | rfl | ⟨ms, r, rfl, hany⟩
    · cases hg0
      exact ⟨_, Stored.str.assignC hu⟩
    · cases hg0
      exact ⟨_, (Stored.node rfl (by nofun)).assignC hu⟩
    · rcases hg0 with rfl | ⟨k, rfl, rfl⟩
      · exact ⟨_, (Stored.enumStr hany).assignC hu⟩
      · -- a Go integer holding the enum
        rw [← List.isSome_find?, Option.isSome_iff_exists] at hany
        obtain ⟨m, hm⟩ := hany
        unfold intsFit at hf
        simp only [hu, hm] at hf
        exact ⟨_, (Stored.enumInt hm hf).assignC hu⟩
  | list xs =>
    rcases conforms_list_cases hcf with ⟨et, enul, rfl, hcl⟩ | ⟨rfl, hany⟩
    · obtain ⟨ge, rfl, hce⟩ := hg0
      unfold intsFit at hf
      rw [hu] at hf
      obtain ⟨ys, hys⟩ := assignList_isSome_of (t := et) hwf hce xs (ihl xs rfl) hcl hcan hf
      exact ⟨_, (Stored.list hys).assignC hu⟩
    · cases hg0
      obtain ⟨d, hd⟩ := toDM_of_anyOK hany
      exact ⟨_, (Stored.node hd (by nofun)).assignC hu⟩
  | map es =>
    rcases conforms_map_cases hcf with ⟨vt, vnul, rfl, hcm⟩ | ⟨fs, sr, rfl, hcs⟩ | ⟨ms, ur, k, v, m, rfl, rfl, hm, hcv⟩ |
      ⟨rfl, hany⟩
    · obtain ⟨gv0, rfl, hcg⟩ := hg0
      unfold intsFit at hf
      rw [hu] at hf
      obtain ⟨ys, hys⟩ := assignKVs_isSome_of (t := vt) hwf hcg es (ihm es rfl) [] hcm hcan hf
      exact ⟨_, (Stored.omap hys).assignC hu⟩
    · obtain ⟨gfs, rfl, hcfs⟩ := hg0
      have hw := wf_struct hwf
      unfold intsFit at hf
      rw [hu] at hf
      obtain ⟨ys, hys⟩ := assignFields_isSome_of hw.2.1 hw.1 es (ihm es rfl) gfs fs.toList
        (fun _ h => h) (conformsStruct_iff.1 hcs).2.2.1 hcfs hcan hf
      exact ⟨_, (Stored.struct hys).assignC hu⟩
    · obtain ⟨gfs, rfl, hcms⟩ := hg0
      obtain ⟨i, hfi, hmi⟩ := findIdx_of_find? hm
      obtain ⟨g1, hg1, hcg1⟩ := compatMembers_get gfs ms.toList hcms i m hmi
      unfold canon at hcan
      unfold intsFit at hf
      simp only [hm] at hcan
      simp only [hu, hfi, hg1] at hf
      obtain ⟨gv, hgv⟩ := ihm _ rfl (k, v) List.mem_cons_self g1 m.ty false
        ((wf_union hwf).1 m (List.mem_of_find?_eq_some hm)) hcg1 hcv hcan hf
      exact ⟨_, (Stored.union hfi hg1 hgv).assignC hu⟩
    · cases hg0
      obtain ⟨d, hd⟩ := toDM_of_anyOK hany
      exact ⟨_, (Stored.node hd (by nofun)).assignC hu⟩

theorem assignList_isSome : (xs : TLs) → (g : GoTy) → (t : Ty) → (nul : Bool) → t.wf = true →
    compatible g t nul = true → conformsList t nul xs = true → canonList t xs = true →
    intsFitList g t nul xs = true → ∃ ys, assignList g t nul xs = some ys :=
  fun xs _ _ _ hwf hc => assignList_isSome_of hwf hc xs fun x _ => assignC_isSome x

theorem assignKVs_isSome : (es : TLKVs) → (g : GoTy) → (t : Ty) → (nul : Bool) → t.wf = true →
    compatible g t nul = true → (seen : List Bytes) → conformsMap t nul seen es = true → canonMap t es = true →
    intsFitKVs g t nul es = true → ∃ ys, assignKVs g t nul es = some ys :=
  fun es _ _ _ hwf hc => assignKVs_isSome_of hwf hc es fun e _ => assignC_isSome e.2

theorem assignFields_isSome : (es : TLKVs) → (gfs : GoFields) → (fs F : List Field) →
    (∀ f ∈ fs, f ∈ F) → (F.map (·.name)).Nodup → (∀ f ∈ F, f.ty.wf = true) →
    (∀ e ∈ es.toList, ∃ f, F.find? (fun f => f.name == e.1) = some f ∧ fieldValOK f e.2 = true) →
    compatFields gfs fs = true → canonFieldsB fs es = true → intsFitFields gfs fs es = true →
    ∃ ys, assignFields gfs fs es = some ys :=
  fun es gfs fs _ hsub hnd hwfF => assignFields_isSome_of hnd hwfF es (fun e _ => assignC_isSome e.2) gfs fs hsub

def assignC_fits.Motive (v : TL) : Prop := ∀ g t nul gv, assignC g t nul v = some gv → intsFit g t nul v = true

theorem assignList_fits_of {g : GoTy} {t : Ty} {nul : Bool} : (xs : TLs) → (∀ x ∈ xs.toList, assignC_fits.Motive x) →
    (ys : GoVals) → assignList g t nul xs = some ys → intsFitList g t nul xs = true
  | .nil, _, _, _ => rfl
  | .cons x xs, ih, ys, ha => by
    rw [assignList_cons, zipSome_eq_some] at ha
    obtain ⟨a, r, h1, h2, _⟩ := ha
    rw [intsFitList, ih x List.mem_cons_self g t nul a h1,
      assignList_fits_of xs (fun y hy => ih y (List.mem_cons_of_mem _ hy)) r h2]
    rfl

theorem assignKVs_fits_of {g : GoTy} {t : Ty} {nul : Bool} : (es : TLKVs) → (∀ e ∈ es.toList, assignC_fits.Motive e.2) →
    (ys : GoKVs) → assignKVs g t nul es = some ys → intsFitKVs g t nul es = true
  | .nil, _, _, _ => rfl
  | .cons k x xs, ih, ys, ha => by
    rw [assignKVs_cons, zipSome_eq_some] at ha
    obtain ⟨a, r, h1, h2, _⟩ := ha
    rw [intsFitKVs, ih (k, x) List.mem_cons_self g t nul a h1,
      assignKVs_fits_of xs (fun y hy => ih y (List.mem_cons_of_mem _ hy)) r h2]
    rfl

theorem assignField_fits {g : GoTy} {f : Field} {v : TL} {a : GoVal} (ih : assignC_fits.Motive v)
    (h1 : assignField g f v = some a) :
    intsFitField g f v = true := by
  unfold assignField at h1
  unfold intsFitField
  cases hs : fslot g f.opt f.nullable with
  | value => simp only [hs] at h1 ⊢; exact ih g f.ty f.nullable a h1
  | optPtr g1 =>
    simp only [hs] at h1 ⊢
    by_cases hva : v = .absent
    · subst hva; rfl
    · rw [if_neg hva, Option.map_eq_some_iff] at h1
      obtain ⟨a1, h1, _⟩ := h1
      exact ih g1 f.ty f.nullable a1 h1
  | optBare =>
    simp only [hs] at h1 ⊢
    by_cases hva : v = .absent
    · subst hva; rfl
    · rw [if_neg hva] at h1
      exact ih g f.ty false a h1
  | bad => simp only [hs] at h1; cases h1

theorem assignFields_fits_of : (es : TLKVs) → (∀ e ∈ es.toList, assignC_fits.Motive e.2) → (gfs : GoFields) → (fs : List Field) →
    (ys : GoVals) → assignFields gfs fs es = some ys → intsFitFields gfs fs es = true
  | .nil, _, gfs, fs, _, ha => by
    obtain ⟨rfl, rfl, _⟩ := assignFields_nil_inv ha
    rfl
  | .cons k v es, ih, gfs, fs, ys, ha => by
    obtain ⟨n, g, gfs, f, fs, a, r, rfl, rfl, rfl, h1, h2, _⟩ := assignFields_cons_inv ha
    rw [intsFitFields_cons, assignFields_fits_of es (fun e he => ih e (List.mem_cons_of_mem _ he)) gfs fs r h2,
      assignField_fits (ih _ List.mem_cons_self) h1]
    rfl

theorem assignC_fits : ∀ v, assignC_fits.Motive v := by
  refine TL.step_induct fun v ihl ihm g t nul gv ha => ?_
  cases v with
  | absent | null | bool _ | float _ | bytes _ | link _ => rfl
  | int i =>
    obtain ⟨g0, x, hu, hs, -⟩ := assignC_stored ha nofun
    unfold intsFit
    rw [hu]
    cases hs with
    | int hf => exact hf
    | node _ _ => rfl
  | str s =>
    obtain ⟨g0, x, hu, hs, -⟩ := assignC_stored ha nofun
    unfold intsFit
    rw [hu]
    cases hs with
    | enumInt hm hf => simp only [hm]; exact hf
    | _ => rfl
  | list xs =>
    obtain ⟨g0, x, hu, hs, -⟩ := assignC_stored ha nofun
    unfold intsFit
    rw [hu]
    cases hs with
    | list hys => exact assignList_fits_of xs (ihl xs rfl) _ hys
    | node _ _ => rfl
  | map es =>
    obtain ⟨g0, x, hu, hs, -⟩ := assignC_stored ha nofun
    unfold intsFit
    rw [hu]
    cases hs with
    | omap h => exact assignKVs_fits_of es (ihm es rfl) _ h
    | struct h => exact assignFields_fits_of es (ihm es rfl) _ _ _ h
    | union hfi hg1 h => simp only [hfi, hg1]; exact ihm _ rfl _ List.mem_cons_self _ _ false _ h
    | node _ _ => rfl

theorem assignKVs_fits : (es : TLKVs) → (g : GoTy) → (t : Ty) → (nul : Bool) → (ys : GoKVs) →
    assignKVs g t nul es = some ys → intsFitKVs g t nul es = true :=
  fun es _ _ _ => assignKVs_fits_of es fun e _ => assignC_fits e.2

theorem assignFields_fits : (es : TLKVs) → (gfs : GoFields) → (fs : List Field) → (ys : GoVals) →
    assignFields gfs fs es = some ys → intsFitFields gfs fs es = true :=
  fun es => assignFields_fits_of es fun e _ => assignC_fits e.2

theorem assignC_isSome_iff {g : GoTy} {t : Ty} {nul : Bool} {v : TL} (hwf : t.wf = true)
    (hc : compatible g t nul = true) (hcf : conforms t nul v = true) (hcan : canon t v = true) :
    (assignC g t nul v).isSome = intsFit g t nul v := by
  cases hf : intsFit g t nul v with
  | true =>
    obtain ⟨gv, hgv⟩ := assignC_isSome v g t nul hwf hc hcf hcan hf
    rw [hgv]; rfl
  | false =>
    cases ha : assignC g t nul v with
    | none => rfl
    | some gv => rw [assignC_fits v g t nul gv ha] at hf; cases hf

end GoBind
end Ipld

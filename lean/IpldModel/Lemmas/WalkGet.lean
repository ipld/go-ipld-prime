/-
  The walk against path resolution: the node the walk visits at a path is the node `get` resolves the path to.
-/
import IpldModel.Lemmas.WalkReach
import IpldModel.Lemmas.Path
import IpldModel.Lemmas.Children
import IpldModel.Spec.SelectorDenote
namespace Ipld
namespace Walk
open Sel Spec

theorem childList_cases {n : DM} {s : S} {ps : Seg} {v : DM} (h : (ps, v) ∈ childList n s) :
    (ps, v) ∈ children n ∨ lookupBySegment n ps = some v := by
  unfold childList at h
  split at h
  · exact Or.inl h
  · right
    simp only [List.mem_filterMap, Option.map_eq_some_iff] at h
    obtain ⟨ps', _, v', hv, heq⟩ := h
    cases heq
    exact hv

theorem childList_getStep {store : List (Bytes × DM)} {F : Nat} {n : DM} (hn : n.NoDup) {s : S} {ps : Seg} {v : DM}
    (h : (ps, v) ∈ childList n s) : getStep store F n ps = followLinks store F v := by
  rcases childList_cases h with h | h
  · exact children_getStep hn h
  · exact lookup_getStep h

theorem childList_noDup {n : DM} (hn : n.NoDup) {s : S} {ps : Seg} {v : DM}
    (h : (ps, v) ∈ childList n s) : v.NoDup := by
  rcases childList_cases h with h | h
  · exact children_noDup hn h
  · exact lookup_noDup hn h

def StoreNoDup (store : Store) : Prop := ∀ c blk, storeGet store c = some blk → blk.NoDup

def StoreOk (store : List (Bytes × DM)) : Prop :=
  ∀ c blk, storeGet store c = some blk → blk.NoDup ∧ ∀ c', blk ≠ .link c'

theorem reach_noDup {cfg : Cfg} {root : DM} {s0 : S} (hroot : root.NoDup)
    (hstore : StoreNoDup cfg.store) {path : Path} {n : DM} {s : S} (h : Reach cfg root s0 path n s) : n.NoDup := by
  induction h with
  | root => exact hroot
  | child _ hm _ _ ih => exact childList_noDup ih hm
  | link _ _ _ hs _ _ => exact hstore _ _ hs

/-- `F + 2`: `followLinks` spends one unit on a link child and one on the block behind it, which by `StoreOk` is
    not a link again. -/
theorem reach_get {cfg : Cfg} {root : DM} {s0 : S} (F : Nat) (hroot : root.NoDup) (hstore : StoreOk cfg.store)
    {path : Path} {n : DM} {s : S} (h : Reach cfg root s0 path n s) :
    get cfg.store (F + 2) root path = .ok n := by
  have hnd := fun {path n s} (hr : Reach cfg root s0 path n s) =>
    reach_noDup hroot (fun c blk hs => (hstore c blk hs).1) hr
  induction h with
  | root => rfl
  | child hr hm _ hnl ih =>
    rw [get_snoc ih, childList_getStep (hnd hr) hm]
    exact followLinks_nonlink hnl
  | link hr hm _ hs _ ih =>
    rw [get_snoc ih, childList_getStep (hnd hr) hm]
    exact followLinks_link hs (hstore _ _ hs).2

end Walk
end Ipld

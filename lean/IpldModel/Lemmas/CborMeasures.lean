/-
  What DAG-CBOR measures of a value (encodable, finite floats, depth, cost, longest string, links) does not look
  at the order of map entries (`OrderBlind`), so the Spec's canonical form keeps it.
-/
import IpldModel.Lemmas.CanonOrder
import IpldModel.Spec.CborLimits
namespace Ipld
namespace Cbor
open Spec

theorem canonList_NoDup : (xs : DMs) → xs.NoDup → (canonList xs).NoDup :=
  fun xs h => (noDup_orderBlind.canonListBy canonCbor xs).mpr h
theorem canonKVs_NoDupVals : (es : DMKVs) → es.NoDupVals → (canonKVs es).NoDupVals :=
  fun es h => (noDup_orderBlind.canonKVsBy canonCbor es).mpr h

theorem encodable_orderBlind (cfg : EncCfg) :
    OrderBlind (encodable cfg) (encodableList cfg) (encodableKVs cfg) :=
  .ofFold id and Bool.and_left_comm (fun _ => rfl) (fun _ => rfl) (fun _ _ => rfl) (fun _ _ _ => rfl)

theorem canonList_encodable (cfg : EncCfg) : (xs : DMs) → encodableList cfg xs = true →
    encodableList cfg (canonList xs) = true :=
  fun xs h => ((encodable_orderBlind cfg).canonListBy canonCbor xs).trans h
theorem canonKVs_encodable (cfg : EncCfg) : (es : DMKVs) → encodableKVs cfg es = true →
    encodableKVs cfg (canonKVs es) = true :=
  fun es h => ((encodable_orderBlind cfg).canonKVsBy canonCbor es).trans h

theorem finiteFloats_orderBlind : OrderBlind finiteFloats finiteFloatsList finiteFloatsKVs :=
  .ofFold id And (fun _ _ _ => propext and_left_comm) (fun _ => rfl) (fun _ => rfl) (fun _ _ => rfl) (fun _ _ _ => rfl)

theorem canonList_finiteFloats : (xs : DMs) → finiteFloatsList xs → finiteFloatsList (canonList xs) :=
  fun xs h => (finiteFloats_orderBlind.canonListBy canonCbor xs).mpr h
theorem canonKVs_finiteFloats : (es : DMKVs) → finiteFloatsKVs es → finiteFloatsKVs (canonKVs es) :=
  fun es h => (finiteFloats_orderBlind.canonKVsBy canonCbor es).mpr h

theorem insertKV_length (k : Bytes) (v : DM) : (es : DMKVs) →
    (insertKV k v es).length = es.length + 1 := fun es => by
  simp only [DMKVs.length]
  rw [(canonCbor.ins_perm k v es).length_eq]
  rfl

theorem canonList_depth : (xs : DMs) → (canonList xs).depth = xs.depth :=
  depth_orderBlind.canonListBy canonCbor
theorem canonKVs_depth : (es : DMKVs) → (canonKVs es).depth = es.depth :=
  depth_orderBlind.canonKVsBy canonCbor

theorem cost_orderBlind : OrderBlind cost costList costKVs where
  list h hl := by simp only [cost, h, hl]
  map {es es'} h hp := by
    have hl : es.length = es'.length := by simpa [DMKVs.length, DMKVs.keys] using hp.length_eq
    simp only [cost, h, hl]
  consL h₁ h₂ := by simp only [costList, h₁, h₂]
  consK h₁ h₂ := by simp only [costKVs, h₁, h₂]
  swap _ _ _ _ _ := by simp only [costKVs]; omega

theorem canonList_cost : (xs : DMs) → costList (canonList xs) = costList xs :=
  cost_orderBlind.canonListBy canonCbor
theorem canonKVs_cost : (es : DMKVs) → costKVs (canonKVs es) = costKVs es :=
  cost_orderBlind.canonKVsBy canonCbor

theorem maxStr_orderBlind : OrderBlind maxStr maxStrList maxStrKVs where
  list h _ := by simp only [maxStr, h]
  map h _ := by simp only [maxStr, h]
  consL h₁ h₂ := by simp only [maxStrList, h₁, h₂]
  consK h₁ h₂ := by simp only [maxStrKVs, h₁, h₂]
  swap k v k' v' es := by
    simp only [maxStrKVs]
    rw [Nat.max_left_comm (maxStr v), Nat.max_left_comm k.length, Nat.max_left_comm (maxStr v),
      Nat.max_left_comm k.length]

theorem canonList_maxStr : (xs : DMs) → maxStrList (canonList xs) = maxStrList xs :=
  maxStr_orderBlind.canonListBy canonCbor
theorem canonKVs_maxStr : (es : DMKVs) → maxStrKVs (canonKVs es) = maxStrKVs es :=
  maxStr_orderBlind.canonKVsBy canonCbor

theorem hasLink_orderBlind : OrderBlind hasLink hasLinkList hasLinkKVs :=
  .ofFold id or Bool.or_left_comm (fun _ => rfl) (fun _ => rfl) (fun _ _ => rfl) (fun _ _ _ => rfl)

theorem canonList_hasLink : (xs : DMs) → hasLinkList (canonList xs) = hasLinkList xs :=
  hasLink_orderBlind.canonListBy canonCbor
theorem canonKVs_hasLink : (es : DMKVs) → hasLinkKVs (canonKVs es) = hasLinkKVs es :=
  hasLink_orderBlind.canonKVsBy canonCbor

theorem withinLimits_canon (cfg : DecCfg) (v : DM) : WithinLimits cfg (canon v) ↔ WithinLimits cfg v := by
  simp only [WithinLimits, depth_orderBlind.canonBy canonCbor, cost_orderBlind.canonBy canonCbor, maxStr_orderBlind.canonBy canonCbor, hasLink_orderBlind.canonBy canonCbor]

end Cbor
end Ipld

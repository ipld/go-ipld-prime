/-
  The walk through its primitive steps: the budget checks and the link step by cases; induction over a single run
  (`walk_ind`) and its common forms (`walk_post`, `walk_rel`: what a run does to the state; `walk_inv`: the log,
  by position); then what holds of every run (`eventsExtend_all`, `no_panic_all`, `plain_all` for a walk without budgets)
  and `walk_congr`, the one fact here that compares two runs.
-/
import IpldModel.Lemmas.WalkEq
import IpldModel.Lemmas.SelectorLemmas
namespace Ipld
namespace Walk
open Sel

theorem checkNode_cases (st : St) :
    ((∃ b, st.nodeBudget = some b ∧ b ≤ 0) ∧ checkNode st = .error .budgetNode) ∨
    ((∀ b, st.nodeBudget = some b → 0 < b) ∧
      checkNode st = .ok { st with nodeBudget := st.nodeBudget.map (· - 1) }) := by
  obtain ⟨nb, lb, seen, ev⟩ := st
  cases nb with
  | none => exact .inr ⟨nofun, rfl⟩
  | some b =>
    simp only [checkNode]
    split
    · exact .inl ⟨⟨b, rfl, (by assumption)⟩, rfl⟩
    · exact .inr ⟨fun b' hb => (by cases hb; omega), rfl⟩

theorem checkNode_error {st : St} {e : Err} (h : checkNode st = .error e) : e = .budgetNode := by
  rcases checkNode_cases st with ⟨_, h1⟩ | ⟨_, h1⟩ <;> rw [h1] at h <;> cases h
  rfl

theorem checkNode_ok {st st1 : St} (h : checkNode st = .ok st1) :
    st1 = { st with nodeBudget := st.nodeBudget.map (· - 1) } := by
  rcases checkNode_cases st with ⟨_, h1⟩ | ⟨_, h1⟩ <;> rw [h1] at h <;> cases h
  rfl

theorem checkNode_events {st st1 : St} (h : checkNode st = .ok st1) : st1.events = st.events := by
  rw [checkNode_ok h]

theorem checkLink_cases (st : St) :
    ((∃ b, st.linkBudget = some b ∧ b ≤ 0) ∧ checkLink st = .error .budgetLink) ∨
    ((∀ b, st.linkBudget = some b → 0 < b) ∧
      checkLink st = .ok { st with linkBudget := st.linkBudget.map (· - 1) }) := by
  obtain ⟨nb, lb, seen, ev⟩ := st
  cases lb with
  | none => exact .inr ⟨nofun, rfl⟩
  | some b =>
    simp only [checkLink]
    split
    · exact .inl ⟨⟨b, rfl, (by assumption)⟩, rfl⟩
    · exact .inr ⟨fun b' hb => (by cases hb; omega), rfl⟩

theorem markSeen_eq (cfg : Cfg) (c : Bytes) (st : St) :
    markSeen cfg c st = { st with seen := (markSeen cfg c st).seen } := by
  unfold markSeen; split <;> rfl

theorem linkStep_cases (cfg : Cfg) (c : Bytes) (st : St) :
    ((cfg.linkOnce && st.seen.contains c) = true ∧ linkStep cfg c st = (st, .ok none)) ∨
    ((cfg.linkOnce && st.seen.contains c) = false ∧
      (((∃ b, st.linkBudget = some b ∧ b ≤ 0) ∧
          linkStep cfg c st = ({ st with seen := (markSeen cfg c st).seen }, .error .budgetLink)) ∨
       ((∀ b, st.linkBudget = some b → 0 < b) ∧ linkStep cfg c st = (
          { st with seen := (markSeen cfg c st).seen, linkBudget := st.linkBudget.map (· - 1),
                    events := .load c :: st.events }, fetch cfg c)))) := by
  rw [linkStep_eq]
  by_cases h1 : (cfg.linkOnce && st.seen.contains c) = true
  · exact .inl ⟨h1, if_pos h1⟩
  · rw [if_neg h1]
    refine .inr ⟨by simpa using h1, ?_⟩
    have hck := checkLink_cases (markSeen cfg c st)
    rw [markSeen_eq] at hck
    rcases hck with ⟨hb, hck⟩ | ⟨hb, hck⟩
    · exact .inl ⟨hb, by rw [markSeen_eq, hck]⟩
    · exact .inr ⟨hb, by rw [markSeen_eq, hck]⟩

theorem linkStep_error {cfg : Cfg} {c : Bytes} {st : St} {e : Err} (h : (linkStep cfg c st).2 = .error e) :
    e = .budgetLink ∨ e = .load := by
  rcases linkStep_cases cfg c st with ⟨_, h1⟩ | ⟨_, ⟨_, h1⟩ | ⟨_, h1⟩⟩ <;> rw [h1] at h
  · cases h
  · cases h; exact .inl rfl
  · exact .inr (fetch_error h)

theorem linkStep_some {cfg : Cfg} {c : Bytes} {st : St} {blk : DM} (h : (linkStep cfg c st).2 = .ok (some blk)) :
    storeGet cfg.store c = some blk ∧ cfg.skip.contains c = false ∧
      (linkStep cfg c st).1.events = .load c :: st.events := by
  rcases linkStep_cases cfg c st with ⟨_, h1⟩ | ⟨_, ⟨_, h1⟩ | ⟨_, h1⟩⟩ <;> rw [h1] at h ⊢
  · cases h
  · cases h
  · exact ⟨(fetch_some h).1, (fetch_some h).2, rfl⟩

theorem linkStep_none {cfg : Cfg} {c : Bytes} {st : St} (h : (linkStep cfg c st).2 = .ok none) :
    (linkStep cfg c st).1 = st ∨
    ((linkStep cfg c st).1.events = .load c :: st.events ∧ cfg.skip.contains c = true) := by
  rcases linkStep_cases cfg c st with ⟨_, h1⟩ | ⟨_, ⟨_, h1⟩ | ⟨_, h1⟩⟩ <;> rw [h1] at h ⊢
  · exact .inl rfl
  · cases h
  · refine .inr ⟨rfl, ?_⟩
    unfold fetch at h
    split at h
    · assumption
    · split at h <;> cases h

theorem linkStep_seen {cfg : Cfg} {c : Bytes} {st : St} (hl : cfg.linkOnce = true) (hc : st.seen.contains c = true) :
    linkStep cfg c st = (st, .ok none) := by
  unfold linkStep
  rw [if_pos (by simp only [hl, hc]; rfl)]

theorem enterNode_error {cfg : Cfg} {past : Bool} {path : Path} {n : DM} {s : S} {st st' : St} {e : Err}
    (h : enterNode cfg past path n s st = (st', .error e)) :
    (e = .budgetNode ∨ e = .reify) ∧ st'.events = st.events := by
  unfold enterNode at h
  cases hck : checkNode st with
  | error e' => rw [hck] at h; cases h; exact ⟨.inl (checkNode_error hck), rfl⟩
  | ok st1 =>
    rw [hck] at h
    dsimp only at h
    split at h <;> cases h
    exact ⟨.inr rfl, checkNode_events hck⟩

theorem enterNode_ok_events {cfg : Cfg} {past : Bool} {path : Path} {n : DM} {s : S} {st st2 : St}
    (h : enterNode cfg past path n s st = (st2, .ok ())) :
    (st2.events = st.events ∧ cfg.startAt ≠ []) ∨ st2.events = visitEvent path n s :: st.events := by
  unfold enterNode at h
  cases hck : checkNode st with
  | error e' => rw [hck] at h; cases h
  | ok st1 =>
    rw [hck] at h
    dsimp only at h
    split at h <;> cases h
    rw [← checkNode_events hck]
    unfold visitSt
    split
    · rename_i hc; exact .inl ⟨rfl, fun h' => by simp [h'] at hc⟩
    · exact .inr rfl

/-- how `exploreChild` ends when the selector does not lead into the child -/
inductive Unexplored : XR (Option S) → Except Err Unit → Prop
  | panic : Unexplored (.error .panic) (.error .panic)
  | selector : Unexplored (.error .error) (.error .selector)
  | none : Unexplored (.ok none) (.ok ())

/-- how `exploreChild` ends at a link child whose block is not entered -/
inductive LinkStops : Except Err (Option DM) → Except Err Unit → Prop
  | error (e : Err) : LinkStops (.error e) (.error e)
  | none : LinkStops (.ok none) (.ok ())

/-- One statement per function of the walk's mutual recursion (`walkAdv`, `walkChildren`, `exploreChild`), of every call
    at one fuel: the form in which `walk_ind` proves them together. -/
abbrev WalkAll (cfg : Cfg) (A : Nat → Bool → Path → DM → S → St → WR → Prop)
    (C : Nat → Path → DM → S → List (Seg × DM) → Loop → St → WR → Prop)
    (E : Nat → Bool → Path → DM → S → Seg → DM → St → WR → Prop) (fuel : Nat) : Prop :=
  (∀ past path n s st, A fuel past path n s st (walkAdv cfg fuel past path n s st)) ∧
  (∀ path n s l lp st, C fuel path n s l lp st (walkChildren cfg fuel path n s l lp st)) ∧
  (∀ past path n s ps v st, E fuel past path n s ps v st (exploreChild cfg fuel past path n s ps v st))

/-- `WalkAll` with the same statement about state and result for all three functions. -/
abbrev WalkEach (cfg : Cfg) (J : St → WR → Prop) (fuel : Nat) : Prop :=
  WalkAll cfg (fun _ _ _ _ _ st r => J st r) (fun _ _ _ _ _ _ st r => J st r) (fun _ _ _ _ _ _ _ st r => J st r) fuel

/-- Induction over a single run of the walk.  The cases are the ways a call of `walkAdv`, `walkChildren` or
    `exploreChild` ends, given how the calls it makes ended: out of fuel; at the node itself (`enterNode` fails, or
    the node has no children to loop over, or the loop runs); in the loop (no child left, a child before the start
    path skipped, a child's exploration failed, or it succeeded and the loop goes on); at a child (the selector does
    not lead into it, a link that is not entered, a loaded block, a plain child).  The motives see the fuel, the
    call, the state it started in and the result, so that a statement about one run, whatever it depends on, is an
    instance; `walk_post` and `walk_inv` are the two forms most facts go through. -/
theorem walk_ind (cfg : Cfg)
    {A : Nat → Bool → Path → DM → S → St → WR → Prop}
    {C : Nat → Path → DM → S → List (Seg × DM) → Loop → St → WR → Prop}
    {E : Nat → Bool → Path → DM → S → Seg → DM → St → WR → Prop}
    (fuelA : ∀ {past path n s st}, A 0 past path n s st (st, .error .fuel))
    (fuelC : ∀ {path n s l lp st}, C 0 path n s l lp st (st, .error .fuel))
    (fuelE : ∀ {past path n s ps v st}, E 0 past path n s ps v st (st, .error .fuel))
    (stop : ∀ {f past path n s st st' e}, enterNode cfg past path n s st = (st', .error e) →
      A (f + 1) past path n s st (st', .error e))
    (leaf : ∀ {f past path n s st st2}, enterNode cfg past path n s st = (st2, .ok ()) → isRecursive n = false →
      A (f + 1) past path n s st (st2, .ok ()))
    (inner : ∀ {f past path n s st st2 r}, enterNode cfg past path n s st = (st2, .ok ()) → isRecursive n = true →
      C f path n s (childList n s) { past := past } st2 r → A (f + 1) past path n s st r)
    (nil : ∀ {f path n s lp st}, C (f + 1) path n s [] lp st (st, .ok ()))
    (skip : ∀ {f path n s ps v rest lp lp' st r}, loopStep cfg path lp ps = (true, lp') →
      C f path n s rest lp' st r → C (f + 1) path n s ((ps, v) :: rest) lp st r)
    (consErr : ∀ {f path n s ps v rest lp lp' st st' e}, loopStep cfg path lp ps = (false, lp') →
      E f lp'.past path n s ps v st (st', .error e) → C (f + 1) path n s ((ps, v) :: rest) lp st (st', .error e))
    (cons : ∀ {f path n s ps v rest lp lp' st st' r}, loopStep cfg path lp ps = (false, lp') →
      exploreChild cfg f lp'.past path n s ps v st = (st', .ok ()) → E f lp'.past path n s ps v st (st', .ok ()) →
      C f path n s rest lp' st' r → C (f + 1) path n s ((ps, v) :: rest) lp st r)
    (unexplored : ∀ {f past path n s ps v st r}, Unexplored (explore s n ps) r →
      E (f + 1) past path n s ps v st (st, r))
    (linkStop : ∀ {f past path n s ps c st sNext r}, explore s n ps = .ok (some sNext) →
      LinkStops (linkStep cfg c st).2 r → E (f + 1) past path n s ps (.link c) st ((linkStep cfg c st).1, r))
    (linkGo : ∀ {f past path n s ps c st sNext blk r}, explore s n ps = .ok (some sNext) →
      (linkStep cfg c st).2 = .ok (some blk) → A f past (path ++ [ps]) blk sNext (linkStep cfg c st).1 r →
      E (f + 1) past path n s ps (.link c) st r)
    (child : ∀ {f past path n s ps v st sNext r}, explore s n ps = .ok (some sNext) → (∀ c, v ≠ .link c) →
      A f past (path ++ [ps]) v sNext st r → E (f + 1) past path n s ps v st r) :
    ∀ fuel, WalkAll cfg A C E fuel := by
  intro fuel
  induction fuel with
  | zero =>
    refine ⟨?_, ?_, ?_⟩
    · intros; rw [walkAdv_zero]; exact fuelA
    · intros; rw [walkChildren_zero]; exact fuelC
    · intros; rw [exploreChild_zero]; exact fuelE
  | succ fuel ih =>
    obtain ⟨ihA, ihC, ihE⟩ := ih
    refine ⟨?_, ?_, ?_⟩
    · intro past path n s st
      rw [walkAdv_enter]
      cases h : enterNode cfg past path n s st with
      | mk st2 r0 =>
        obtain _ | ⟨⟨⟩⟩ := r0
        · exact stop h
        · rw [andThen_ok]
          cases hr : isRecursive n with
          | false => exact leaf h hr
          | true => exact inner h hr (ihC ..)
    · intro path n s l lp st
      cases l with
      | nil => rw [walkChildren_nil]; exact nil
      | cons x rest =>
        obtain ⟨ps, v⟩ := x
        rw [walkChildren_cons]
        cases hk : loopStep cfg path lp ps with
        | mk b lp' =>
          cases b with
          | true => exact skip hk (ihC ..)
          | false =>
            have h1 := ihE lp'.past path n s ps v st
            cases hr : exploreChild cfg fuel lp'.past path n s ps v st with
            | mk st' r =>
              rw [hr] at h1
              obtain _ | ⟨⟨⟩⟩ := r
              · exact consErr hk h1
              · exact cons hk hr h1 (ihC ..)
    · intro past path n s ps v st
      rw [exploreChild_succ]
      split
      · rename_i h; exact unexplored (h ▸ .panic)
      · rename_i h; exact unexplored (h ▸ .selector)
      · rename_i h; exact unexplored (h ▸ .none)
      · rename_i sNext hx
        by_cases hl : ∃ c, v = .link c
        · obtain ⟨c, rfl⟩ := hl
          have hs := fun r => @linkStop fuel past path n s ps c st sNext r hx
          have hg := fun blk r => @linkGo fuel past path n s ps c st sNext blk r hx
          simp only [enterChild]
          generalize linkStep cfg c st = ls at hs hg
          obtain ⟨st', _ | _ | blk⟩ := ls
          · exact hs _ (.error _)
          · exact hs _ .none
          · exact hg blk _ rfl (ihA ..)
        · have hnl : ∀ c, v ≠ .link c := fun c hc => hl ⟨c, hc⟩
          rw [enterChild_nonlink hnl]
          exact child hx hnl (ihA ..)

/-- the outcomes the walk produces where it stands, without a budget check or a load -/
inductive InPlace : Except Err Unit → Prop
  | ok : InPlace (.ok ())
  | fuel : InPlace (.error .fuel)
  | panic : InPlace (.error .panic)
  | selector : InPlace (.error .selector)

/-- `J st r`: started in `st`, the walk ended as `r`.  The form of `walk_ind` for what one run does to the state,
    whatever the position. -/
theorem walk_post (cfg : Cfg) (J : St → WR → Prop)
    (stay : ∀ {st r}, InPlace r → J st (st, r))
    (seq : ∀ {a b r}, J a (b, .ok ()) → J b r → J a r)
    (enter : ∀ past path n s st, J st (enterNode cfg past path n s st))
    (link : ∀ c st, J st ((linkStep cfg c st).1, (linkStep cfg c st).2.map fun _ => ())) :
    ∀ fuel, WalkEach cfg J fuel := by
  refine walk_ind cfg (stay .fuel) (stay .fuel) (stay .fuel) (fun h => h ▸ enter ..) (fun h _ => h ▸ enter ..)
    (fun h _ hC => seq (h ▸ enter ..) hC) (stay .ok) (fun _ hC => hC) (fun _ hE => hE)
    (fun _ _ hE hC => seq hE hC) ?unexplored ?linkStop ?linkGo (fun _ _ hA => hA)
  case unexplored =>
    refine fun h => ?_
    generalize explore _ _ _ = x at h
    cases h with
    | panic => exact stay .panic
    | selector => exact stay .selector
    | none => exact stay .ok
  case linkStop =>
    intro _ _ _ _ _ _ c st _ r _ h
    have h1 := link c st
    generalize (linkStep cfg c st).2 = x at h h1
    cases h <;> exact h1
  case linkGo =>
    intro _ _ _ _ _ _ c st _ _ _ _ hb hA
    have h1 := link c st
    rw [hb] at h1
    exact seq h1 hA

theorem walk_rel (cfg : Cfg) (R : St → St → Prop) (refl : ∀ {st}, R st st)
    (trans : ∀ {a b c}, R a b → R b c → R a c)
    (hNode : ∀ st st1, checkNode st = .ok st1 → R st st1)
    (hVisit : ∀ past path n s st, R st (visitSt cfg past path n s st))
    (hLink : ∀ c st, R st (linkStep cfg c st).1) :
    ∀ fuel, WalkEach cfg (fun st r => R st r.1) fuel := by
  refine walk_post cfg _ (fun _ => refl) trans ?_ hLink
  intro past path n s st
  unfold enterNode
  cases h : checkNode st with
  | error e => exact refl
  | ok st1 =>
    dsimp only
    split
    · exact hNode st st1 h
    · exact trans (hNode st st1 h) (hVisit ..)

theorem visitSt_events (cfg : Cfg) (past : Bool) (path : Path) (n : DM) (s : S) (st : St) :
    ∃ new, (visitSt cfg past path n s st).events = new ++ st.events := by
  unfold visitSt; split
  · exact ⟨[], rfl⟩
  · exact ⟨[_], rfl⟩

theorem linkStep_events_cases (cfg : Cfg) (c : Bytes) (st : St) :
    (linkStep cfg c st).1.events = st.events ∨ (linkStep cfg c st).1.events = .load c :: st.events := by
  rcases linkStep_cases cfg c st with ⟨_, h⟩ | ⟨_, ⟨_, h⟩ | ⟨_, h⟩⟩ <;> rw [h]
  · exact .inl rfl
  · exact .inl rfl
  · exact .inr rfl

theorem linkStep_events (cfg : Cfg) (c : Bytes) (st : St) :
    ∃ new, (linkStep cfg c st).1.events = new ++ st.events :=
  (linkStep_events_cases cfg c st).elim (fun h => ⟨[], h⟩) fun h => ⟨[.load c], h⟩

def EventsExtend (a b : St) : Prop := ∃ new, b.events = new ++ a.events

theorem eventsExtend_all (cfg : Cfg) (fuel : Nat) : WalkEach cfg (fun st r => EventsExtend st r.1) fuel := by
  apply walk_rel cfg EventsExtend
  · intro st; exact ⟨[], rfl⟩
  · intro a b c ⟨n1, h1⟩ ⟨n2, h2⟩; exact ⟨n2 ++ n1, by rw [h2, h1, List.append_assoc]⟩
  · intro st st1 h; exact ⟨[], by simp [checkNode_events h]⟩
  · intro past path n s st; exact visitSt_events ..
  · intro c st; exact linkStep_events ..

/-- An invariant of the log: a predicate `Pos` on the log so far and a position (path, node, selector) that is
    inherited by explored children, and a predicate `Q` on the log that is kept by link loads and by visits at `Pos`
    positions, give `Q` of the final log.  When a position is handed down, its own visit is already in the log
    unless a start-at path suppresses visits (what `walk_parentFirst` reads). -/
theorem walk_inv (cfg : Cfg) (Pos : List Event → Path → DM → S → Prop) (Q : List Event → Prop)
    (pos_mono : ∀ {es new path n s}, Pos es path n s → Pos (new ++ es) path n s)
    (q_load : ∀ {es c}, Q es → Q (.load c :: es))
    (q_visit : ∀ {es path n s}, Q es → Pos es path n s → Q (visitEvent path n s :: es))
    (pos_child : ∀ {es path n s ps v sNext}, Pos es path n s → (cfg.startAt = [] → visitEvent path n s ∈ es) →
        (ps, v) ∈ childList n s → explore s n ps = .ok (some sNext) → (∀ c, v ≠ .link c) →
        Pos es (path ++ [ps]) v sNext)
    (pos_link : ∀ {es path n s ps c blk sNext}, Pos es path n s → (cfg.startAt = [] → visitEvent path n s ∈ es) →
        (ps, .link c) ∈ childList n s → explore s n ps = .ok (some sNext) →
        storeGet cfg.store c = some blk → cfg.skip.contains c = false →
        Pos es (path ++ [ps]) blk sNext) (fuel : Nat) : WalkAll cfg
    (fun _ _ path n s st r => Q st.events → Pos st.events path n s → Q r.1.events)
    (fun _ path n s l _ st r => Q st.events → Pos st.events path n s →
      (cfg.startAt = [] → visitEvent path n s ∈ st.events) → (∀ x ∈ l, x ∈ childList n s) → Q r.1.events)
    (fun _ _ path n s ps v st r => Q st.events → Pos st.events path n s →
      (cfg.startAt = [] → visitEvent path n s ∈ st.events) → (ps, v) ∈ childList n s → Q r.1.events) fuel := by
  refine walk_ind cfg
    (fun hq _ => hq) (fun hq _ _ _ => hq) (fun hq _ _ _ => hq)
    (fun h hq _ => (enterNode_error h).2 ▸ hq) ?leaf ?inner (fun hq _ _ _ => hq)
    (fun _ hC hq hp hv hl => hC hq hp hv fun x hx => hl x (List.mem_cons_of_mem _ hx))
    (fun _ hE hq hp hv hl => hE hq hp hv (hl _ List.mem_cons_self)) ?cons (fun _ hq _ _ _ => hq)
    ?linkStop ?linkGo (fun hx hnl hA hq hp hv hmem => hA hq (pos_child hp hv hmem hx hnl)) fuel
  case leaf =>
    refine fun h _ hq hp => ?_
    rcases enterNode_ok_events h with ⟨h1, _⟩ | h1 <;> rw [h1]
    · exact hq
    · exact q_visit hq hp
  case inner =>
    refine fun h _ hC hq hp => ?_
    rcases enterNode_ok_events h with ⟨h1, h2⟩ | h1
    · exact hC (h1 ▸ hq) (h1 ▸ hp) (fun h => absurd h h2) fun _ hx => hx
    · exact hC (h1 ▸ q_visit hq hp) (h1 ▸ pos_mono (new := [_]) hp) (fun _ => h1 ▸ List.mem_cons_self)
        fun _ hx => hx
  case cons =>
    intro f path n s ps v _ _ lp' st st' _ _ heq hE hC hq hp hv hl
    obtain ⟨new, hnew⟩ := (eventsExtend_all cfg f).2.2 lp'.past path n s ps v st
    rw [heq] at hnew
    exact hC (hE hq hp hv (hl _ List.mem_cons_self)) (hnew ▸ pos_mono hp)
      (fun h => hnew ▸ List.mem_append_right _ (hv h)) fun x hx => hl x (List.mem_cons_of_mem _ hx)
  case linkStop =>
    intro _ _ _ _ _ _ c st _ _ _ _ hq _ _ _
    rcases linkStep_events_cases cfg c st with h | h <;> rw [h]
    · exact hq
    · exact q_load hq
  case linkGo =>
    refine fun hx hb hA hq hp hv hmem => ?_
    obtain ⟨h1, h2, h3⟩ := linkStep_some hb
    exact hA (h3 ▸ q_load hq) (h3 ▸ pos_mono (new := [_]) (pos_link hp hv hmem hx h1 h2))

def Plain (st : St) : Prop := st.nodeBudget = none ∧ st.linkBudget = none

theorem checkNode_plain {st : St} (h : Plain st) : checkNode st = .ok st := by
  unfold checkNode; rw [h.1]

theorem linkStep_plain {cfg : Cfg} (hl : cfg.linkOnce = false) {c : Bytes} {st : St} (h : Plain st) :
    linkStep cfg c st = ({ st with events := .load c :: st.events }, fetch cfg c) := by
  have hm : markSeen cfg c st = st := by simp [markSeen, hl]
  rw [linkStep_eq, hm, show checkLink st = .ok st by unfold checkLink; rw [h.2]]
  simp only [hl, Bool.false_and, Bool.false_eq_true, if_false]

theorem plain_all (cfg : Cfg) (fuel : Nat) : WalkEach cfg (fun st r => Plain st → Plain r.1) fuel := by
  apply walk_rel cfg (fun a b => Plain a → Plain b)
  · intro st h; exact h
  · intro a b c h1 h2 h; exact h2 (h1 h)
  · intro st st1 hck h; rw [checkNode_plain h] at hck; cases hck; exact h
  · intro past path n s st h; unfold visitSt; split <;> exact h
  · intro c st h
    rcases linkStep_cases cfg c st with ⟨_, h1⟩ | ⟨_, ⟨⟨b, hb, _⟩, _⟩ | ⟨_, h1⟩⟩
    · rw [h1]; exact h
    · rw [h.2] at hb; cases hb
    · rw [h1]; exact ⟨h.1, by rw [h.2]; rfl⟩

theorem no_panic_all (cfg : Cfg) (fuel : Nat) : WalkAll cfg (fun _ _ _ _ _ _ r => r.2 ≠ .error .panic)
    (fun _ _ _ s l _ _ r => s ≠ .edge ∨ l = [] → r.2 ≠ .error .panic)
    (fun _ _ _ _ s _ _ _ r => s ≠ .edge → r.2 ≠ .error .panic) fuel := by
  refine walk_ind cfg nofun (fun _ => nofun) (fun _ => nofun) ?stop (fun _ _ => nofun) ?inner (fun _ => nofun)
    (fun _ hC hl => hC (.inl (hl.resolve_right nofun))) (fun _ hE hl => hE (hl.resolve_right nofun))
    (fun _ _ _ hC hl => hC (.inl (hl.resolve_right nofun))) ?unexplored ?linkStop (fun _ _ h _ => h)
    (fun _ _ h _ => h) fuel
  case stop => refine fun h => ?_; rcases (enterNode_error h).1 with rfl | rfl <;> nofun
  case inner =>
    -- a bare edge has no interests, so the loop over its children is empty
    exact fun _ _ hC => hC (Classical.or_iff_not_imp_left.2 fun hs => by rw [Classical.not_not.1 hs]; rfl)
  case unexplored =>
    intro _ _ _ n s ps _ _ r h hs
    have hx := explore_no_panic s hs n ps
    generalize explore s n ps = x at h hx
    cases h with
    | panic => exact absurd rfl hx
    | selector => nofun
    | none => nofun
  case linkStop =>
    intro _ _ _ _ _ _ c st _ r _ h _
    have he := @linkStep_error cfg c st
    generalize (linkStep cfg c st).2 = x at h he
    cases h with
    | none => nofun
    | error e => rcases he rfl with rfl | rfl <;> nofun

theorem walk_congr (cfg cfg' : Cfg)
    (hv : ∀ past path n s st, visitSt cfg' past path n s st = visitSt cfg past path n s st)
    (hl : ∀ path lp ps, loopStep cfg' path lp ps = loopStep cfg path lp ps)
    (hk : ∀ c st, linkStep cfg' c st = linkStep cfg c st) (fuel : Nat) :
    (∀ past path n s st, walkAdv cfg' fuel past path n s st = walkAdv cfg fuel past path n s st) ∧
    (∀ path n s l lp st, walkChildren cfg' fuel path n s l lp st = walkChildren cfg fuel path n s l lp st) ∧
    (∀ past path n s ps v st, exploreChild cfg' fuel past path n s ps v st
        = exploreChild cfg fuel past path n s ps v st) := by
  induction fuel with
  | zero =>
    refine ⟨?_, ?_, ?_⟩
    · intros; rw [walkAdv_zero, walkAdv_zero]
    · intros; rw [walkChildren_zero, walkChildren_zero]
    · intros; rw [exploreChild_zero, exploreChild_zero]
  | succ fuel ih =>
    obtain ⟨ihA, ihC, ihE⟩ := ih
    refine ⟨?_, ?_, ?_⟩
    · intro past path n s st
      rw [walkAdv_succ, walkAdv_succ]
      simp only [hv, ihC]
    · intro path n s l lp st
      cases l with
      | nil => rw [walkChildren_nil, walkChildren_nil]
      | cons x rest =>
        obtain ⟨ps, v⟩ := x
        rw [walkChildren_cons, walkChildren_cons]
        simp only [hl, ihC, ihE]
    · intro past path n s ps v st
      rw [exploreChild_succ, exploreChild_succ]
      split
      · rfl
      · rfl
      · rfl
      · unfold enterChild
        simp only [hk, ihA]

end Walk
end Ipld

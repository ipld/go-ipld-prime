/-
  The enum-keyed typed map model (Model/EnumKeyMap.lean): its lookups are `List.find?` by a key projection, and the
  builder has a closed form (resolve every key text, then ask for distinct keys).  The property theorems are in
  Props/C08enumkeys.lean and Props/C09enumkeys.lean.
-/
import IpldModel.Model.EnumKeyMap
import IpldModel.Lemmas.FirstOfKey
namespace Ipld.EnumKey
open Ipld

theorem assoc_eq_find? (m : List (Bytes × Int)) (k : Bytes) : assoc m k = (m.find? (·.1 = k)).map (·.2) := by
  induction m with
  | nil => rfl
  | cons p m ih => obtain ⟨k', v⟩ := p; by_cases h : k' = k <;> simp [assoc, h, ih]

theorem memberOfRepr_eq_find? (e : EnumTy) (s : Bytes) : memberOfRepr e s = (e.find? (·.2 = s)).map (·.1) := by
  induction e with
  | nil => rfl
  | cons p e ih => obtain ⟨n, r⟩ := p; by_cases h : r = s <;> simp [memberOfRepr, h, ih]

theorem reprOf_eq_find? (e : EnumTy) (k : Bytes) : reprOf e k = ((e.find? (·.1 = k)).map (·.2)).getD k := by
  induction e with
  | nil => rfl
  | cons p e ih => obtain ⟨n, r⟩ := p; by_cases h : n = k <;> simp [reprOf, h, ih]

theorem isMember_iff (e : EnumTy) (s : Bytes) : isMember e s = true ↔ s ∈ names e := by
  simp [isMember]

theorem memberOfRepr_mem {e : EnumTy} {s n : Bytes} (h : memberOfRepr e s = some n) : (n, s) ∈ e := by
  rw [memberOfRepr_eq_find?] at h
  obtain ⟨⟨n', s'⟩, hp, rfl⟩ := Option.map_eq_some_iff.1 h
  have hs : s' = s := by simpa using List.find?_some hp
  exact hs ▸ List.mem_of_find?_eq_some hp

theorem memberOfRepr_isSome_iff (e : EnumTy) (s : Bytes) : (memberOfRepr e s).isSome = true ↔ s ∈ reprs e := by
  simp [memberOfRepr_eq_find?, reprs]

theorem memberOfRepr_none_of_not_repr {e : EnumTy} {s : Bytes} (h : s ∉ reprs e) : memberOfRepr e s = none := by
  rw [← Option.not_isSome_iff_eq_none, memberOfRepr_isSome_iff]; exact h

theorem memberOfRepr_of_mem {e : EnumTy} (hr : (reprs e).Nodup) {n s : Bytes} (h : (n, s) ∈ e) :
    memberOfRepr e s = some n := by
  rw [memberOfRepr_eq_find?, find?_key_of_mem_decide Prod.snd hr h]; rfl

theorem reprOf_of_mem {e : EnumTy} (hn : (names e).Nodup) {n s : Bytes} (h : (n, s) ∈ e) : reprOf e n = s := by
  rw [reprOf_eq_find?, find?_key_of_mem_decide Prod.fst hn h]; rfl

theorem mem_reprOf {e : EnumTy} {k : Bytes} (h : k ∈ names e) : (k, reprOf e k) ∈ e := by
  rw [reprOf_eq_find?]
  cases hf : e.find? (·.1 = k) with
  | none =>
    obtain ⟨p, hp, hk⟩ := List.mem_map.1 h
    exact absurd hk (by simpa using List.find?_eq_none.1 hf p hp)
  | some p =>
    have hk : p.1 = k := by simpa using List.find?_some hf
    exact hk ▸ List.mem_of_find?_eq_some hf

theorem memberOfRepr_reprOf {e : EnumTy} (hr : (reprs e).Nodup) {k : Bytes} (h : k ∈ names e) :
    memberOfRepr e (reprOf e k) = some k :=
  memberOfRepr_of_mem hr (mem_reprOf h)

theorem reprOf_memberOfRepr {e : EnumTy} (hn : (names e).Nodup) {s n : Bytes} (h : memberOfRepr e s = some n) :
    reprOf e n = s :=
  reprOf_of_mem hn (memberOfRepr_mem h)

theorem memberOfRepr_inj {e : EnumTy} (hn : (names e).Nodup) {s₁ s₂ n : Bytes}
    (h₁ : memberOfRepr e s₁ = some n) (h₂ : memberOfRepr e s₂ = some n) : s₁ = s₂ := by
  rw [← reprOf_memberOfRepr hn h₁, ← reprOf_memberOfRepr hn h₂]

theorem reprOf_inj {e : EnumTy} (hr : (reprs e).Nodup) {a b : Bytes} (ha : a ∈ names e) (hb : b ∈ names e)
    (h : reprOf e a = reprOf e b) : a = b := by
  have h1 := memberOfRepr_reprOf hr ha
  rw [h, memberOfRepr_reprOf hr hb] at h1
  exact (Option.some.inj h1).symm

theorem assoc_none_of_not_key {m : List (Bytes × Int)} {k : Bytes} (h : k ∉ keys m) : assoc m k = none := by
  rw [assoc_eq_find?, List.find?_eq_none.2 (fun p hp => by simpa using fun (e : p.1 = k) => h (e ▸ List.mem_map_of_mem hp))]; rfl

theorem assoc_of_mem {m : List (Bytes × Int)} (hd : (keys m).Nodup) {k : Bytes} {v : Int} (h : (k, v) ∈ m) :
    assoc m k = some v := by
  rw [assoc_eq_find?, find?_key_of_mem_decide Prod.fst hd h]; rfl

theorem assoc_some_mem {m : List (Bytes × Int)} {k : Bytes} {v : Int} (h : assoc m k = some v) : (k, v) ∈ m :=
  @mem_of_find?_key _ _ instBEqOfDecidableEq inferInstance _ _ _ (assoc_eq_find? m k ▸ h)

theorem resolve_type_eq_some_iff {e : EnumTy} {s n : Bytes} : resolve .type e s = some n ↔ n = s ∧ s ∈ names e := by
  simp only [resolve, ← isMember_iff]
  cases isMember e s <;> simp [eq_comm]

theorem resolve_type_inj (e : EnumTy) {s₁ s₂ n : Bytes}
    (h₁ : resolve .type e s₁ = some n) (h₂ : resolve .type e s₂ = some n) : s₁ = s₂ :=
  (resolve_type_eq_some_iff.1 h₁).1.symm.trans (resolve_type_eq_some_iff.1 h₂).1

theorem resolve_type_isSome_iff (e : EnumTy) (s : Bytes) : (resolve .type e s).isSome = true ↔ s ∈ names e := by
  simp only [Option.isSome_iff_exists, resolve_type_eq_some_iff, exists_eq_left]

theorem resolve_name {lvl : Level} {e : EnumTy} {s n : Bytes} (h : resolve lvl e s = some n) : n ∈ names e := by
  cases lvl with
  | type => obtain ⟨rfl, hs⟩ := resolve_type_eq_some_iff.1 h; exact hs
  | repr => exact List.mem_map.2 ⟨(n, s), memberOfRepr_mem h, rfl⟩

/-- every key text resolved at the level, in call order (`none`: some key text is refused) -/
def resolveAll (lvl : Level) (e : EnumTy) : List (Bytes × Int) → Option EMap
  | [] => some []
  | kv :: rest =>
    match resolve lvl e kv.1 with
    | none => none
    | some n =>
      match resolveAll lvl e rest with
      | none => none
      | some rs => some ((n, kv.2) :: rs)

theorem keys_append (a b : EMap) : keys (a ++ b) = keys a ++ keys b := List.map_append

theorem buildFrom_eq (lvl : Level) (e : EnumTy) (input : List (Bytes × Int)) (st : EMap) (hst : (keys st).Nodup) :
    buildFrom lvl e st input =
      match resolveAll lvl e input with
      | none => none
      | some rs => if (keys (st ++ rs)).Nodup then some (st ++ rs) else none := by
  -- call by call, with the state general: a member already in `st` makes the step refuse on the left and `st ++ rs`
  -- repeat a key on the right; a new member moves from the input's side to the state's
  induction input generalizing st with
  | nil => simp [buildFrom, resolveAll, hst]
  | cons kv rest ih =>
    cases hres : resolve lvl e kv.1 with
    | none => simp [buildFrom, step, resolveAll, hres]
    | some n =>
      by_cases hin : n ∈ keys st
      · have hstep : step lvl e st kv = (st, false) := by simp [step, hres, hin]
        simp only [buildFrom, hstep, resolveAll, hres]
        cases resolveAll lvl e rest with
        | none => rfl
        | some rs =>
          have : ¬ (keys (st ++ (n, kv.2) :: rs)).Nodup := fun hd =>
            (List.nodup_append.1 (keys_append .. ▸ hd)).2.2 n hin n List.mem_cons_self rfl
          simp only [this, if_false]
      · have hstep : step lvl e st kv = (st ++ [(n, kv.2)], true) := by simp [step, hres, hin]
        have hst' : (keys (st ++ [(n, kv.2)])).Nodup := by
          rw [keys_append]
          exact List.nodup_append.2 ⟨hst, List.nodup_cons.2 ⟨List.not_mem_nil, List.nodup_nil⟩, fun a ha b hb e => by
            have hb' : b = n := List.mem_singleton.1 hb
            exact hin (hb' ▸ e ▸ ha)⟩
        simp only [buildFrom, hstep, resolveAll, hres, ih _ hst']
        cases resolveAll lvl e rest with
        | none => rfl
        | some rs => simp only [List.append_assoc, List.singleton_append]

theorem build_eq (lvl : Level) (e : EnumTy) (input : List (Bytes × Int)) :
    build lvl e input =
      match resolveAll lvl e input with
      | none => none
      | some rs => if (keys rs).Nodup then some rs else none :=
  buildFrom_eq lvl e input [] List.nodup_nil

theorem build_eq_some_iff {lvl : Level} {e : EnumTy} {input : List (Bytes × Int)} {m : EMap} :
    build lvl e input = some m ↔ resolveAll lvl e input = some m ∧ (keys m).Nodup := by
  rw [build_eq]
  cases resolveAll lvl e input with
  | none => simp
  | some rs =>
    by_cases hd : (keys rs).Nodup
    · simp only [hd, if_true, Option.some.injEq]; exact ⟨fun h => ⟨h, h ▸ hd⟩, fun h => h.1⟩
    · simp only [hd, if_false, Option.some.injEq, reduceCtorEq, false_iff]; exact fun h => hd (h.1 ▸ h.2)

theorem resolveAll_cons_eq_some {lvl : Level} {e : EnumTy} {kv : Bytes × Int} {rest : List (Bytes × Int)} {rs : EMap} :
    resolveAll lvl e (kv :: rest) = some rs ↔
      ∃ n rs', resolve lvl e kv.1 = some n ∧ resolveAll lvl e rest = some rs' ∧ rs = (n, kv.2) :: rs' := by
  simp only [resolveAll]
  cases resolve lvl e kv.1 with
  | none => simp
  | some n =>
    cases resolveAll lvl e rest with
    | none => simp
    | some rs' => simp [eq_comm]

theorem resolveAll_mem_keys {lvl : Level} {e : EnumTy} {input : List (Bytes × Int)} {rs : EMap}
    (h : resolveAll lvl e input = some rs) (n : Bytes) :
    n ∈ keys rs ↔ ∃ k, k ∈ keys input ∧ resolve lvl e k = some n := by
  induction input generalizing rs with
  | nil => cases h; simp [keys]
  | cons kv rest ih =>
    obtain ⟨n', rs', hres, hra, rfl⟩ := resolveAll_cons_eq_some.1 h
    simp only [keys, List.map_cons, List.mem_cons, exists_eq_or_imp, hres, Option.some.injEq]
    rw [← keys, ← keys, ih hra, eq_comm]

theorem resolveAll_isSome_iff (lvl : Level) (e : EnumTy) (input : List (Bytes × Int)) :
    (resolveAll lvl e input).isSome = true ↔ ∀ k, k ∈ keys input → (resolve lvl e k).isSome = true := by
  induction input with
  | nil => simp [resolveAll, keys]
  | cons kv rest ih =>
    simp only [Option.isSome_iff_exists, resolveAll_cons_eq_some, keys, List.map_cons, List.forall_mem_cons] at ih ⊢
    rw [← ih]
    constructor
    · rintro ⟨_, n, rs', hres, hra, rfl⟩; exact ⟨⟨n, hres⟩, rs', hra⟩
    · rintro ⟨⟨n, hres⟩, rs', hra⟩; exact ⟨_, n, rs', hres, hra, rfl⟩

theorem resolveAll_nodup_iff {lvl : Level} {e : EnumTy}
    (hinj : ∀ {s₁ s₂ n}, resolve lvl e s₁ = some n → resolve lvl e s₂ = some n → s₁ = s₂)
    {input : List (Bytes × Int)} {rs : EMap} (h : resolveAll lvl e input = some rs) :
    (keys rs).Nodup ↔ (keys input).Nodup := by
  induction input generalizing rs with
  | nil => cases h; simp [keys]
  | cons kv rest ih =>
    obtain ⟨n, rs', hres, hra, rfl⟩ := resolveAll_cons_eq_some.1 h
    have hmem : n ∈ keys rs' ↔ kv.1 ∈ keys rest := by
      rw [resolveAll_mem_keys hra]
      exact ⟨fun ⟨k, hk, hr⟩ => hinj hr hres ▸ hk, fun hk => ⟨kv.1, hk, hres⟩⟩
    simp only [keys, List.map_cons, List.nodup_cons]
    rw [← keys, ← keys, hmem, ih hra]

/-- a value whose keys, spelled by `spell`, resolve to themselves is what its spelled entries resolve to -/
theorem resolveAll_spelled {lvl : Level} {e : EnumTy} (spell : Bytes → Bytes) {m : EMap}
    (h : ∀ k, k ∈ keys m → resolve lvl e (spell k) = some k) :
    resolveAll lvl e (m.map fun kv => (spell kv.1, kv.2)) = some m := by
  induction m with
  | nil => rfl
  | cons kv m ih =>
    rw [keys, List.map_cons, List.forall_mem_cons] at h
    simp only [List.map_cons, resolveAll, h.1, ih h.2]

theorem resolveAll_type_of_valid {e : EnumTy} {m : EMap} (hall : ∀ k, k ∈ keys m → k ∈ names e) :
    resolveAll .type e m = some m := by
  have := resolveAll_spelled (lvl := .type) (e := e) id (m := m) fun k hk => resolve_type_eq_some_iff.2 ⟨rfl, hall k hk⟩
  rwa [show (m.map fun kv => (id kv.1, kv.2)) = m from List.map_id' m] at this

theorem resolveAll_repr_of_valid {e : EnumTy} (hr : (reprs e).Nodup) {m : EMap}
    (hall : ∀ k, k ∈ keys m → k ∈ names e) : resolveAll .repr e (viewRepr e m) = some m :=
  resolveAll_spelled (reprOf e) fun k hk => memberOfRepr_reprOf hr (hall k hk)

theorem resolveAll_type {e : EnumTy} {input : List (Bytes × Int)} {rs : EMap}
    (h : resolveAll .type e input = some rs) : rs = input := by
  have hall := (resolveAll_isSome_iff .type e input).1 (by rw [h]; rfl)
  rw [resolveAll_type_of_valid fun k hk => (resolve_type_isSome_iff e k).1 (hall k hk)] at h
  exact (Option.some.inj h).symm

theorem build_isSome_iff (lvl : Level) (e : EnumTy)
    (hinj : ∀ {s₁ s₂ n}, resolve lvl e s₁ = some n → resolve lvl e s₂ = some n → s₁ = s₂)
    (input : List (Bytes × Int)) :
    (build lvl e input).isSome = true ↔
      (∀ k, k ∈ keys input → (resolve lvl e k).isSome = true) ∧ (keys input).Nodup := by
  rw [build_eq, ← resolveAll_isSome_iff]
  cases hra : resolveAll lvl e input with
  | none => simp
  | some rs =>
    rw [← resolveAll_nodup_iff hinj hra]
    by_cases hd : (keys rs).Nodup <;> simp [hd]

theorem build_valid {lvl : Level} {e : EnumTy} {input : List (Bytes × Int)} {m : EMap}
    (h : build lvl e input = some m) : valid e m :=
  ⟨(build_eq_some_iff.1 h).2, fun k hk =>
    have ⟨_, _, hr⟩ := (resolveAll_mem_keys (build_eq_some_iff.1 h).1 k).1 hk
    resolve_name hr⟩

end Ipld.EnumKey

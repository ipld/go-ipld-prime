/-
  The order of the path-indexed denotation (`Spec/SelectorDenote.lean`): `denote` is sorted by `DocBefore`, and where
  no position offers a segment twice (`SegsNodup`) it is the only list of the selected paths sorted that way.
  No walk and no particular selector in this file: these are facts about the spec.
-/
import IpldModel.Lemmas.SelectorAt
namespace Ipld
namespace Walk
open Sel Spec

theorem denoteFrom_path_prefix {store : Store} {d : Nat} {path : Path} {n : DM} {s : S} {q : Path}
    (h : q ∈ (denoteFrom store d path n s).map (·.1)) : ∃ t, q = path ++ t := by
  obtain ⟨x, hx, rfl⟩ := List.mem_map.1 h
  obtain ⟨t, n', s', _, _, rfl⟩ := (mem_denoteFrom store d path n s x).1 hx
  exact ⟨t, visitOf_fst⟩

/-- the part of `denoteFrom` below one segment: the lambda in its definition, under a name -/
def denoteSeg (store : Store) (d : Nat) (path : Path) (n : DM) (s : S) (seg : Seg) : List (Path × DM × Reason) :=
  match stepAt store n s seg with
  | some (n', s') => denoteFrom store d (path ++ [seg]) n' s'
  | none => []

theorem denoteSeg_path {store : Store} {d : Nat} {path : Path} {n : DM} {s : S} {seg : Seg} {q : Path}
    (h : q ∈ (denoteSeg store d path n s seg).map (·.1)) : ∃ t, q = path ++ seg :: t := by
  unfold denoteSeg at h
  split at h
  · obtain ⟨t, rfl⟩ := denoteFrom_path_prefix h
    exact ⟨t, by simp⟩
  · cases h

theorem denoteFrom_sorted (store : Store) (s0 : S) (root : DM) : ∀ (d : Nat) (path : Path) (n : DM) (s : S),
    selectorAt store s0 root path = some (n, s) →
      ((denoteFrom store d path n s).map (·.1)).Pairwise (DocBefore store s0 root)
  | 0, _, _, _, _ => List.Pairwise.nil
  | d + 1, path, n, s, hsel => by
    have hd : denoteFrom store (d + 1) path n s = visitOf path n s :: (segsAt n s).flatMap (denoteSeg store d path n s) :=
      rfl
    rw [hd, List.map_cons, visitOf_fst, List.pairwise_cons]
    constructor
    · intro q hq
      rw [List.map_flatMap, List.mem_flatMap] at hq
      obtain ⟨seg, _, hq⟩ := hq
      obtain ⟨t, rfl⟩ := denoteSeg_path hq
      exact Or.inl ⟨seg :: t, by simp, rfl⟩
    · -- the children, one suffix of `segsAt n s` at a time
      have key : ∀ (suf pre : List Seg), segsAt n s = pre ++ suf →
          ((suf.flatMap (denoteSeg store d path n s)).map (·.1)).Pairwise (DocBefore store s0 root) := by
        intro suf
        induction suf with
        | nil => intro _ _; exact List.Pairwise.nil
        | cons seg suf ih =>
          intro pre hpre
          rw [List.flatMap_cons, List.map_append, List.pairwise_append]
          refine ⟨?_, ih (pre ++ [seg]) (by rw [hpre]; simp), ?_⟩
          · unfold denoteSeg
            cases hstep : stepAt store n s seg with
            | none => exact List.Pairwise.nil
            | some y =>
              obtain ⟨n', s'⟩ := y
              apply denoteFrom_sorted store s0 root d (path ++ [seg]) n' s'
              rw [selectorAt_snoc, hsel]; exact hstep
          · intro a ha b hb
            obtain ⟨ta, rfl⟩ := denoteSeg_path ha
            rw [List.map_flatMap, List.mem_flatMap] at hb
            obtain ⟨seg', hseg', hb⟩ := hb
            obtain ⟨tb, rfl⟩ := denoteSeg_path hb
            obtain ⟨l2, l3, rfl⟩ := List.append_of_mem hseg'
            refine Or.inr ⟨path, seg, seg', ta, tb, n, s, rfl, rfl, hsel, pre.length, pre.length + 1 + l2.length,
              Nat.lt_of_lt_of_le (Nat.lt_succ_self _) (Nat.le_add_right _ _), ?_, ?_⟩
            · rw [hpre]; simp
            · rw [hpre, List.getElem?_append_right (Nat.le_trans (Nat.le_add_right _ 1) (Nat.le_add_right _ _))]
              have : pre.length + 1 + l2.length - pre.length = l2.length + 1 := by
                rw [Nat.add_assoc, Nat.add_sub_cancel_left, Nat.add_comm]
              rw [this, List.getElem?_cons_succ, List.getElem?_append_right (Nat.le_refl _)]
              simp
      exact key (segsAt n s) [] rfl

theorem denote_sorted (store : Store) (d : Nat) (s : S) (root : DM) :
    ((denote store d s root).map (·.1)).Pairwise (DocBefore store s root) :=
  denoteFrom_sorted store s root d [] root s rfl

def SegsNodup (store : Store) (s : S) (root : DM) : Prop :=
  ∀ q n s', selectorAt store s root q = some (n, s') → (segsAt n s').Nodup

theorem segsNodup_of {store : Store} (hstore : StoreNoDup store) {root : DM} (hroot : root.NoDup) {s : S}
    (hsel : ∀ q n s', selectorAt store s root q = some (n, s') → ∀ l, interests s' = some l → l.Nodup) :
    SegsNodup store s root :=
  fun q n s' h => segsAt_nodup (selectorAt_noDup hstore hroot h) (hsel q n s' h)

theorem triedBefore_ne {l : List Seg} (hl : l.Nodup) {a b : Seg} (h : TriedBefore l a b) : a ≠ b := by
  obtain ⟨i, j, hij, hi, hj⟩ := h
  rintro rfl
  have := (List.getElem?_inj (List.getElem?_eq_some_iff.1 hi).1 hl).1 (hi.trans hj.symm)
  omega

theorem triedBefore_asymm {l : List Seg} (hl : l.Nodup) {a b : Seg} (h : TriedBefore l a b) :
    ¬ TriedBefore l b a := by
  obtain ⟨i, j, hij, hi, hj⟩ := h
  rintro ⟨i', j', hij', hi', hj'⟩
  have e1 := (List.getElem?_inj (List.getElem?_eq_some_iff.1 hi).1 hl).1 (hi.trans hj'.symm)
  have e2 := (List.getElem?_inj (List.getElem?_eq_some_iff.1 hj).1 hl).1 (hj.trans hi'.symm)
  omega

theorem docBefore_asymm {store : Store} {s : S} {root : DM} (hnd : SegsNodup store s root) {p q : Path}
    (h : DocBefore store s root p q) : ¬ DocBefore store s root q p := by
  intro h'
  rcases h with ⟨t, ht, rfl⟩ | ⟨r, a, b, p', q', n, s', rfl, rfl, hsel, htb⟩
  · rcases h' with ⟨t', ht', h'⟩ | ⟨r, a, b, p', q', n, s', hq, hp, hsel, htb⟩
    · have := congrArg List.length h'
      simp only [List.length_append] at this
      have : t.length = 0 := by omega
      exact ht (List.length_eq_zero_iff.1 this)
    · subst hp
      rw [List.append_assoc, List.cons_append] at hq
      have := List.append_cancel_left hq
      simp only [List.cons.injEq] at this
      exact triedBefore_ne (hnd _ _ _ hsel) htb this.1.symm
  · have hab := triedBefore_ne (hnd _ _ _ hsel) htb
    rcases h' with ⟨t', ht', h'⟩ | ⟨r2, a2, b2, p2, q2, n2, s2, hq, hp, hsel2, htb2⟩
    · rw [List.append_assoc, List.cons_append] at h'
      have := List.append_cancel_left h'
      simp only [List.cons.injEq] at this
      exact hab this.1
    · have hab2 := triedBefore_ne (hnd _ _ _ hsel2) htb2
      obtain ⟨rfl, rfl, rfl⟩ := diverge_unique r r2 hp hq hab (fun h => hab2 h.symm)
      rw [hsel] at hsel2
      cases hsel2
      exact triedBefore_asymm (hnd _ _ _ hsel) htb htb2

theorem docBefore_irrefl {store : Store} {s : S} {root : DM} (hnd : SegsNodup store s root) (p : Path) :
    ¬ DocBefore store s root p p :=
  fun h => docBefore_asymm hnd h h

theorem denote_unique {store : Store} {s : S} {root : DM} (hnd : SegsNodup store s root) (d : Nat) (L : List Path)
    (hmem : ∀ p, p ∈ L ↔ (Selected store s root p ∧ p.length < d))
    (hsorted : L.Pairwise (DocBefore store s root)) : L = (denote store d s root).map (·.1) := by
  have hs2 := denote_sorted store d s root
  have nd : ∀ {l : List Path}, l.Pairwise (DocBefore store s root) → l.Nodup :=
    fun h => List.Pairwise.imp (fun {a b} hab => by rintro rfl; exact docBefore_irrefl hnd a hab) h
  apply List.Perm.eq_of_pairwise (le := DocBefore store s root)
  · intro a b _ _ h1 h2; exact absurd h2 (docBefore_asymm hnd h1)
  · exact hsorted
  · exact hs2
  · rw [List.perm_ext_iff_of_nodup (nd hsorted) (nd hs2)]
    intro p
    rw [hmem, List.mem_map]
    constructor
    · rintro ⟨hsel, hlen⟩
      obtain ⟨n, s', hx⟩ := (selected_iff store s root p).1 hsel
      exact ⟨visitOf p n s', (mem_denote store d s root _).2 ⟨n, s', by rw [visitOf_fst]; exact hlen,
        by rw [visitOf_fst]; exact hx, by rw [visitOf_fst]⟩, visitOf_fst⟩
    · rintro ⟨x, hx, rfl⟩
      obtain ⟨n, s', hlen, hsel, _⟩ := (mem_denote store d s root x).1 hx
      exact ⟨(selected_iff store s root x.1).2 ⟨n, s', hsel⟩, hlen⟩

end Walk
end Ipld

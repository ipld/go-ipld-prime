/-
  Two things about paths: printing then parsing (`parsePath (pathToString p)`, namespace `Sel`), and resolving
  (`get` as the fold of `getStep`, namespace `Walk`).
-/
import IpldModel.Model.Walk
namespace Ipld
namespace Sel

theorem splitSlash_go_noslash (a : Bytes) : ∀ (cur rest : Bytes), slashB ∉ a →
    splitSlash.go (a ++ rest) cur = splitSlash.go rest (cur ++ a) := by
  induction a with
  | nil => intro cur rest _; simp
  | cons b a ih =>
    intro cur rest h
    have hb : b ≠ slashB := by intro e; apply h; simp [e]
    have ha : slashB ∉ a := by intro e; apply h; simp [e]
    simp only [List.cons_append, splitSlash.go, hb, if_false]
    rw [ih _ _ ha]; simp

theorem splitSlash_go_slash (cur rest : Bytes) (h : cur ≠ []) :
    splitSlash.go (slashB :: rest) cur = cur :: splitSlash.go rest [] := by
  cases cur with
  | nil => exact absurd rfl h
  | cons c cs => simp [splitSlash.go]

/-- a segment whose text survives a print/parse round trip -/
def Seg.Plain (s : Seg) : Prop := s.toString ≠ [] ∧ slashB ∉ s.toString

theorem splitSlash_pathToString : (p : Path) → (∀ s ∈ p, s.Plain) →
    splitSlash (pathToString p) = p.map Seg.toString
  | [], _ => by simp [pathToString, splitSlash, splitSlash.go]
  | [s], h => by
    have hs := h s (by simp)
    have := splitSlash_go_noslash s.toString [] [] hs.2
    simp only [List.append_nil, List.nil_append] at this
    simp only [pathToString, splitSlash, this, List.map_cons, List.map_nil]
    cases hx : s.toString with
    | nil => exact absurd hx hs.1
    | cons c cs => simp [splitSlash.go]
  | s :: t :: r, h => by
    have hs := h s (by simp)
    have ih := splitSlash_pathToString (t :: r) (fun x hx => h x (by simp [hx]))
    have := splitSlash_go_noslash s.toString [] ([slashB] ++ pathToString (t :: r)) hs.2
    simp only [List.nil_append] at this
    simp only [splitSlash] at ih ⊢
    have hp : pathToString (s :: t :: r) = s.toString ++ [slashB] ++ pathToString (t :: r) := by
      rw [pathToString]; simp
    rw [hp, List.append_assoc, this, List.singleton_append, splitSlash_go_slash _ _ hs.1, ih]
    simp

theorem parsePath_pathToString (p : Path) (h : ∀ s ∈ p, s.Plain) :
    parsePath (pathToString p) = p.map fun s => .str s.toString := by
  simp [parsePath, splitSlash_pathToString p h, List.map_map, Function.comp_def]

theorem equals_str_toString (s : Seg) : Seg.equals (.str s.toString) s = true := by
  cases s <;> simp [Seg.equals, Seg.toString]

end Sel

namespace Walk
open Sel

theorem get_nil (store : List (Bytes × DM)) (fuel : Nat) (n : DM) : get store fuel n [] = .ok n := rfl

theorem get_cons (store : List (Bytes × DM)) (fuel : Nat) (n : DM) (seg : Seg) (rest : Path) :
    get store fuel n (seg :: rest) = (getStep store fuel n seg).bind fun m => get store fuel m rest := rfl

theorem get_append (store : List (Bytes × DM)) (fuel : Nat) : ∀ (p q : Path) (n : DM),
    get store fuel n (p ++ q) = (get store fuel n p).bind fun m => get store fuel m q
  | [], q, n => rfl
  | seg :: p, q, n => by
    rw [List.cons_append, get_cons, get_cons]
    cases getStep store fuel n seg with
    | error e => rfl
    | ok m => exact get_append store fuel p q m

theorem get_single (store : List (Bytes × DM)) (fuel : Nat) (n : DM) (seg : Seg) :
    get store fuel n [seg] = getStep store fuel n seg := by
  rw [get_cons]
  cases getStep store fuel n seg <;> rfl

theorem get_snoc {store : List (Bytes × DM)} {F : Nat} {root n : DM} {path : Path} {ps : Seg}
    (h : get store F root path = .ok n) : get store F root (path ++ [ps]) = getStep store F n ps := by
  rw [get_append, h]
  exact get_single store F n ps

end Walk
end Ipld

/-
  The token window of the DAG-JSON decoder (`Win.un`) against its meaning (`unTok`): the window
  mechanism never over- or under-consumes.  The invariant is `safe (tk[0] :: window)`; a window is the
  first `m` of the tokens ahead (`Win.at toks m`).
-/
import IpldModel.Lemmas.JsonTok
namespace Ipld
namespace Json

/-- both lookaheads in sequence, as `Win.un` runs them -/
def laChain (pl pb : Bool) (w : Win) : JR Look := do
  let a ← (if pl then w.linkLookahead else pure (.notIt w))
  match a with
  | .got v w' => pure (.got v w')
  | .notIt w1 => if pb then w1.bytesLookahead else pure (.notIt w1)

/-- what `Win.un` does after both look-aheads found an ordinary map -/
def winMapPart (cfg : DecCfg) (fuel depth : Nat) (w2 : Win) : JR (DM × Win) := do
  let (es, w') ← winMapLoop (Win.un cfg fuel (depth + 1)) (w2.buf.length + w2.src.length + 1) [] w2
  pure (.map (DMKVs.ofList es), w')

theorem Win.un_mapOpen (cfg : DecCfg) (fuel depth : Nat) (w : Win) :
    Win.un cfg (fuel + 1) depth .mapOpen w =
    (if depth ≥ cfg.maxDepth then .error .depth else do
      let la ← laChain cfg.parseLinks cfg.parseBytes w
      match la with
      | .got v w' => pure (v, w')
      | .notIt w2 => winMapPart cfg fuel depth w2) := by
  rw [Win.un]
  by_cases hd : depth ≥ cfg.maxDepth
  · rw [if_pos hd, if_pos hd]
  rw [if_neg hd, if_neg hd]
  unfold laChain winMapPart
  generalize (if cfg.parseLinks = true then w.linkLookahead else pure (.notIt w)) = A
  rcases A with e | ⟨v, w'⟩ | w1
  · rfl
  · rfl
  simp only [ok_bind]
  generalize (if cfg.parseBytes = true then w1.bytesLookahead else pure (.notIt w1)) = B
  rcases B with e | ⟨v, w'⟩ | w2 <;> rfl

/-- What a look-ahead that classifies `toks` as `c` returns on the window holding the first `m` of them:
    a recognised form empties the window, otherwise it has grown to the tokens looked at. -/
def laSpec (c : Cls) (toks : List JTok) (m : Nat) : JR Look :=
  match c with
  | .eof => .error .eof
  | .link s => linkEnd s (Win.at toks 3)
  | .bytes s => bytesEnd s (Win.at toks 6)
  | .plain n => .ok (.notIt (Win.at toks (max m n)))

theorem linkLookahead_at (toks : List JTok) (m : Nat) (hm : ∀ r, toks = .str slash :: r → m ≤ 3) :
    (Win.at toks m).linkLookahead = laSpec (scan Cls.eof Cls.plain Cls.link linkPat 0 [] toks) toks m := by
  rw [linkLookahead_eq, scan_map (laSpec · toks m)]
  exact Win.lookahead_at linkEnd toks m hm

theorem bytesLookahead_at (toks : List JTok) (m : Nat) (hm : ∀ r, toks = .str slash :: r → m ≤ 6) :
    (Win.at toks m).bytesLookahead = laSpec (scan Cls.eof Cls.plain Cls.bytes bytesPat 0 [] toks) toks m := by
  rw [bytesLookahead_eq, scan_map (laSpec · toks m)]
  exact Win.lookahead_at bytesEnd toks m hm

/-- a look-ahead that is switched off: an ordinary map, nothing looked at -/
theorem laSpec_off (toks : List JTok) (m : Nat) : pure (.notIt (Win.at toks m)) = laSpec (.plain 0) toks m := by
  rw [laSpec, Nat.max_zero]; rfl

/-- Both look-aheads in sequence on a window that holds at most the key `"/"` of a possible reserved
    form, so that a recognised form ends where the window is dropped. -/
theorem laChain_at (pl pb : Bool) (toks : List JTok) (m : Nat) (hm : ∀ r, toks = .str slash :: r → m ≤ 1) :
    laChain pl pb (Win.at toks m) = laSpec (classify pl pb toks) toks m := by
  unfold laChain classify
  generalize hL : (if pl = true then scan Cls.eof Cls.plain Cls.link linkPat 0 [] toks else Cls.plain 0) = cL
  generalize hB : (if pb = true then scan Cls.eof Cls.plain Cls.bytes bytesPat 0 [] toks else Cls.plain 0) = cB
  have hfL : cL.Fits toks := by
    subst hL
    cases pl
    · exact Cls.fits_zero toks
    · exact scan_link_fits toks
  have eL : (if pl = true then (Win.at toks m).linkLookahead else pure (.notIt (Win.at toks m))) = laSpec cL toks m := by
    subst hL
    cases pl
    · exact laSpec_off toks m
    · exact linkLookahead_at toks m fun r h => Nat.le_trans (hm r h) (by decide)
  rw [eL]
  cases cL with
  | eof => rfl
  | link s => simp only [laSpec, linkEnd, Cls.seq]; cases cidParse s <;> rfl
  | bytes s => simp only [laSpec, bytesEnd, Cls.seq]; cases decodeB64 s <;> rfl
  | plain n =>
    have eB : (if pb = true then (Win.at toks (max m n)).bytesLookahead else pure (.notIt (Win.at toks (max m n)))) =
        laSpec cB toks (max m n) := by
      subst hB
      cases pb
      · exact laSpec_off toks _
      · exact bytesLookahead_at toks _ fun r h => Nat.max_le.mpr ⟨Nat.le_trans (hm r h) (by decide), hfL.1⟩
    show (if pb = true then _ else _) = _
    rw [eB]
    cases cB <;> simp [laSpec, Cls.seq, Nat.max_assoc]

/-- how a window moves on: it has used up its buffered tokens, or it still holds a tail of them and has read no further -/
def Adv (w w' : Win) : Prop := w'.buf = [] ∨ (w'.buf <:+ w.buf ∧ w'.src = w.src)

theorem Adv.refl (w : Win) : Adv w w := Or.inr ⟨List.suffix_refl _, rfl⟩

theorem Adv.trans {a b c : Win} (h1 : Adv a b) (h2 : Adv b c) : Adv a c := by
  rcases h2 with h2 | ⟨h2, h2'⟩
  · exact Or.inl h2
  · rcases h1 with h1 | ⟨h1, h1'⟩
    · rw [h1] at h2
      exact Or.inl (List.suffix_nil.mp h2)
    · exact Or.inr ⟨h2.trans h1, h2'.trans h1'⟩

theorem safe_tail {t : JTok} {l : List JTok} (h : safe (t :: l) = true) : safe l = true := by
  rcases l with _ | ⟨t2, l⟩
  · rfl
  · cases t <;> simp_all [safe]

theorem safe_suffix {l l' : List JTok} (hs : l' <:+ l) (h : safe l = true) : safe l' = true := by
  obtain ⟨pre, rfl⟩ := hs
  induction pre with
  | nil => simpa using h
  | cons t pre ih => exact ih (safe_tail h)

theorem Adv.safe {w w' : Win} (a : Adv w w') (h : safe w.buf = true) : safe w'.buf = true := by
  rcases a with a | ⟨a, _⟩
  · rw [a]; rfl
  · exact safe_suffix a h

theorem Adv.len {w w' : Win} (a : Adv w w') (h : w.buf.length ≤ 6) : w'.buf.length ≤ 6 := by
  rcases a with a | ⟨a, _⟩
  · rw [a]; simp
  · exact Nat.le_trans a.length_le h

theorem Win.step_ok {w w1 : Win} {t : JTok} (h : w.step = .ok (t, w1)) :
    (w.buf = [] ∧ w1.buf = [] ∧ w.src = t :: w1.src) ∨ (w.buf = t :: w1.buf ∧ w1.src = w.src) := by
  rcases w with ⟨_ | ⟨b, bs⟩, src⟩
  · rcases src with _ | ⟨s, ss⟩ <;> cases h
    exact Or.inl ⟨rfl, rfl, rfl⟩
  · simp only [Win.step] at h
    split at h <;> cases h
    exact Or.inr ⟨rfl, rfl⟩

theorem Win.step_err {w : Win} {e : JErr} (hl : w.buf.length ≤ 6) (h : w.step = .error e) :
    e = .eof ∧ w.buf ++ w.src = [] := by
  rcases w with ⟨_ | ⟨b, bs⟩, src⟩
  · rcases src with _ | ⟨s, ss⟩ <;> cases h
    exact ⟨rfl, rfl⟩
  · simp only [Win.step, if_pos hl] at h
    cases h

theorem Win.step_toks {w w1 : Win} {t : JTok} (h : w.step = .ok (t, w1)) :
    w.buf ++ w.src = t :: (w1.buf ++ w1.src) := by
  rcases Win.step_ok h with ⟨a, b, c⟩ | ⟨a, b⟩
  · simp [a, b, c]
  · simp [a, b]

theorem Win.step_adv {w w1 : Win} {t : JTok} (h : w.step = .ok (t, w1)) : Adv w w1 := by
  rcases Win.step_ok h with ⟨a, b, c⟩ | ⟨a, b⟩
  · exact Or.inl b
  · exact Or.inr ⟨by rw [a]; exact List.suffix_cons _ _, b⟩

theorem Win.step_safe {w w1 : Win} {t : JTok} (h : w.step = .ok (t, w1)) (hs : safe w.buf = true) :
    safe (t :: w1.buf) = true := by
  rcases Win.step_ok h with ⟨a, b, c⟩ | ⟨a, b⟩
  · rw [b]; rfl
  · rw [← a]; exact hs

/-- Agreement of a window computation with a token-list computation, for any type of result (`G`eneric:
    values, lists of values, lists of entries): the same error, or the same result with the window and
    source left holding exactly the remaining tokens, the window having advanced (`Adv`). -/
def RelG {α : Type} (w : Win) (a : JR (α × Win)) (b : JR (α × List JTok)) : Prop :=
  match a, b with
  | .error e, .error e' => e = e'
  | .ok (v, w'), .ok (v', r) => v = v' ∧ w'.buf ++ w'.src = r ∧ Adv w w'
  | _, _ => False

theorem RelG.pure {α : Type} {w w' : Win} {v : α} (a : Adv w w') :
    RelG w (.ok (v, w')) (.ok (v, w'.buf ++ w'.src)) := ⟨rfl, rfl, a⟩

theorem RelG.rebase {α : Type} {w W : Win} {a : JR (α × Win)} {b : JR (α × List JTok)} (h : RelG W a b)
    (hadv : ∀ v w', a = .ok (v, w') → b = .ok (v, w'.buf ++ w'.src) → Adv W w' → Adv w w') : RelG w a b := by
  rcases a with e | ⟨v, w'⟩ <;> rcases b with e' | ⟨v', r⟩
  · exact h
  · exact h
  · exact h
  · obtain ⟨rfl, rfl, adv⟩ := h
    exact ⟨rfl, rfl, hadv _ _ rfl rfl adv⟩

theorem RelG.mono {α : Type} {w W : Win} {a : JR (α × Win)} {b : JR (α × List JTok)} (hw : Adv w W)
    (h : RelG W a b) : RelG w a b :=
  h.rebase fun _ _ _ _ adv => hw.trans adv

theorem RelG.bind {α β : Type} {w : Win} {a : JR (α × Win)} {b : JR (α × List JTok)}
    {f : α × Win → JR (β × Win)} {g : α × List JTok → JR (β × List JTok)} (h : RelG w a b)
    (hfg : ∀ v w', Adv w w' → RelG w' (f (v, w')) (g (v, w'.buf ++ w'.src))) :
    RelG w (a >>= f) (b >>= g) := by
  rcases a with e | ⟨v, w'⟩ <;> rcases b with e' | ⟨v', r⟩
  · exact h
  · exact False.elim h
  · exact False.elim h
  · obtain ⟨rfl, rfl, adv⟩ := h
    exact (hfg _ _ adv).mono adv

def ItemRel (iw : JTok → Win → JR (DM × Win)) (it : List JTok → JR (DM × List JTok)) : Prop :=
  ∀ cur w, safe (cur :: w.buf) = true → w.buf.length ≤ 6 → RelG w (iw cur w) (it (cur :: (w.buf ++ w.src)))

theorem winMapLoop_rel {iw : JTok → Win → JR (DM × Win)} {it : List JTok → JR (DM × List JTok)}
    (hi : ItemRel iw it) : ∀ (lf : Nat) (seen : List Bytes) (w : Win), safe w.buf = true → w.buf.length ≤ 6 →
    RelG w (winMapLoop iw lf seen w) (unMapLoop it lf seen (w.buf ++ w.src))
  | 0, _, _, _, _ => rfl
  | lf + 1, seen, w, hs, hl => by
    unfold winMapLoop unMapLoop
    cases h1 : w.step with
    | error e =>
      obtain ⟨rfl, a⟩ := Win.step_err hl h1
      rw [a]; rfl
    | ok p =>
      obtain ⟨t, w1⟩ := p
      have hs1 := Win.step_safe h1 hs
      have hl1 := (Win.step_adv h1).len hl
      rw [Win.step_toks h1, ok_bind]
      refine RelG.mono (Win.step_adv h1) ?_
      cases t
      case mapClose => exact RelG.pure (Adv.refl w1)
      case str k =>
        simp only []
        split
        · rfl
        cases h2 : w1.step with
        | error e =>
          obtain ⟨rfl, a⟩ := Win.step_err hl1 h2
          rw [a]; rfl
        | ok p2 =>
          obtain ⟨t2, w2⟩ := p2
          have hs2 := Win.step_safe h2 (safe_tail hs1)
          have hl2 := (Win.step_adv h2).len hl1
          rw [Win.step_toks h2, ok_bind]
          refine RelG.mono (Win.step_adv h2) (RelG.bind (hi t2 w2 hs2 hl2) fun v w3 a3 => ?_)
          refine RelG.bind (winMapLoop_rel hi lf (k :: seen) w3 (a3.safe (safe_tail hs2)) (a3.len hl2))
            fun es w4 a4 => RelG.pure (Adv.refl w4)
      all_goals rfl

theorem winListLoop_rel {iw : JTok → Win → JR (DM × Win)} {it : List JTok → JR (DM × List JTok)}
    (hi : ItemRel iw it) : ∀ (lf : Nat) (w : Win), w.buf = [] →
    RelG w (winListLoop iw lf w) (unListLoop it lf (w.buf ++ w.src))
  | 0, _, _ => rfl
  | lf + 1, w, hb => by
    obtain ⟨buf, src⟩ := w
    subst hb
    unfold winListLoop unListLoop
    rcases src with _ | ⟨t, s⟩
    · rfl
    have hit := hi t ⟨[], s⟩ rfl (Nat.zero_le _)
    have hrec : RelG ⟨[], s⟩ (do
        let (v, w2) ← iw t ⟨[], s⟩
        let (xs, w3) ← winListLoop iw lf w2
        pure (v :: xs, w3)) (do
        let (v, rest') ← it (t :: s)
        let (xs, rest'') ← unListLoop it lf rest'
        pure (v :: xs, rest'')) :=
      RelG.bind hit fun v w2 a2 =>
        have hb2 : w2.buf = [] := a2.elim id fun h => List.suffix_nil.mp h.1
        RelG.bind (winListLoop_rel hi lf w2 hb2) fun xs w3 a3 => RelG.pure (Adv.refl w3)
    refine RelG.mono (W := ⟨[], s⟩) (Or.inl rfl) ?_
    cases t
    case arrClose => exact RelG.pure (Adv.refl _)
    all_goals exact hrec

theorem safe_mapOpen_pre {buf : List JTok} (hs : safe (.mapOpen :: buf) = true) (src r : List JTok)
    (h : buf ++ src = .str slash :: r) : buf.length ≤ 1 := by
  rcases buf with _ | ⟨t1, _ | ⟨t2, b⟩⟩
  · simp
  · simp
  · simp only [List.cons_append, List.cons.injEq] at h
    simp [safe, h.1] at hs

theorem un_rel (cfg : DecCfg) : ∀ (fuel depth : Nat), ItemRel (Win.un cfg fuel depth) (unTok cfg fuel depth)
  | 0, _ => fun _ _ _ _ => rfl
  | fuel + 1, depth => by
    intro cur w hs hl
    cases cur
    case arrOpen =>
      have hb : w.buf = [] := by
        rcases hw : w.buf with _ | ⟨t, b⟩
        · rfl
        · rw [hw] at hs; simp [safe] at hs
      rw [Win.un, unTok]
      by_cases hd : depth ≥ cfg.maxDepth
      · rw [if_pos hd, if_pos hd]; rfl
      rw [if_neg hd, if_neg hd, List.length_append]
      exact RelG.bind (winListLoop_rel (un_rel cfg fuel (depth + 1)) _ w hb)
        fun xs w' _ => RelG.pure (Adv.refl w')
    case mapOpen =>
      rw [Win.un_mapOpen, unTok_mapOpen]
      by_cases hd : depth ≥ cfg.maxDepth
      · rw [if_pos hd, if_pos hd]; rfl
      have hla := laChain_at cfg.parseLinks cfg.parseBytes _ _ (safe_mapOpen_pre hs w.src)
      rw [Win.at_self] at hla
      rw [if_neg hd, if_neg hd, hla]
      have hspec := classify_fits cfg.parseLinks cfg.parseBytes (w.buf ++ w.src)
      cases hc : classify cfg.parseLinks cfg.parseBytes (w.buf ++ w.src) with
      | eof => rfl
      | link s =>
        simp only [laSpec, linkEnd, readAs]
        cases cidParse s
        · rfl
        · exact RelG.pure (Or.inl rfl)
      | bytes s =>
        simp only [laSpec, bytesEnd, readAs]
        cases decodeB64 s
        · rfl
        · exact RelG.pure (Or.inl rfl)
      | plain n =>
        rw [hc] at hspec
        show RelG w (winMapPart cfg fuel depth (Win.at _ (max w.buf.length n))) (asMap cfg fuel depth (w.buf ++ w.src))
        -- `W`, the window after the look-aheads: `w` itself, or the first `n` tokens if they looked further
        generalize hW : Win.at (w.buf ++ w.src) (max w.buf.length n) = W
        have hWc : W = w ∨ (w.buf.length ≤ n ∧ W = Win.at (w.buf ++ w.src) n) := by
          rcases Nat.le_total n w.buf.length with hnm | hnm
          · exact Or.inl (by rw [← hW, Nat.max_eq_left hnm, Win.at_self])
          · exact Or.inr ⟨hnm, by rw [← hW, Nat.max_eq_right hnm]⟩
        have htoks : W.buf ++ W.src = w.buf ++ w.src := by rw [← hW]; exact List.take_append_drop _ _
        have hWs : safe W.buf = true := by
          rcases hWc with e | ⟨_, e⟩ <;> rw [e]
          · exact safe_tail hs
          · exact hspec.2.1
        have hWl : W.buf.length ≤ 6 := by
          have := hspec.1
          rw [← hW]; simp only [Win.at, List.length_take]; omega
        have ih := winMapLoop_rel (un_rel cfg fuel (depth + 1)) (W.buf.length + W.src.length + 1) [] W hWs hWl
        rw [htoks] at ih
        unfold winMapPart asMap
        rw [show (w.buf ++ w.src).length + 1 = W.buf.length + W.src.length + 1 by rw [← htoks, List.length_append]]
        refine RelG.bind (ih.rebase fun es w' _ hB a => ?_) fun es w' _ => RelG.pure (Adv.refl w')
        rcases hWc with e | ⟨hnm, e⟩
        · exact e ▸ a
        · -- The look-ahead loaded tokens.  The map ends at or after them (`hk`), the source is still what
          -- followed them (`hsrc`): nothing of the window is left.
          refine Or.inl (a.elim id fun ⟨_, a2⟩ => ?_)
          obtain ⟨k, hnk, hk⟩ := hspec.map_ends_after hB
          have hsrc : w'.src = (w.buf ++ w.src).drop n := by rw [a2, e]; rfl
          have hle : (w'.buf ++ w'.src).length ≤ w'.src.length := by
            rw [hk, hsrc, List.length_drop, List.length_drop]; omega
          rw [List.length_append] at hle
          exact List.length_eq_zero_iff.mp (by omega)
    case mapClose => rfl
    case arrClose => rfl
    all_goals exact RelG.pure (Adv.refl w)

theorem decodeToksWin_eq (cfg : DecCfg) (toks : List JTok) : decodeToksWin cfg toks = decodeToks cfg toks := by
  unfold decodeToksWin decodeToks
  rcases toks with _ | ⟨t, rest⟩
  · rfl
  dsimp only
  have h : RelG ⟨[], rest⟩ (Win.un cfg ((t :: rest).length + 1) 0 t ⟨[], rest⟩)
      (unTok cfg ((t :: rest).length + 1) 0 (t :: rest)) := un_rel cfg _ 0 t ⟨[], rest⟩ rfl (Nat.zero_le _)
  revert h
  generalize Win.un cfg ((t :: rest).length + 1) 0 t ⟨[], rest⟩ = A
  generalize unTok cfg ((t :: rest).length + 1) 0 (t :: rest) = B
  intro h
  rcases A with e | ⟨v, w'⟩ <;> rcases B with e' | ⟨v', r⟩
  · exact congrArg Except.error h
  · exact False.elim h
  · exact False.elim h
  · obtain ⟨rfl, rfl, _⟩ := h
    simp only [ok_bind]
    cases w'.buf <;> cases w'.src <;> rfl

end Json
end Ipld

/-
  The children of a map or list, as `lookupBySegment` finds them and as `children` lists them; properties of values
  that pass to children (`Hereditary`); one step of `Progress.get` at a child; the block store read by link (`storeGet`).
-/
import IpldModel.Model.Walk
import IpldModel.Spec.CborLimits
import IpldModel.Lemmas.FirstOfKey
import IpldModel.Lemmas.ListMore
namespace Ipld

theorem DMs.forall_mem {P : DM → Prop} (L : DMs → Prop) (cons : ∀ x xs, L (.cons x xs) → P x ∧ L xs) :
    ∀ (xs : DMs), L xs → ∀ x ∈ xs.toList, P x
  | .nil, _, x, hx => by cases hx
  | .cons y ys, h, x, hx => by
    rcases List.mem_cons.1 hx with rfl | hx
    · exact (cons _ _ h).1
    · exact DMs.forall_mem L cons ys (cons _ _ h).2 x hx

theorem DMKVs.forall_mem {P : DM → Prop} (K : DMKVs → Prop) (cons : ∀ k v es, K (.cons k v es) → P v ∧ K es) :
    ∀ (es : DMKVs), K es → ∀ e ∈ es.toList, P e.2
  | .nil, _, e, he => by cases he
  | .cons k v es, h, e, he => by
    rcases List.mem_cons.1 he with rfl | he
    · exact (cons _ _ _ h).1
    · exact DMKVs.forall_mem K cons es (cons _ _ _ h).2 e he

namespace Walk
open Sel

theorem lookup_cases {n : DM} {seg : Seg} {c : DM} (h : lookupBySegment n seg = some c) :
    (∃ es e, n = .map es ∧ es.toList.find? (fun e => e.1 == seg.toString) = some e ∧ e.2 = c) ∨
    (∃ xs i, n = .list xs ∧ seg.index = some i ∧ ¬ i < 0 ∧ i.toNat < xs.toList.length ∧
      xs.toList[i.toNat]? = some c) := by
  cases n with
  | map es =>
    simp only [lookupBySegment, Option.map_eq_some_iff] at h
    obtain ⟨e, hf, he⟩ := h
    exact .inl ⟨es, e, rfl, hf, he⟩
  | list xs =>
    simp only [lookupBySegment] at h
    split at h
    · cases h
    · rename_i i hi
      split at h
      · cases h
      · rename_i hneg
        exact .inr ⟨xs, i, rfl, hi, hneg, (List.getElem?_eq_some_iff.mp h).1, h⟩
  | _ => cases h

def Kids (P : DM → Prop) : DM → Prop
  | .map es => ∀ e ∈ es.toList, P e.2
  | .list xs => ∀ x ∈ xs.toList, P x
  | _ => True

theorem Kids.lookup {P : DM → Prop} {n : DM} {seg : Seg} {c : DM} (h : Kids P n)
    (hl : lookupBySegment n seg = some c) : P c := by
  rcases lookup_cases hl with ⟨es, e, rfl, hf, rfl⟩ | ⟨xs, i, rfl, _, _, _, hx⟩
  · exact h e (List.mem_of_find?_eq_some hf)
  · exact h c (List.mem_of_getElem? hx)

theorem Kids.children {P : DM → Prop} {n : DM} (h : Kids P n) : ∀ {x}, x ∈ children n → P x.2 := by
  intro x hx
  cases n <;> simp only [Walk.children, List.mem_map, List.not_mem_nil] at hx
  · obtain ⟨e, he, rfl⟩ := hx
    exact h e.1 (List.mem_of_getElem? (zipIdx_getElem? he))
  · obtain ⟨e, he, rfl⟩ := hx
    exact h e he

theorem Kids.mono {P Q : DM → Prop} {n : DM} (h : Kids P n) (hpq : ∀ d, P d → Q d) : Kids Q n := by
  cases n <;> simp only [Kids] at h ⊢
  · exact fun x hx => hpq x (h x hx)
  · exact fun e he => hpq e.2 (h e he)

def Hereditary (P : DM → Prop) : Prop := ∀ {n}, P n → Kids P n

theorem noDup_hereditary : Hereditary DM.NoDup := by
  intro n h
  cases n <;> simp only [Kids]
  · exact DMs.forall_mem DMs.NoDup (fun _ _ h => h) _ h
  · exact DMKVs.forall_mem DMKVs.NoDupVals (fun _ _ _ h => h) _ h.2

theorem lookup_noDup {n : DM} {seg : Seg} {child : DM} (hn : n.NoDup)
    (h : lookupBySegment n seg = some child) : child.NoDup :=
  (noDup_hereditary hn).lookup h

theorem lookup_list_idx (xs : DMs) (i : Nat) : lookupBySegment (.list xs) (.idx i) = xs.toList[i]? := by
  have h1 : ¬ ((i : Int) < 0) := Int.not_lt.2 (Int.natCast_nonneg i)
  simp only [lookupBySegment, Seg.index, h1, if_false, Int.toNat_natCast]

theorem linkFree_hereditary : Hereditary (fun d => Spec.hasLink d = false) := by
  intro n h
  cases n <;> simp only [Kids]
  · exact DMs.forall_mem (fun xs => Spec.hasLinkList xs = false) (fun _ _ h => Bool.or_eq_false_iff.1 h) _ h
  · exact DMKVs.forall_mem (fun es => Spec.hasLinkKVs es = false) (fun _ _ _ h => Bool.or_eq_false_iff.1 h) _ h

theorem followLinks_nonlink {store : List (Bytes × DM)} {F : Nat} {v : DM} (hv : ∀ c, v ≠ .link c) :
    followLinks store (F + 1) v = .ok v := by
  cases v <;> first | rfl | exact absurd rfl (hv _)

theorem followLinks_nil {fuel : Nat} {x y : DM} (h : followLinks [] fuel x = .ok y) : y = x := by
  cases fuel with
  | zero => cases h
  | succ f => cases x <;> cases h <;> rfl

theorem followLinks_mono (T : List (Bytes × DM)) : ∀ (F : Nat) (x m : DM),
    followLinks T F x = .ok m → followLinks T (F + 1) x = .ok m := by
  intro F
  induction F with
  | zero => intro _ _ h; cases h
  | succ F ih =>
    intro x m h
    cases x with
    | link c =>
      simp only [followLinks] at h ⊢
      cases hs : storeGet T c with
      | none => rw [hs] at h; cases h
      | some b =>
        simp only [hs] at h ⊢
        exact ih b m h
    | _ => exact h

theorem lookup_getStep {store : List (Bytes × DM)} {F : Nat} {n : DM} {ps : Seg} {v : DM}
    (h : lookupBySegment n ps = some v) : getStep store F n ps = followLinks store F v := by
  rcases lookup_cases h with ⟨es, e, rfl, he, rfl⟩ | ⟨xs, i, rfl, hi, h0, _, hx⟩
  · simp only [getStep, he]
  · simp only [getStep, hi, h0, if_false, hx]

theorem getStep_ok {store : List (Bytes × DM)} {F : Nat} {n c : DM} {seg : Seg} (h : getStep store F n seg = .ok c) :
    ∃ c0, lookupBySegment n seg = some c0 ∧ followLinks store F c0 = .ok c := by
  cases n with
  | map es =>
    simp only [getStep] at h
    split at h
    · rename_i e hf
      exact ⟨e.2, by simp only [lookupBySegment, hf, Option.map_some], h⟩
    · cases h
  | list xs =>
    simp only [getStep] at h
    split at h
    · cases h
    · rename_i i hi
      split at h
      · cases h
      · rename_i hneg
        split at h
        · rename_i x hx
          exact ⟨x, by simp only [lookupBySegment, hi, hneg, if_false, hx], h⟩
        · cases h
  | _ => cases h

theorem children_noDup {n : DM} (hn : n.NoDup) {ps : Seg} {v : DM} (h : (ps, v) ∈ children n) : v.NoDup :=
  (noDup_hereditary hn).children h

theorem children_getStep {store : List (Bytes × DM)} {F : Nat} {n : DM} (hn : n.NoDup) {ps : Seg} {v : DM}
    (h : (ps, v) ∈ children n) : getStep store F n ps = followLinks store F v := by
  cases n with
  | map es =>
    simp only [children, List.mem_map] at h
    obtain ⟨e, he, heq⟩ := h
    cases heq
    simp only [DM.NoDup, DMKVs.keys] at hn
    simp only [getStep, Seg.toString, find?_key_of_mem (·.1) hn.1 e he]
  | list xs =>
    simp only [children, List.mem_map] at h
    obtain ⟨e, he, heq⟩ := h
    cases heq
    have hx := zipIdx_getElem? he
    have h1 : ¬ ((e.2 : Int) < 0) := Int.not_lt.2 (Int.natCast_nonneg e.2)
    simp only [getStep, Seg.index, h1, if_false, Int.toNat_natCast, hx]
  | _ => simp [children] at h

theorem followLinks_link {store : List (Bytes × DM)} {F : Nat} {c : Bytes} {blk : DM}
    (hs : storeGet store c = some blk) (hb : ∀ c', blk ≠ .link c') :
    followLinks store (F + 2) (.link c) = .ok blk := by
  rw [followLinks]
  simp only [hs]
  exact followLinks_nonlink hb

theorem storeGet_eq_lookup (store : List (Bytes × DM)) (c : Bytes) : storeGet store c = store.lookup c :=
  (lookup_eq_find? store c).symm

theorem storeGet_cons_self {c : Bytes} {b : DM} {s : List (Bytes × DM)} : storeGet ((c, b) :: s) c = some b := by
  simp only [storeGet, List.find?_cons, beq_self_eq_true, Option.map_some]

theorem storeGet_cons_ne {c k : Bytes} {b : DM} {s : List (Bytes × DM)} (h : k ≠ c) :
    storeGet ((c, b) :: s) k = storeGet s k := by
  simp only [storeGet, List.find?_cons, beq_eq_false_iff_ne.mpr (Ne.symm h)]

theorem storeGet_mem {s : List (Bytes × DM)} {c : Bytes} {b : DM} (h : storeGet s c = some b) : (c, b) ∈ s :=
  mem_of_find?_key h

theorem storeGet_append_notin (s : List (Bytes × DM)) (k : Bytes) : ∀ (W : List (Bytes × DM)),
    (∀ e ∈ W, e.1 ≠ k) → storeGet (W ++ s) k = storeGet s k := by
  intro W
  induction W with
  | nil => exact fun _ => rfl
  | cons a W ih =>
    intro h
    rw [← ih fun e he => h e (List.mem_cons_of_mem _ he)]
    exact storeGet_cons_ne fun he => h a (List.mem_cons_self ..) he.symm

end Walk
end Ipld

/-
  Lemmas about selectors: `explore` never reaches the Go panic unless called on a bare edge, compilation
  never panics, union matching is first-match, `explore` reads a segment through its text and index.
-/
import IpldModel.Model.Selector
import IpldModel.Lemmas.ExceptBind
namespace Ipld
namespace Sel

theorem isEdge_iff (s : S) : s.isEdge = true ↔ s = .edge := by
  cases s <;> simp [S.isEdge]

theorem isEdge_false_iff (s : S) : s.isEdge = false ↔ s ≠ .edge := by
  cases s <;> simp [S.isEdge]

mutual
theorem explore_no_panic : (s : S) → s ≠ .edge → ∀ n p, explore s n p ≠ .error .panic
  | .matcher _, _, _, _ => by rw [explore]; nofun
  | .all _, _, _, _ => by rw [explore]; nofun
  | .fields _, _, _, _ => by rw [explore]; nofun
  | .index i nx, _, n, p => by
    unfold explore
    repeat' split
    all_goals nofun
  | .range a b nx, _, n, p => by
    unfold explore
    repeat' split
    all_goals nofun
  | .union ms, _, n, p => by
    rw [explore]
    refine bind_ne_error (exploreList_no_panic ms n p) fun rs => ?_
    split <;> nofun
  | .recursive sq cur limit stopAt, _, n, p => by
    intro h
    simp only [explore] at h
    -- every arm answers `ok` or an error other than the panic, except the two that pass an error on
    repeat' split at h
    all_goals try cases h
    · rename_i heq
      repeat' split at heq
      all_goals cases heq
    · rename_i hc _ heq
      exact explore_no_panic cur (by simpa [isEdge_iff] using hc) n p heq
  | .edge, h, _, _ => absurd rfl h
  | .interpretAs _ _, _, _, _ => by rw [explore]; nofun
theorem exploreList_no_panic : (ms : SList) → ∀ n p, exploreList ms n p ≠ .error .panic
  | .nil, _, _ => by rw [exploreList]; nofun
  | .cons s r, n, p => by
    rw [exploreList]
    split
    · exact exploreList_no_panic r n p
    · rename_i hs
      exact bind_ne_error (explore_no_panic s (by simpa [isEdge_iff] using hs) n p) fun a =>
        bind_ne_error (exploreList_no_panic r n p) fun b => nofun
end

theorem interests_edge : interests .edge = some [] := by simp [interests]

/-- what `compile_noPanic_all` shows of every step of the compiler; irreducible: the compiler's `do` blocks are taken apart
    through `NoPanic.bind` / `.ite`, and `≠` is unfolded only in the base lemmas and at the end -/
@[irreducible] def NoPanic {α} (x : CR α) : Prop := x ≠ .error .panic

theorem NoPanic.bind {α β} {x : CR α} {f : α → CR β} (hx : NoPanic x) (hf : ∀ a, NoPanic (f a)) :
    NoPanic (x >>= f) := by
  unfold NoPanic at *
  exact bind_ne_error hx hf

theorem NoPanic.ok {α} (a : α) : NoPanic (Except.ok a : CR α) := by (unfold NoPanic; simp)
theorem NoPanic.pure {α} (a : α) : NoPanic (Pure.pure a : CR α) := NoPanic.ok a
theorem NoPanic.reject {α} : NoPanic (Except.error .reject : CR α) := by (unfold NoPanic; simp)

theorem NoPanic.ite {α} {c : Prop} [Decidable c] {x y : CR α} (hx : NoPanic x) (hy : NoPanic y) :
    NoPanic (if c then x else y) := by split <;> assumption

theorem parseLimit_noPanic (n : DM) : NoPanic (parseLimit n) := by
  unfold parseLimit
  repeat' split
  all_goals first | exact .ok _ | exact .reject

theorem parseCondition_noPanic (n : DM) : NoPanic (parseCondition n) := by
  unfold parseCondition
  repeat' split
  all_goals first | exact .ok _ | exact .reject

/-- One layer of `compile`: the key chain is taken apart first, so that the matches under each key are split in a
    goal that holds only that key's clause. -/
theorem compile_succ_noPanic {fuel : Nat} (ihA : ∀ inRec n, NoPanic (compile fuel inRec n))
    (ihL : ∀ inRec l, NoPanic (compileList fuel inRec l))
    (ihF : ∀ inRec l, NoPanic (compileFields fuel inRec l)) (inRec : Nat) (n : DM) :
    NoPanic (compile (fuel + 1) inRec n) := by
  unfold compile
  split
  · refine .ite ?_ <| .ite ?_ <| .ite ?_ <| .ite ?_ <| .ite ?_ <| .ite ?_ <| .ite ?_ <| .ite ?_ <| .ite ?_ .reject
    -- under each key every arm but the accepting ones rejects; what is left are those, in the order of the keys
    all_goals repeat' (split <;> try exact .reject)
    · exact (ihF _ _).bind fun _ => .pure _
    · exact (ihA _ _).bind fun _ => .pure _
    · exact (ihA _ _).bind fun _ => .pure _
    · exact (ihA _ _).bind fun _ => .pure _
    · exact (ihL _ _).bind fun _ => .pure _
    · exact (parseLimit_noPanic _).bind fun _ => .reject
    · exact (parseLimit_noPanic _).bind fun _ => (ihA _ _).bind fun _ =>
        .ite .reject <| (parseCondition_noPanic _).bind fun _ => .pure _
    · exact (parseLimit_noPanic _).bind fun _ => (ihA _ _).bind fun _ => .ite .reject (.pure _)
    · exact .ok _
    · exact (ihA _ _).bind fun _ => .pure _
    · exact (ihA _ _).bind fun _ => .reject
    · exact .ok _
    · exact .ok _
  · exact .reject

theorem compile_noPanic_all (fuel : Nat) :
    (∀ inRec n, NoPanic (compile fuel inRec n)) ∧ (∀ inRec l, NoPanic (compileList fuel inRec l)) ∧
    (∀ inRec l, NoPanic (compileFields fuel inRec l)) := by
  induction fuel with
  | zero => exact ⟨fun _ _ => .reject, fun _ _ => .reject, fun _ _ => .reject⟩
  | succ fuel ih =>
    obtain ⟨ihA, ihL, ihF⟩ := ih
    refine ⟨compile_succ_noPanic ihA ihL ihF, fun inRec l => ?_, fun inRec l => ?_⟩
    · cases l with
      | nil => exact .ok _
      | cons x xs => exact (ihA _ _).bind fun _ => (ihL _ _).bind fun _ => .pure _
    · cases l with
      | nil => exact .ok _
      | cons k v es => exact (ihA _ _).bind fun _ => (ihF _ _).bind fun _ => .pure _

theorem compile_no_panic (fuel inRec : Nat) (n : DM) : compile fuel inRec n ≠ .error .panic := by
  have := (compile_noPanic_all fuel).1 inRec n
  unfold NoPanic at this; exact this

theorem matchList_eq_findSome : (ms : SList) → (n : DM) →
    matchList ms n = ms.toList.findSome? (fun s => matchNode s n)
  | .nil, _ => by simp [matchList, SList.toList]
  | .cons s r, n => by
    simp only [matchList, SList.toList, List.findSome?_cons]
    cases matchNode s n with
    | some m => rfl
    | none => exact matchList_eq_findSome r n

mutual
theorem matchNode_self : (s : S) → (n m : DM) → matchNode s n = some m → (∀ b, n ≠ .str b) →
    (∀ b, n ≠ .bytes b) → m = n
  | .matcher none, n, m, h, _, _ => by simp only [matchNode, Option.some.injEq] at h; exact h.symm
  | .matcher (some (f, t)), n, m, h, h1, h2 => by
    cases n <;> simp only [matchNode] at h <;> first | cases h | exact absurd rfl (h1 _) | exact absurd rfl (h2 _)
  | .union ms, n, m, h, h1, h2 => matchList_self ms n m (by rwa [matchNode] at h) h1 h2
  | .recursive _ cur _ _, n, m, h, h1, h2 => matchNode_self cur n m (by rwa [matchNode] at h) h1 h2
  | .all _, _, _, h, _, _ => by simp [matchNode] at h
  | .fields _, _, _, h, _, _ => by simp [matchNode] at h
  | .index _ _, _, _, h, _, _ => by simp [matchNode] at h
  | .range _ _ _, _, _, h, _, _ => by simp [matchNode] at h
  | .edge, _, _, h, _, _ => by simp [matchNode] at h
  | .interpretAs _ _, _, _, h, _, _ => by simp [matchNode] at h
theorem matchList_self : (ms : SList) → (n m : DM) → matchList ms n = some m → (∀ b, n ≠ .str b) →
    (∀ b, n ≠ .bytes b) → m = n
  | .nil, _, _, h, _, _ => by simp [matchList] at h
  | .cons s r, n, m, h, h1, h2 => by
    rw [matchList] at h
    cases hm : matchNode s n with
    | some m' => rw [hm] at h; cases h; exact matchNode_self s n m hm h1 h2
    | none => rw [hm] at h; exact matchList_self r n m h h1 h2
end

theorem dedupSegs_foldl_nodup (l : List Seg) : ∀ (acc : List Seg), acc.Nodup →
    (l.foldl (fun acc s => if acc.any (fun t => t.toString == s.toString) then acc else acc ++ [s]) acc).Nodup := by
  induction l with
  | nil => intro acc h; exact h
  | cons s l ih =>
    intro acc h
    simp only [List.foldl_cons]
    apply ih
    split
    · exact h
    · rename_i hany
      rw [List.nodup_append]
      refine ⟨h, by simp, ?_⟩
      intro a ha b hb
      simp only [List.mem_singleton] at hb
      subst hb
      intro hab
      subst hab
      apply hany
      exact List.any_eq_true.2 ⟨a, ha, by simp⟩

theorem dedupSegs_nodup (l : List Seg) : (dedupSegs l).Nodup :=
  dedupSegs_foldl_nodup l [] List.nodup_nil

theorem exploreList_all_edges : (ms : SList) → (∀ s ∈ ms.toList, s = .edge) → ∀ n p, exploreList ms n p = .ok []
  | .nil, _, _, _ => by simp [exploreList]
  | .cons s r, h, n, p => by
    have hs : s = .edge := h s (by simp [SList.toList])
    subst hs
    simp only [exploreList, S.isEdge, if_true]
    exact exploreList_all_edges r (fun x hx => h x (by simp [SList.toList, hx])) n p

theorem hasEdgeList_ofList (l : List S) : hasEdgeList (SList.ofList l) = l.any hasEdge := by
  induction l with
  | nil => simp [SList.ofList, hasEdgeList]
  | cons x xs ih => simp [SList.ofList, hasEdgeList, ih]

mutual
theorem replaceEdge_none_noEdge : (s : S) → (r : S) → replaceEdge none s = some r → hasEdge r = false
  | .edge, r, h => by simp [replaceEdge] at h
  | .union ms, r, h => by
    have ih := replaceEdgeList_none_noEdge ms
    simp only [replaceEdge] at h
    split at h
    · cases h
    · rename_i x hx
      cases h
      exact ih r (by rw [hx]; simp)
    · cases h
      rw [hasEdge, hasEdgeList_ofList]
      rw [Bool.eq_false_iff]
      intro hc
      obtain ⟨x, hx, hxe⟩ := List.any_eq_true.1 hc
      rw [ih x hx] at hxe; cases hxe
  | .matcher _, r, h => by simp [replaceEdge] at h; subst h; simp [hasEdge]
  | .all _, r, h => by simp [replaceEdge] at h; subst h; simp [hasEdge]
  | .fields _, r, h => by simp [replaceEdge] at h; subst h; simp [hasEdge]
  | .index _ _, r, h => by simp [replaceEdge] at h; subst h; simp [hasEdge]
  | .range _ _ _, r, h => by simp [replaceEdge] at h; subst h; simp [hasEdge]
  | .recursive _ _ _ _, r, h => by simp [replaceEdge] at h; subst h; simp [hasEdge]
  | .interpretAs _ _, r, h => by simp [replaceEdge] at h; subst h; simp [hasEdge]
theorem replaceEdgeList_none_noEdge : (ms : SList) → ∀ x ∈ replaceEdgeList none ms, hasEdge x = false
  | .nil, x, hx => by simp [replaceEdgeList] at hx
  | .cons s r, x, hx => by
    have ihr := replaceEdgeList_none_noEdge r
    simp only [replaceEdgeList] at hx
    split at hx
    · rename_i y hy
      rcases List.mem_cons.1 hx with rfl | hx
      · exact replaceEdge_none_noEdge s _ hy
      · exact ihr x hx
    · exact ihr x hx
end

theorem lookup_congr (n : DM) {a b : Seg} (h1 : a.toString = b.toString) (h2 : a.index = b.index) :
    lookupBySegment n a = lookupBySegment n b := by
  cases n <;> simp only [lookupBySegment, h1, h2]

mutual
theorem explore_congr {a b : Seg} (h1 : a.toString = b.toString) (h2 : a.index = b.index) :
    ∀ (s : S) (n : DM), explore s n a = explore s n b
  | .matcher _, _ => rfl
  | .all _, _ => rfl
  | .fields fs, _ => by unfold explore; rw [h1]
  | .index _ _, n => by unfold explore; rw [h2]
  | .range _ _ _, n => by unfold explore; rw [h2]
  | .union ms, n => by unfold explore; rw [exploreList_congr h1 h2 ms n]
  | .recursive sq cur limit stopAt, n => by
    unfold explore; rw [lookup_congr n h1 h2, explore_congr h1 h2 cur n]
  | .edge, _ => rfl
  | .interpretAs _ _, _ => rfl
theorem exploreList_congr {a b : Seg} (h1 : a.toString = b.toString) (h2 : a.index = b.index) :
    ∀ (ms : SList) (n : DM), exploreList ms n a = exploreList ms n b
  | .nil, _ => rfl
  | .cons s r, n => by
    unfold exploreList; rw [explore_congr h1 h2 s n, exploreList_congr h1 h2 r n]
end

end Sel
end Ipld

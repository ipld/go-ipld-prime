/-
  Node budget: the walk with node budget `N` is the walk without one, cut at the first refusal; the budget spent
  is the number of `walkAdv` calls that passed the check, which without a start-at path is the number of visits (one
  more when the run ends in a reifier's error: `SpentBy.exact`).
-/
import IpldModel.Lemmas.WalkCut
namespace Ipld
namespace Walk
open Sel

def visitCount (es : List Event) : Nat := (visitsOf es).length

@[simp] theorem visitCount_nil : visitCount [] = 0 := rfl
@[simp] theorem visitCount_visit (p : Path) (m : DM) (r : Reason) (es : List Event) :
    visitCount (.visit p m r :: es) = visitCount es + 1 := by simp [visitCount, visitsOf]
@[simp] theorem visitCount_load (c : Bytes) (es : List Event) :
    visitCount (.load c :: es) = visitCount es := by simp [visitCount, visitsOf]
@[simp] theorem visitCount_append (a b : List Event) : visitCount (a ++ b) = visitCount a + visitCount b := by
  simp [visitCount, visitsOf]

def dropNodeBudget (st : St) : St := { st with nodeBudget := none }

theorem checkLink_dropNodeBudget (st : St) : checkLink (dropNodeBudget st) = (checkLink st).map dropNodeBudget := by
  obtain ⟨nb, lb, seen, ev⟩ := st
  cases lb with
  | none => rfl
  | some b => simp only [checkLink, dropNodeBudget]; split <;> rfl

theorem linkStep_dropNodeBudget (cfg : Cfg) (c : Bytes) (st : St) :
    linkStep cfg c (dropNodeBudget st) = (dropNodeBudget (linkStep cfg c st).1, (linkStep cfg c st).2) := by
  have hm : markSeen cfg c (dropNodeBudget st) = dropNodeBudget (markSeen cfg c st) := by unfold markSeen; split <;> rfl
  rw [linkStep_eq cfg c (dropNodeBudget st), linkStep_eq cfg c st]
  by_cases h1 : (cfg.linkOnce && st.seen.contains c) = true
  · rw [if_pos h1, if_pos (show (cfg.linkOnce && (dropNodeBudget st).seen.contains c) = true from h1)]
  · rw [if_neg h1, if_neg (show ¬ (cfg.linkOnce && (dropNodeBudget st).seen.contains c) = true from h1), hm, checkLink_dropNodeBudget]
    cases checkLink (markSeen cfg c st) <;> rfl

/-- without a start-at path, what the unbudgeted run does (`extra`, most recent first) after the budgeted one
    was refused begins with a visit, unless it fails on the reifier at once -/
def NextIsVisit (extra : List Event) (rU : Except Err Unit) : Prop :=
  (extra = [] ∧ rU = .error .reify) ∨ ∃ e p m r, extra = e ++ [.visit p m r]

def nodeControl (cfg : Cfg) : Control cfg where
  free := dropNodeBudget
  err := .budgetNode
  Next extra rU := cfg.startAt = [] → NextIsVisit extra rU
  err_budget := .inl rfl
  next_more extra more r h hs := by
    rcases h hs with ⟨_, h2⟩ | ⟨e, p, m, r, h⟩
    · cases h2
    · exact .inr ⟨more ++ e, p, m, r, by rw [h, List.append_assoc]⟩
  free_visit past path n s st := by unfold visitSt; split <;> rfl
  node st := (checkNode_cases st).imp (·.2) fun ⟨_, h⟩ => ⟨by rw [h]; nofun, by rw [h]; rfl⟩
  node_refused fuel past path n s st _ := by
    rw [walkAdv_enter, enterNode]
    have hU : checkNode (dropNodeBudget st) = .ok (dropNodeBudget st) := rfl
    rw [hU]
    dsimp only
    split
    · exact ⟨[], rfl, fun _ => .inl ⟨rfl, rfl⟩⟩
    · obtain ⟨new, hnew⟩ := visitSt_events cfg past path n s (dropNodeBudget st)
      have hx : cfg.startAt = [] → ∀ more, NextIsVisit (more ++ new) (.ok ()) := fun hs more => by
        obtain ⟨m, r, hv⟩ := visitEvent_is_visit path n s
        rw [visitSt_noStart cfg hs, hv] at hnew
        cases List.append_cancel_right (as := [_]) hnew
        exact .inr ⟨more, path, m, r, rfl⟩
      rw [andThen_ok]
      split
      · exact ⟨new, hnew, fun hs => hx hs []⟩
      · obtain ⟨more, hm⟩ := (eventsExtend_all cfg fuel).2.1 path n s (childList n s) { past := past }
          (visitSt cfg past path n s (dropNodeBudget st))
        refine ⟨more ++ new, by rw [hm, hnew, List.append_assoc]; rfl, fun hs => ?_⟩
        rcases hx hs more with ⟨_, h2⟩ | h
        · cases h2
        · exact .inr h
  link c st := .inr ⟨fun h => (by rcases linkStep_error h with h | h <;> cases h), linkStep_dropNodeBudget cfg c st⟩

/-- A run from `st` (node budget `b`) that ended as `r` logged `new` and passed the budget check `k` times. -/
structure SpentBy (cfg : Cfg) (st : St) (r : WR) (b : Int) (new : List Event) (k : Nat) : Prop where
  log : r.1.events = new ++ st.events
  left : r.1.nodeBudget = some (b - k)
  within : (k : Int) ≤ b
  visits : visitCount new ≤ k
  refused : r.2 = .error .budgetNode → (k : Int) = b
  /-- without a start-at path every unit spent is a visit, except the one a run ending on the reifier paid last:
      the reifier is tried after the budget check and before the visit -/
  exact : cfg.startAt = [] → (r.2 = .error .reify → k = visitCount new + 1) ∧ (r.2 ≠ .error .reify → k = visitCount new)

def Spent (cfg : Cfg) (st : St) (r : WR) : Prop :=
  ∀ b, st.nodeBudget = some b → 0 ≤ b → ∃ (new : List Event) (k : Nat), SpentBy cfg st r b new k

theorem spent_all (cfg : Cfg) : ∀ fuel, WalkEach cfg (Spent cfg) fuel := by
  have still : ∀ {st st' : St} {r} new, st'.nodeBudget = st.nodeBudget → st'.events = new ++ st.events →
      visitCount new = 0 → r ≠ .error .budgetNode → r ≠ .error .reify → Spent cfg st (st', r) :=
    fun new hb he hv h1 h2 b hb0 h0 => ⟨new, 0, he, by rw [hb, hb0, Int.natCast_zero, Int.sub_zero],
      by rw [Int.natCast_zero]; exact h0, Nat.le_of_eq hv, (absurd · h1), fun _ => ⟨(absurd · h2), fun _ => hv.symm⟩⟩
  have hlink : ∀ c st r, r ≠ .error .budgetNode → r ≠ .error .reify → Spent cfg st ((linkStep cfg c st).1, r) := by
    intro c st r
    have hb : (linkStep cfg c st).1.nodeBudget = st.nodeBudget := by
      rcases linkStep_cases cfg c st with ⟨_, h⟩ | ⟨_, ⟨_, h⟩ | ⟨_, h⟩⟩ <;> rw [h]
    rcases linkStep_events_cases cfg c st with h | h
    · exact still [] hb h rfl
    · exact still [.load c] hb h rfl
  refine walk_post cfg (Spent cfg) ?_ ?_ ?_ ?_
  · intro st r hr
    refine still [] rfl rfl rfl ?_ ?_ <;> (rintro rfl; cases hr)
  · intro a m r h1 h2 b hb h0
    obtain ⟨new1, k1, he1, hb1, hk1, hv1, _, hs1⟩ := h1 b hb h0
    obtain ⟨new2, k2, he2, hb2, hk2, hv2, hr2, hs2⟩ := h2 _ hb1 (Int.sub_nonneg_of_le hk1)
    refine ⟨new2 ++ new1, k2 + k1, by rw [he2, he1, List.append_assoc],
      by rw [hb2, Int.natCast_add, Int.sub_sub, Int.add_comm], by rw [Int.natCast_add]; exact Int.add_le_of_le_sub_right hk2,
      by rw [visitCount_append]; exact Nat.add_le_add hv2 hv1,
      fun h => by rw [Int.natCast_add, hr2 h, Int.sub_add_cancel], fun hs => ?_⟩
    rw [visitCount_append, (hs1 hs).2 nofun]
    exact ⟨fun h => by rw [(hs2 hs).1 h, Nat.add_right_comm], fun h => by rw [(hs2 hs).2 h]⟩
  · intro past path n s st b hb h0
    unfold enterNode
    rcases checkNode_cases st with ⟨⟨b', hb', hle⟩, hR⟩ | ⟨hpos, hR⟩ <;> rw [hR]
    · cases hb.symm.trans hb'
      exact ⟨[], 0, rfl, by rw [hb, Int.natCast_zero, Int.sub_zero], by rw [Int.natCast_zero]; exact h0, Nat.le_refl _,
        fun _ => by rw [Int.natCast_zero]; exact Int.le_antisymm h0 hle, fun _ => ⟨nofun, fun _ => rfl⟩⟩
    · have hpos : (1 : Int) ≤ b := hpos b hb
      rw [hb]
      dsimp only
      split
      · exact ⟨[], 1, rfl, rfl, hpos, Nat.zero_le _, nofun, fun _ => ⟨fun _ => rfl, (absurd rfl ·)⟩⟩
      · obtain ⟨m, r, hv⟩ := visitEvent_is_visit path n s
        unfold visitSt
        split
        · rename_i hc
          exact ⟨[], 1, rfl, rfl, hpos, Nat.zero_le _, nofun, fun hs => by simp [hs] at hc⟩
        · exact ⟨[visitEvent path n s], 1, rfl, rfl, hpos, by rw [hv]; exact Nat.le_refl _, nofun,
            fun _ => ⟨nofun, fun _ => by rw [hv]; rfl⟩⟩
  · intro c st
    cases he : (linkStep cfg c st).2 with
    | ok o => exact hlink c st _ nofun nofun
    | error e => rcases linkStep_error he with rfl | rfl <;> exact hlink c st _ nofun nofun

theorem walk_nodeBudget (cfg : Cfg) (fuel : Nat) (N : Int) (hN : 0 ≤ N) (lb : Option Int) (root : DM) (s : S) :
    let U := walk cfg fuel none lb root s
    let R := walk cfg fuel (some N) lb root s
    ∃ k : Nat, R.st.nodeBudget = some (N - k) ∧ (k : Int) ≤ N ∧ (visitsOf R.events).length ≤ k ∧
      (cfg.startAt = [] → (R.outcome = .error .reify → k = (visitsOf R.events).length + 1) ∧
        (R.outcome ≠ .error .reify → k = (visitsOf R.events).length)) ∧
      ((R.outcome = .error .budgetNode ∧ (k : Int) = N ∧
          ∃ rest, U.events = R.events ++ rest ∧ (cfg.startAt = [] → NextIsVisit rest.reverse U.outcome))
       ∨ (R.outcome ≠ .error .budgetNode ∧ R.events = U.events ∧ R.outcome = U.outcome)) := by
  have hc := (((nodeControl cfg).cut_all fuel).1 false [] root s { nodeBudget := some N, linkBudget := lb }).chrono
  obtain ⟨new, k, he, hb, hk, hv, hr, hs⟩ :=
    (spent_all cfg fuel).1 false [] root s { nodeBudget := some N, linkBudget := lb } N rfl hN
  dsimp only
  rw [walk_events, walk_events, walk_outcome, walk_outcome]
  show ∃ k : Nat, (walkAdv cfg fuel false [] root s _).1.nodeBudget = _ ∧ _
  rw [List.append_nil] at he
  have hlen : ∀ es, es = new → (visitsOf es.reverse).length = visitCount new := fun es h => by
    rw [visitsOf_reverse, List.length_reverse, h]; rfl
  rw [hlen _ he]
  refine ⟨k, hb, hk, hv, hs, ?_⟩
  rcases hc with ⟨h1, rest, h2, h3⟩ | ⟨h1, h2⟩
  · exact .inl ⟨h1, hr h1, rest, h2, h3⟩
  · exact .inr ⟨h1, (congrArg (·.1.events.reverse) h2).symm, (congrArg (·.2) h2).symm⟩

theorem walk_nodeBudget_noStart (cfg : Cfg) (hs : cfg.startAt = []) (fuel : Nat) (N : Int) (hN : 0 ≤ N)
    (lb : Option Int) (root : DM) (s : S) :
    let U := walk cfg fuel none lb root s
    let R := walk cfg fuel (some N) lb root s
    (visitsOf R.events).length ≤ N.toNat ∧
    ((R.outcome = .error .budgetNode ∧ (visitsOf R.events).length = N.toNat ∧
        ∃ rest, U.events = R.events ++ rest ∧
          ((rest = [] ∧ U.outcome = .error .reify) ∨ ∃ p m r rest', rest = .visit p m r :: rest'))
     ∨ (R.outcome ≠ .error .budgetNode ∧ R.events = U.events ∧ R.outcome = U.outcome ∧
        (U.outcome = .error .reify → (visitsOf U.events).length < N.toNat))) := by
  obtain ⟨k, _, hk, hv, hre, h⟩ := walk_nodeBudget cfg fuel N hN lb root s
  obtain ⟨hre1, hre2⟩ := hre hs
  have hkN : k ≤ N.toNat := (Int.le_toNat hN).2 hk
  refine ⟨Nat.le_trans hv hkN, ?_⟩
  rcases h with ⟨hr, hkN', rest, he, hx⟩ | ⟨hr, he, ho⟩
  · refine .inl ⟨hr, ?_, rest, he, ?_⟩
    · rw [← hre2 (by rw [hr]; nofun), ← hkN', Int.toNat_natCast]
    · rcases hx hs with ⟨h1, h2⟩ | ⟨e, p, m, r, h1⟩
      · exact .inl ⟨List.reverse_eq_nil_iff.1 h1, h2⟩
      · exact .inr ⟨p, m, r, e.reverse, by rw [← List.reverse_reverse rest, h1]; simp⟩
  · refine .inr ⟨hr, he, ho, fun h => ?_⟩
    rw [← he]
    exact Nat.lt_of_lt_of_le (by rw [hre1 (ho ▸ h)]; exact Nat.lt_succ_self _) hkN

end Walk
end Ipld

/-
  Histories of store / compute / load on one storage (`hstep`, `hrun` of Model/Link.lean): the equations of `hstep` per
  operation over `encLink`, what a step and a history can do to a binding (`Writes`, `hrun_get_cases`: the frame
  property), the answers of a history one by one, and that answers depend on the storage through `get` alone.
-/
import IpldModel.Lemmas.Link
namespace Ipld
namespace Link

variable (H : Nat → Bytes → Bytes) (codecs : Nat → Option Codec)

theorem get_put (s : Store) (l l' : Lnk) (b : Bytes) :
    (s.put l b).get l' = if l = l' then some b else s.get l' := rfl

theorem get_put_self (s : Store) (l : Lnk) (b : Bytes) : (s.put l b).get l = some b := by
  rw [get_put, if_pos rfl]

theorem get_put_same {s : Store} {l : Lnk} {b : Bytes} (h : s.get l = some b) (l' : Lnk) :
    (s.put l b).get l' = s.get l' := by
  rw [get_put]
  split
  · subst l'; exact h.symm
  · rfl

/-- What `Store` and `ComputeLink` both do with a value: choose the encoder by the prototype's codec, encode, build
    the link from the hash of the block (`none`: one of the three refused). -/
def encLink (p : Proto) (v : DM) : Option (Lnk × Bytes) :=
  (codecs p.codec).bind fun c => (c.encode v).bind fun b => (buildLink p (H p.mhType b)).map (·, b)

theorem encLink_eq_some {p : Proto} {v : DM} {l : Lnk} {b : Bytes} :
    encLink H codecs p v = some (l, b) ↔
      ∃ c, codecs p.codec = some c ∧ c.encode v = some b ∧ buildLink p (H p.mhType b) = some l := by
  simp only [encLink, Option.bind_eq_some_iff, Option.map_eq_some_iff, Prod.mk.injEq]
  constructor
  · rintro ⟨c, hc, b', he, l', hb, rfl, rfl⟩; exact ⟨c, hc, he, hb⟩
  · rintro ⟨c, hc, he, hb⟩; exact ⟨c, hc, b, he, l, hb, rfl, rfl⟩

/-- the three nested matches in the `store` and `compute` cases of `hstep`, as one on `encLink` -/
theorem encLink_match {α : Type} (p : Proto) (v : DM) (f : Lnk → Bytes → α) (a : α) :
    (match codecs p.codec with
     | none => a
     | some c =>
       match c.encode v with
       | none => a
       | some b =>
         match buildLink p (H p.mhType b) with
         | none => a
         | some l => f l b) =
    match encLink H codecs p v with
    | some (l, b) => f l b
    | none => a := by
  unfold encLink
  cases codecs p.codec with
  | none => rfl
  | some c =>
    dsimp only [Option.bind_some]
    cases c.encode v with
    | none => rfl
    | some b =>
      dsimp only [Option.bind_some]
      cases buildLink p (H p.mhType b) <;> rfl

theorem hstep_store (s : Store) (p : Proto) (v : DM) :
    hstep H codecs s (.store p v) =
      match encLink H codecs p v with
      | some (l, b) => (s.put l b, .link l)
      | none => (s, .error) :=
  encLink_match H codecs p v (fun l b => (s.put l b, HOut.link l)) (s, .error)

theorem hstep_compute (s : Store) (p : Proto) (v : DM) :
    hstep H codecs s (.compute p v) =
      (s, match encLink H codecs p v with
          | some (l, _) => .link l
          | none => .error) :=
  (encLink_match H codecs p v (fun l _ => (s, HOut.link l)) (s, .error)).trans
    (by cases encLink H codecs p v <;> rfl)

theorem hstep_loadRaw (s : Store) (l : Lnk) :
    hstep H codecs s (.loadRaw l) =
      (s, match (s.get l).filter (hashesTo H l) with
          | some b => .raw b
          | none => .error) := by
  simp only [hstep]
  cases s.get l with
  | none => rfl
  | some b => cases hh : hashesTo H l b <;> simp [Option.filter, hh]

theorem hstep_load (s : Store) (l : Lnk) :
    hstep H codecs s (.load l) =
      (s, match codecs l.codec, (s.get l).filter (hashesTo H l) with
          | some c, some b => (match c.decode b with | some v => .node v | none => .error)
          | _, _ => .error) := by
  simp only [hstep]
  cases codecs l.codec with
  | none => rfl
  | some c =>
    cases s.get l with
    | none => rfl
    | some b =>
      cases hh : hashesTo H l b
      · simp [Option.filter, hh]
      · simp only [Option.filter, hh, if_true]
        cases c.decode b <;> rfl

theorem hstep_store_of {s : Store} {p : Proto} {v : DM} {l : Lnk} (c : Codec) {b : Bytes}
    (hc : codecs p.codec = some c) (he : c.encode v = some b) (hb : buildLink p (H p.mhType b) = some l) :
    hstep H codecs s (.store p v) = (s.put l b, .link l) := by
  rw [hstep_store, (encLink_eq_some H codecs).mpr ⟨c, hc, he, hb⟩]

theorem hstep_compute_of {s : Store} {p : Proto} {v : DM} {l : Lnk} {c : Codec} {b : Bytes}
    (hc : codecs p.codec = some c) (he : c.encode v = some b) (hb : buildLink p (H p.mhType b) = some l) :
    hstep H codecs s (.compute p v) = (s, .link l) := by
  rw [hstep_compute, (encLink_eq_some H codecs).mpr ⟨c, hc, he, hb⟩]

/-- Inversion of a `store` step that returned a link.  From `(hstep … ).2 = .link l` alone, call it with
    `Prod.ext rfl h`. -/
theorem hstep_store_inv {s s₁ : Store} {p : Proto} {v : DM} {l : Lnk}
    (hs : hstep H codecs s (.store p v) = (s₁, .link l)) :
    ∃ c b, codecs p.codec = some c ∧ c.encode v = some b ∧ buildLink p (H p.mhType b) = some l ∧ s₁ = s.put l b := by
  rw [hstep_store] at hs
  rcases he : encLink H codecs p v with _ | ⟨l', b⟩
  · rw [he] at hs; cases hs
  · rw [he] at hs; cases hs
    obtain ⟨c, hc, hv, hb⟩ := (encLink_eq_some H codecs).mp he
    exact ⟨c, b, hc, hv, hb, rfl⟩

theorem hstep_store_inv_of {s s₁ : Store} {p : Proto} {v : DM} {l : Lnk} {c : Codec} (hp : codecs p.codec = some c)
    (hs : hstep H codecs s (.store p v) = (s₁, .link l)) :
    ∃ b, c.encode v = some b ∧ buildLink p (H p.mhType b) = some l ∧ s₁ = s.put l b := by
  obtain ⟨c', b, hc, r⟩ := hstep_store_inv H codecs hs
  cases hp.symm.trans hc
  exact ⟨b, r⟩

theorem hstep_loadRaw_of {s : Store} {l : Lnk} {b : Bytes} (hg : s.get l = some b)
    (hh : hashesTo H l b = true) : (hstep H codecs s (.loadRaw l)).2 = .raw b := by
  simp [hstep_loadRaw, hg, Option.filter, hh]

theorem hstep_load_of {s : Store} {l : Lnk} {b : Bytes} {c : Codec} (hc : codecs l.codec = some c)
    (hg : s.get l = some b) (hh : hashesTo H l b = true) :
    (hstep H codecs s (.load l)).2 = match c.decode b with | some v => .node v | none => .error := by
  simp only [hstep_load, hc, hg, Option.filter, hh, if_true]

def Writes (op : HOp) (l : Lnk) (b : Bytes) : Prop :=
  ∃ p v c, op = .store p v ∧ codecs p.codec = some c ∧ c.encode v = some b ∧ buildLink p (H p.mhType b) = some l

theorem hstep_fst_cases (s : Store) (op : HOp) :
    (hstep H codecs s op).1 = s ∨
    ∃ l b, Writes H codecs op l b ∧ hstep H codecs s op = (s.put l b, .link l) := by
  cases op with
  | store p v =>
    rw [hstep_store]
    rcases he : encLink H codecs p v with _ | ⟨l, b⟩
    · exact Or.inl rfl
    · obtain ⟨c, hc, hv, hb⟩ := (encLink_eq_some H codecs).mp he
      exact Or.inr ⟨l, b, ⟨p, v, c, rfl, hc, hv, hb⟩, rfl⟩
  | compute p v => exact Or.inl (by rw [hstep_compute])
  | load l => exact Or.inl (by rw [hstep_load])
  | loadRaw l => exact Or.inl (by rw [hstep_loadRaw])

theorem hstep_get_cases (s : Store) (op : HOp) (l : Lnk) :
    (hstep H codecs s op).1.get l = s.get l ∨
    ∃ b, Writes H codecs op l b ∧ (hstep H codecs s op).1.get l = some b := by
  rcases hstep_fst_cases H codecs s op with e | ⟨l0, b0, hw, e⟩
  · left; rw [e]
  · rw [e, get_put]
    split
    · subst l; exact Or.inr ⟨b0, hw, rfl⟩
    · exact Or.inl rfl

theorem hstep_congr (s s' : Store) (op : HOp) (h : ∀ l, s.get l = s'.get l) :
    (hstep H codecs s op).2 = (hstep H codecs s' op).2 ∧
    ∀ l, (hstep H codecs s op).1.get l = (hstep H codecs s' op).1.get l := by
  cases op with
  | store p v =>
    rw [hstep_store, hstep_store]
    rcases encLink H codecs p v with _ | ⟨l, b⟩
    · exact ⟨rfl, h⟩
    · exact ⟨rfl, fun l' => by rw [get_put, get_put, h]⟩
  | compute p v => rw [hstep_compute, hstep_compute]; exact ⟨rfl, h⟩
  | load l => rw [hstep_load, hstep_load, h l]; exact ⟨rfl, h⟩
  | loadRaw l => rw [hstep_loadRaw, hstep_loadRaw, h l]; exact ⟨rfl, h⟩

theorem hrun_cons_fst (s : Store) (op : HOp) (ops : List HOp) :
    (hrun H codecs s (op :: ops)).1 = (hrun H codecs (hstep H codecs s op).1 ops).1 := rfl

theorem hrun_cons_snd (s : Store) (op : HOp) (ops : List HOp) :
    (hrun H codecs s (op :: ops)).2 = (hstep H codecs s op).2 :: (hrun H codecs (hstep H codecs s op).1 ops).2 := rfl

theorem hrun_append_fst (s : Store) (a b : List HOp) :
    (hrun H codecs s (a ++ b)).1 = (hrun H codecs (hrun H codecs s a).1 b).1 := by
  induction a generalizing s with
  | nil => rfl
  | cons op a ih => simp only [List.cons_append, hrun_cons_fst, ih]

theorem hrun_append_snd (s : Store) (a b : List HOp) :
    (hrun H codecs s (a ++ b)).2 = (hrun H codecs s a).2 ++ (hrun H codecs (hrun H codecs s a).1 b).2 := by
  induction a generalizing s with
  | nil => rfl
  | cons op a ih => simp only [List.cons_append, hrun_cons_fst, hrun_cons_snd, ih]

theorem hrun_length (s : Store) (ops : List HOp) : (hrun H codecs s ops).2.length = ops.length := by
  induction ops generalizing s with
  | nil => rfl
  | cons op ops ih => simp only [hrun_cons_snd, List.length_cons, ih]

theorem hrun_getElem? (s : Store) (ops : List HOp) (i : Nat) :
    (hrun H codecs s ops).2[i]? = ops[i]?.map fun op => (hstep H codecs (hrun H codecs s (ops.take i)).1 op).2 := by
  induction ops generalizing s i with
  | nil => rfl
  | cons op ops ih =>
    rw [hrun_cons_snd]
    cases i with
    | zero => rfl
    | succ i => rw [List.getElem?_cons_succ, List.getElem?_cons_succ, List.take_succ_cons, hrun_cons_fst, ih]

theorem hrun_get_cases (s : Store) (ops : List HOp) (l : Lnk) :
    (hrun H codecs s ops).1.get l = s.get l ∨
    ∃ op ∈ ops, ∃ b, Writes H codecs op l b ∧ (hrun H codecs s ops).1.get l = some b := by
  induction ops generalizing s with
  | nil => left; rfl
  | cons op ops ih =>
    rw [hrun_cons_fst]
    rcases ih (hstep H codecs s op).1 with e | ⟨op', hm, b, hw, e⟩
    · rcases hstep_get_cases H codecs s op l with e' | ⟨b, hw, e'⟩
      · left; rw [e, e']
      · right; exact ⟨op, List.mem_cons_self, b, hw, by rw [e, e']⟩
    · right; exact ⟨op', List.mem_cons_of_mem _ hm, b, hw, e⟩

theorem hrun_get_stable {s : Store} {ops : List HOp} {l : Lnk} {b : Bytes} (hg : s.get l = some b)
    (hnc : ∀ op ∈ ops, ∀ b', Writes H codecs op l b' → b' = b) : (hrun H codecs s ops).1.get l = some b := by
  rcases hrun_get_cases H codecs s ops l with g | ⟨op, hm, b', hw, g⟩
  · rw [g, hg]
  · rw [g, hnc op hm b' hw]

theorem hrun_congr (s s' : Store) (ops : List HOp) (h : ∀ l, s.get l = s'.get l) :
    (hrun H codecs s ops).2 = (hrun H codecs s' ops).2 ∧
    ∀ l, (hrun H codecs s ops).1.get l = (hrun H codecs s' ops).1.get l := by
  induction ops generalizing s s' with
  | nil => exact ⟨rfl, h⟩
  | cons op ops ih =>
    obtain ⟨h1, h2⟩ := hstep_congr H codecs s s' op h
    obtain ⟨h3, h4⟩ := ih _ _ h2
    simp only [hrun_cons_fst, hrun_cons_snd]
    exact ⟨by rw [h1, h3], h4⟩

end Link
end Ipld

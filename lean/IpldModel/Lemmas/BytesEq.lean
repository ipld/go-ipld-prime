/-
  Instance shortcuts for `Bytes = List UInt8`: the `BEq` laws on keys (`beq_iff_eq`, `beq_self_eq_true`, the
  `List.find?` / `Nodup` lemmas) find `LawfulBEq Bytes` here, not through the `Std.LawfulOrderBEq UInt8` routes.
-/
import IpldModel.Model.DM
namespace Ipld

instance lawfulBEqBytes : LawfulBEq Bytes := inferInstanceAs (LawfulBEq (List UInt8))
instance reflBEqBytes : ReflBEq Bytes := inferInstanceAs (ReflBEq (List UInt8))

end Ipld

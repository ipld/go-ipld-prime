/-
  The walk under a control that can only refuse (a budget): up to the first refusal the controlled run and the
  free run do the same; at the refusal the controlled run stops and the free run goes on.
-/
import IpldModel.Lemmas.Walk
namespace Ipld
namespace Walk
open Sel

/-- A control that only ever refuses.  `free` removes it from a state, `err` is the error a refusal reports,
    `Next extra r` is what is claimed of the free run (its further events, most recent first, and its outcome)
    from a point where the controlled run is refused.  The node check and the link step either refuse or do not
    see the control.  There are two instances, the node budget and the link budget: `err_budget` keeps `err`
    apart from the errors the walk raises by itself; `node_refused` is not about a step: it says what the free run
    of `walkAdv` does from the point where the node check refused (only the node budget has such points), the
    refusing clause of `link` says the same of the link budget, where the free run's next event is the load. -/
structure Control (cfg : Cfg) where
  free : St → St
  err : Err
  Next : List Event → Except Err Unit → Prop
  err_budget : err = .budgetNode ∨ err = .budgetLink
  next_more : ∀ extra more r, Next extra (.ok ()) → Next (more ++ extra) r
  free_visit : ∀ past path n s st, visitSt cfg past path n s (free st) = free (visitSt cfg past path n s st)
  node : ∀ st, checkNode st = .error err ∨
    (checkNode st ≠ .error err ∧ checkNode (free st) = (checkNode st).map free)
  node_refused : ∀ fuel past path n s st, checkNode st = .error err →
    ∃ extra, (walkAdv cfg (fuel + 1) past path n s (free st)).1.events = extra ++ st.events ∧
      Next extra (walkAdv cfg (fuel + 1) past path n s (free st)).2
  link : ∀ c st,
    ((linkStep cfg c st).2 = .error err ∧ (linkStep cfg c st).1.events = st.events ∧
      (linkStep cfg c (free st)).1.events = .load c :: st.events ∧ ∀ more r, Next (more ++ [.load c]) r) ∨
    ((linkStep cfg c st).2 ≠ .error err ∧
      linkStep cfg c (free st) = (free (linkStep cfg c st).1, (linkStep cfg c st).2))

namespace Control
variable {cfg : Cfg} (B : Control cfg)

/-- `R` is the result of a controlled run, `U` of the free run from the freed state -/
def Cut (R U : WR) : Prop :=
  (R.2 = .error B.err ∧ ∃ extra, U.1.events = extra ++ R.1.events ∧ B.Next extra U.2) ∨
  (R.2 ≠ .error B.err ∧ U = (B.free R.1, R.2))

variable {B}

theorem Cut.same {st : St} {r : Except Err Unit} (h : r ≠ .error B.err) : B.Cut (st, r) (B.free st, r) :=
  .inr ⟨h, rfl⟩

theorem Cut.stay {st : St} {r : Except Err Unit} (h : InPlace r) : B.Cut (st, r) (B.free st, r) := by
  refine .same fun hr => ?_
  subst hr
  rcases B.err_budget with he | he <;> rw [he] at h <;> cases h

theorem Cut.andThen {R1 U1 : WR} {f : St → WR} (h1 : B.Cut R1 U1) (hf : ∀ st1, B.Cut (f st1) (f (B.free st1)))
    (hext : ∀ stU, ∃ new, (f stU).1.events = new ++ stU.events) : B.Cut (andThen R1 f) (andThen U1 f) := by
  obtain ⟨stR, rR⟩ := R1
  obtain ⟨stU, rU⟩ := U1
  rcases h1 with ⟨hr, extra, hx, hn⟩ | ⟨hr, hu⟩
  · dsimp only at hr hx hn
    subst hr
    refine .inl ⟨rfl, ?_⟩
    obtain _ | ⟨⟨⟩⟩ := rU
    · exact ⟨extra, hx, hn⟩
    · obtain ⟨more, hm⟩ := hext stU
      rw [andThen_ok]
      exact ⟨more ++ extra, by rw [hm, hx, List.append_assoc]; rfl, B.next_more _ _ _ hn⟩
  · cases hu
    obtain _ | ⟨⟨⟩⟩ := rR
    · exact .same hr
    · exact hf stR

variable (B) in
theorem cut_all (fuel : Nat) :
    (∀ past path n s st, B.Cut (walkAdv cfg fuel past path n s st) (walkAdv cfg fuel past path n s (B.free st))) ∧
    (∀ path n s l lp st,
      B.Cut (walkChildren cfg fuel path n s l lp st) (walkChildren cfg fuel path n s l lp (B.free st))) ∧
    (∀ past path n s ps v st,
      B.Cut (exploreChild cfg fuel past path n s ps v st) (exploreChild cfg fuel past path n s ps v (B.free st))) := by
  induction fuel with
  | zero =>
    refine ⟨?_, ?_, ?_⟩
    · intros; rw [walkAdv_zero, walkAdv_zero]; exact .stay .fuel
    · intros; rw [walkChildren_zero, walkChildren_zero]; exact .stay .fuel
    · intros; rw [exploreChild_zero, exploreChild_zero]; exact .stay .fuel
  | succ fuel ih =>
    obtain ⟨ihA, ihC, ihE⟩ := ih
    refine ⟨?_, ?_, ?_⟩
    · intro past path n s st
      rcases B.node st with h | ⟨hne, hc⟩
      · have hU := B.node_refused fuel past path n s st h
        rw [walkAdv_succ cfg fuel past path n s st, h]
        exact .inl ⟨rfl, hU⟩
      · rw [walkAdv_succ, walkAdv_succ, hc]
        cases hck : checkNode st with
        | error e => rw [hck] at hne; exact .same fun h => hne (by rw [Except.error.inj h])
        | ok st1 =>
          simp only [Except.map, B.free_visit]
          split
          · exact .same (by rcases B.err_budget with he | he <;> rw [he] <;> simp)
          · split
            · exact .stay .ok
            · exact ihC ..
    · intro path n s l lp st
      cases l with
      | nil => rw [walkChildren_nil, walkChildren_nil]; exact .stay .ok
      | cons x rest =>
        obtain ⟨ps, v⟩ := x
        rw [walkChildren_cons, walkChildren_cons]
        split
        · exact ihC ..
        · exact (ihE ..).andThen (fun _ => ihC ..) fun _ => (eventsExtend_all cfg fuel).2.1 ..
    · intro past path n s ps v st
      rw [exploreChild_succ, exploreChild_succ]
      split
      · exact .stay .panic
      · exact .stay .selector
      · exact .stay .ok
      · rename_i sNext _
        unfold enterChild
        split
        · rename_i c
          rcases B.link c st with ⟨h1, h2, h3, h4⟩ | ⟨hne, hc⟩
          · -- refused at this link: the free run logs the load and goes on
            generalize linkStep cfg c st = ls at h1 h2
            obtain ⟨st', r⟩ := ls
            dsimp only at h1 h2
            subst h1
            refine .inl ⟨rfl, ?_⟩
            generalize linkStep cfg c (B.free st) = lu at h3
            obtain ⟨stu, _ | _ | blk⟩ := lu <;> dsimp only at h3 ⊢
            · exact ⟨[.load c], by rw [h3, h2]; rfl, h4 [] _⟩
            · exact ⟨[.load c], by rw [h3, h2]; rfl, h4 [] _⟩
            · obtain ⟨more, hm⟩ := (eventsExtend_all cfg fuel).1 past (path ++ [ps]) blk sNext stu
              exact ⟨more ++ [.load c], by rw [hm, h3, h2, List.append_assoc]; rfl, h4 _ _⟩
          · rw [hc]
            generalize linkStep cfg c st = ls at hne
            obtain ⟨st', _ | _ | blk⟩ := ls
            · exact .same fun h => hne (by rw [Except.error.inj h])
            · exact .stay .ok
            · exact ihA ..
        · exact ihA ..

theorem Cut.chrono {R U : WR} (h : B.Cut R U) :
    (R.2 = .error B.err ∧ ∃ rest, U.1.events.reverse = R.1.events.reverse ++ rest ∧ B.Next rest.reverse U.2) ∨
    (R.2 ≠ .error B.err ∧ U = (B.free R.1, R.2)) := by
  rcases h with ⟨hr, extra, hx, hn⟩ | h
  · exact .inl ⟨hr, extra.reverse, by rw [hx, List.reverse_append], by rwa [List.reverse_reverse]⟩
  · exact .inr h

end Control
end Walk
end Ipld

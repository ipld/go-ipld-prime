/-
  Representation-level assemblers (Model/ReprAssembler.lean): the current object decides which handler answers a call
  (`stepPrim_dispatch`) and every answer is of one of five kinds (`Answer`); from these, what a refused call leaves
  behind, where an accepted call leaves the machine, and what no call changes.  `step` is `Mach.step` of `stepPrim`
  (`step_eq`): `AssignNode` and the mark come from Lemmas/CopyMachine.lean.
-/
import IpldModel.Model.ReprAssembler
import IpldModel.Lemmas.EraseHistory
import IpldModel.Lemmas.CopyMachine
namespace Ipld
namespace RAsm
open Ipld.Asm (Op Out ErrClass)
open Ipld.Schema (Ty Fields Members Field Member TL TLs TLKVs canonFields wrapPath)
open Ipld.TAsm (Phase Pos hasKey inInt64 Call)

theorem andThen_ok (s : St) (f : St → St × Out) : andThen (s, .ok) f = f s := rfl
theorem andThen_err (s : St) (c : ErrClass) (f : St → St × Out) : andThen (s, .err c) f = (s, .err c) := rfl
theorem andThen_panic (s : St) (f : St → St × Out) : andThen (s, .panic) f = (s, .panic) := rfl

theorem andThen_assoc (r : St × Out) (f g : St → St × Out) :
    andThen (andThen r f) g = andThen r (fun s => andThen (f s) g) := by
  obtain ⟨s, o⟩ := r
  cases o <;> rfl

theorem andThen_of_err {r : St × Out} (h : ∃ s' c, r = (s', .err c)) (f : St → St × Out) :
    ∃ s' c, andThen r f = (s', .err c) := by
  obtain ⟨s', c, rfl⟩ := h
  exact ⟨s', c, rfl⟩

/-- the frame whose key assembler is out, back where it was before `AssembleKey` -/
def Frame.endKey : Frame → Option Frame
  | .map vty vnul es .midKey w => some (.map vty vnul es .init w)
  | .struct fs es .midKey w => some (.struct fs es .init w)
  | .union ms cur .midKey w => some (.union ms cur .init w)
  | .dead .midKey => some (.dead .init)
  | _ => none

/-- an `AssembleKey` of the innermost map-like assembler is outstanding (its key assembler, or - `Frame.dead` - the error
    assembler handed out in its place, is the current object) -/
def inKey (s : St) : Bool :=
  match s.frames with
  | f :: _ => f.endKey.isSome
  | [] => false

/-- `s'` is `s` with its key assembler ended: the map / struct / union assembler is back where it was before
    `AssembleKey`. -/
def KeyReset (s s' : St) : Prop :=
  ∃ f f' rest, s.frames = f :: rest ∧ f.endKey = some f' ∧ s' = { s with frames := f' :: rest }

theorem endKey_endKey {f f' : Frame} (h : f.endKey = some f') : f'.endKey = none := by
  cases f with
  | list | tuple => cases h
  | map _ _ _ ph _ | struct _ _ ph _ | union _ _ ph _ | dead ph => cases ph <;> cases h <;> rfl

theorem KeyReset.inKey {s s' : St} (h : KeyReset s s') : inKey s = true := by
  obtain ⟨f, f', rest, hf, he, _⟩ := h
  simp [RAsm.inKey, hf, he]

theorem KeyReset.not_inKey {s s' : St} (h : KeyReset s s') : RAsm.inKey s' = false := by
  obtain ⟨f, f', rest, hf, he, rfl⟩ := h
  simp [RAsm.inKey, endKey_endKey he]

theorem KeyReset.unique {s s1 s2 : St} (h1 : KeyReset s s1) (h2 : KeyReset s s2) : s1 = s2 := by
  obtain ⟨f, f', rest, hf, he, rfl⟩ := h1
  obtain ⟨g, g', rest', hg, he', rfl⟩ := h2
  rw [hf] at hg
  cases hg
  rw [he] at he'
  cases he'
  rfl

theorem KeyReset.tainted {s s' : St} (h : KeyReset s s') : s'.tainted = s.tainted := by
  obtain ⟨_, _, _, _, _, rfl⟩ := h; rfl

theorem KeyReset.ty {s s' : St} (h : KeyReset s s') : s'.ty = s.ty := by
  obtain ⟨_, _, _, _, _, rfl⟩ := h; rfl

def SameHdr (s s' : St) : Prop := s'.ty = s.ty ∧ s'.tainted = s.tainted

theorem SameHdr.refl {s : St} : SameHdr s s := ⟨rfl, rfl⟩

theorem SameHdr.trans {a b c : St} (h1 : SameHdr a b) (h2 : SameHdr b c) : SameHdr a c :=
  ⟨h2.1.trans h1.1, h2.2.trans h1.2⟩

/-- The answers to a call other than `AssignNode` made in state `s`: misuse; a refusal that leaves the state as it was
    or ends the key assembler; acceptance, after which no key assembler is out - unless the call was `AssembleKey`, which
    hands one out.  The builder's type and the mark stay throughout. -/
inductive Answer (s : St) (op : Op) : St × Out → Prop
  | panic {s' : St} : SameHdr s s' → Answer s op (s', .panic)
  | refused (c : ErrClass) : Answer s op (s, .err c)
  | keyEnded {s' : St} (c : ErrClass) : KeyReset s s' → Answer s op (s', .err c)
  | ok {s' : St} : op ≠ .assembleKey → SameHdr s s' → inKey s' = false → Answer s op (s', .ok)
  | key {s' : St} : op = .assembleKey → KeyReset s' s → Answer s op (s', .ok)

theorem deliver_cases (s : St) (v : TL) :
    deliver s v = (s, .panic) ∨ ∃ s', deliver s v = (s', .ok) ∧ SameHdr s s' ∧ inKey s' = false := by
  unfold deliver
  repeat' split
  -- no value position: panic; a list / map / root position: rfl; a field's, tuple's or member's position: by the lookup
  all_goals first
    | exact Or.inl rfl
    | exact Or.inr ⟨_, rfl, ⟨rfl, rfl⟩, rfl⟩
    | exact Or.inr ⟨_, rfl, ⟨rfl, rfl⟩, by simp only [inKey, *]⟩

theorem Answer.of_deliver {s s0 : St} {op : Op} {v : TL} (hop : op ≠ .assembleKey) (h : SameHdr s s0) :
    Answer s op (deliver s0 v) := by
  rcases deliver_cases s0 v with hd | ⟨s', hd, hs, hk⟩
  · rw [hd]; exact .panic h
  · rw [hd]; exact .ok hop (h.trans hs) hk

theorem opensMap_endKey {ty : Ty} {nul : Bool} {f : Frame} (h : opensMap ty nul = .frame f) : f.endKey = none := by
  unfold opensMap at h
  split at h <;> cases h <;> rfl

theorem opensList_endKey {ty : Ty} {nul : Bool} {f : Frame} (h : opensList ty nul = .frame f) : f.endKey = none := by
  unfold opensList at h
  split at h <;> cases h <;> rfl

theorem valuePrim_answer (e : Engine) (s : St) (ty : Ty) (nul : Bool) (op : Op) :
    Answer s op (valuePrim e s ty nul op) := by
  cases op with
  | assign v =>
    simp only [valuePrim]
    repeat' split
    -- not a scalar: panic; out of int64 or refused by the builder: refused; built: delivered
    all_goals first
      | exact .panic SameHdr.refl
      | exact .refused _
      | exact .of_deliver nofun SameHdr.refl
  | beginMap n =>
    simp only [valuePrim]
    repeat' split
    all_goals first
      | exact .refused _
      | exact .ok nofun ⟨rfl, rfl⟩ rfl
      | (rename_i hf; exact .ok nofun ⟨rfl, rfl⟩ (congrArg Option.isSome (opensMap_endKey hf)))
  | beginList n =>
    simp only [valuePrim]
    split
    · rename_i hf; exact .ok nofun ⟨rfl, rfl⟩ (congrArg Option.isSome (opensList_endKey hf))
    · exact .refused _
  | _ => exact .panic SameHdr.refl

theorem errPrim_cases (s : St) (op : Op) : errPrim s op = (s, .err .other) ∨ errPrim s op = (s, .panic) := by
  cases op with
  | assign v =>
    simp only [errPrim]
    split
    · exact Or.inl rfl
    · exact Or.inr rfl
  | beginMap | beginList => exact Or.inl rfl
  | _ => exact Or.inr rfl

theorem errPrim_state (s : St) (op : Op) : (errPrim s op).1 = s := by
  rcases errPrim_cases s op with h | h <;> rw [h]

theorem errPrim_answer (s : St) (op : Op) : Answer s op (errPrim s op) := by
  rcases errPrim_cases s op with h | h <;> rw [h]
  · exact .refused _
  · exact .panic SameHdr.refl

theorem supplyKey_answer (e : Engine) (s : St) (k : Bytes) (v : DM) : Answer s (.assign v) (supplyKey e s k) := by
  unfold supplyKey
  repeat' split
  -- no key assembler out: panic; the key accepted: `ok`; refused: the key assembler ends (the frame by `s.frames = _`)
  all_goals first
    | exact .panic SameHdr.refl
    | exact .ok nofun ⟨rfl, rfl⟩ rfl
    | exact .keyEnded _ ⟨_, _, _, ‹s.frames = _›, rfl, rfl⟩

theorem keyPrim_answer (e : Engine) (s : St) (op : Op) : Answer s op (keyPrim e s op) := by
  unfold keyPrim
  split
  · exact supplyKey_answer e s _ _
  all_goals first | exact .panic SameHdr.refl | exact .refused _

/-- The current object answers: a value assembler for its type, a key assembler, an error assembler; the assembler
    of an open container itself (`pos s = .other`) moves its frame on, hands out its key assembler, or finishes. -/
theorem stepPrim_dispatch (e : Engine) (s : St) (op : Op) :
    match pos s with
    | .value ty nul => stepPrim e s op = valuePrim e s ty nul op
    | .key => stepPrim e s op = keyPrim e s op
    | .errAsm => stepPrim e s op = errPrim s op
    | .other => Answer s op (stepPrim e s op) := by
  obtain ⟨t, fr, r, tt⟩ := s
  cases fr with
  | nil =>
    -- the root builder: a value assembler until it holds its value
    cases r with
    | none => exact rfl
    | some _ => exact .panic ⟨rfl, rfl⟩
  | cons f rest =>
    cases f with
    | list ety enul xs mid w =>
      cases mid with
      | true => exact rfl
      | false =>
        simp only [pos, posOf, stepPrim]
        split
        · exact .ok nofun ⟨rfl, rfl⟩ rfl           -- AssembleValue
        · exact .of_deliver nofun ⟨rfl, rfl⟩        -- Finish
        · exact .panic ⟨rfl, rfl⟩
    | map vty vnul es ph w =>
      cases ph with
      | init =>
        simp only [pos, posOf, stepPrim]
        split
        · exact .key rfl ⟨_, _, _, rfl, rfl, rfl⟩    -- AssembleKey
        · split                                      -- AssembleEntry
          · exact .refused _
          · exact .ok nofun ⟨rfl, rfl⟩ rfl
        · exact .of_deliver nofun ⟨rfl, rfl⟩        -- Finish
        · exact .panic ⟨rfl, rfl⟩
      | midKey => exact rfl
      | expectValue k =>
        simp only [pos, posOf, stepPrim]
        split
        · exact .ok nofun ⟨rfl, rfl⟩ rfl           -- AssembleValue
        · exact .panic ⟨rfl, rfl⟩
      | midValue k => exact rfl
    | struct fs es ph w =>
      cases ph with
      | init =>
        simp only [pos, posOf, stepPrim]
        split
        · exact .key rfl ⟨_, _, _, rfl, rfl, rfl⟩
        · split <;> split                            -- AssembleEntry: the key addresses no field / a field
          · exact .refused _
          · exact .ok nofun ⟨rfl, rfl⟩ rfl
          · exact .refused _
          · exact .ok nofun ⟨rfl, rfl⟩ rfl
        · split                                      -- Finish
          · exact .of_deliver nofun ⟨rfl, rfl⟩
          · exact .refused _
        · exact .panic ⟨rfl, rfl⟩
      | midKey => exact rfl
      | expectValue k =>
        simp only [pos, posOf, stepPrim]
        split
        · exact .ok nofun ⟨rfl, rfl⟩ rfl
        · exact .panic ⟨rfl, rfl⟩
      | midValue k =>
        -- the value assembler of the field the key addresses, or an error assembler
        simp only [pos, posOf, stepPrim]
        cases fieldOfR fs k <;> rfl
    | tuple fs es mid w =>
      cases mid with
      | true =>
        simp only [pos, posOf, stepPrim]
        cases fs[es.length]? <;> rfl
      | false =>
        simp only [pos, posOf, stepPrim]
        split
        · exact .ok nofun ⟨rfl, rfl⟩ rfl
        · split
          · exact .of_deliver nofun ⟨rfl, rfl⟩
          · exact .refused _
        · exact .panic ⟨rfl, rfl⟩
    | union ms cur ph w =>
      cases ph with
      | init =>
        simp only [pos, posOf, stepPrim]
        split
        · exact .key rfl ⟨_, _, _, rfl, rfl, rfl⟩
        · split
          · exact .refused _
          · exact .ok nofun ⟨rfl, rfl⟩ rfl
        · split                                      -- Finish: the member is there, or not
          · exact .of_deliver nofun ⟨rfl, rfl⟩
          · exact .refused _
        · exact .panic ⟨rfl, rfl⟩
      | midKey => exact rfl
      | expectValue k =>
        simp only [pos, posOf, stepPrim]
        split
        · exact .ok nofun ⟨rfl, rfl⟩ rfl
        · exact .panic ⟨rfl, rfl⟩
      | midValue k =>
        simp only [pos, posOf, stepPrim]
        cases cur <;> cases memberOfR ms k <;> rfl
    | dead ph =>
      cases ph with
      | init =>
        simp only [pos, posOf, stepPrim]
        split
        · exact .key rfl ⟨_, _, _, rfl, rfl, rfl⟩
        · exact .refused _
        · exact .refused _
        · exact .panic ⟨rfl, rfl⟩
      | expectValue k => exact errPrim_answer _ op     -- no call leads here
      | _ => exact rfl

theorem stepPrim_at_value {e : Engine} {s : St} {ty : Ty} {nul : Bool} (hp : pos s = .value ty nul) (op : Op) :
    stepPrim e s op = valuePrim e s ty nul op := by
  simpa only [hp] using stepPrim_dispatch e s op

theorem stepPrim_at_key {e : Engine} {s : St} (hp : pos s = .key) (op : Op) :
    stepPrim e s op = keyPrim e s op := by
  simpa only [hp] using stepPrim_dispatch e s op

theorem stepPrim_at_errAsm {e : Engine} {s : St} (hp : pos s = .errAsm) (op : Op) :
    stepPrim e s op = errPrim s op := by
  simpa only [hp] using stepPrim_dispatch e s op

theorem stepPrim_answer (e : Engine) (s : St) (op : Op) : Answer s op (stepPrim e s op) := by
  have h := stepPrim_dispatch e s op
  split at h
  · rw [h]; exact valuePrim_answer ..
  · rw [h]; exact keyPrim_answer ..
  · rw [h]; exact errPrim_answer ..
  · exact h

theorem stepPrim_err {e : Engine} {s s' : St} {op : Op} {c : ErrClass}
    (h : stepPrim e s op = (s', .err c)) : s' = s ∨ KeyReset s s' := by
  cases h ▸ stepPrim_answer e s op with
  | refused => exact Or.inl rfl
  | keyEnded _ hk => exact Or.inr hk

theorem stepPrim_assembleKey_ok {e : Engine} {s s' : St} (h : stepPrim e s .assembleKey = (s', .ok)) :
    KeyReset s' s := by
  cases h ▸ stepPrim_answer e s .assembleKey with
  | ok hop => exact absurd rfl hop
  | key _ hk => exact hk

theorem stepPrim_ok_not_inKey {e : Engine} {s s' : St} {op : Op} (h : stepPrim e s op = (s', .ok))
    (hop : op ≠ .assembleKey) : inKey s' = false := by
  cases h ▸ stepPrim_answer e s op with
  | ok _ _ hk => exact hk
  | key hop' => exact absurd hop' hop

theorem stepPrim_hdr (e : Engine) (s : St) (op : Op) : SameHdr s (stepPrim e s op).1 := by
  have h := stepPrim_answer e s op
  generalize stepPrim e s op = r at h
  cases h with
  | panic hs => exact hs
  | refused => exact SameHdr.refl
  | keyEnded _ hk => exact ⟨hk.ty, hk.tainted⟩
  | ok _ hs => exact hs
  | key _ hk => exact ⟨hk.ty.symm, hk.tainted.symm⟩

@[reducible] def mach (e : Engine) : Mach St :=
  ⟨stepPrim e, (·.tainted), fun s => { s with tainted := true }, e.anPartial⟩

theorem andThen_eq (r : St × Out) (f : St → St × Out) : andThen r f = Mach.andThen r f := by
  obtain ⟨s, o⟩ := r
  cases o <;> rfl

mutual
theorem putNode_eq (e : Engine) : (v : DM) → (s : St) → putNode e s v = (mach e).putNode s v
  | .list xs => fun s => by simp only [putNode, Mach.putNode, andThen_eq, putList_eq e xs]
  | .map es => fun s => by simp only [putNode, Mach.putNode, andThen_eq, putKVs_eq e es]
  | .null | .bool _ | .int _ | .float _ | .str _ | .bytes _ | .link _ => fun s => rfl
theorem putList_eq (e : Engine) : (xs : DMs) → (s : St) → putList e s xs = (mach e).putList s xs
  | .nil => fun s => rfl
  | .cons x xs => fun s => by simp only [putList, Mach.putList, andThen_eq, putNode_eq e x, putList_eq e xs]
theorem putKVs_eq (e : Engine) : (es : DMKVs) → (s : St) → putKVs e s es = (mach e).putKVs s es
  | .nil => fun s => rfl
  | .cons k v es => fun s => by simp only [putKVs, Mach.putKVs, andThen_eq, putNode_eq e v, putKVs_eq e es]
end

theorem step_eq (e : Engine) : step e = (mach e).step := by
  funext s op
  unfold step Mach.step stepU Mach.stepU
  cases op with
  | assignNode v =>
    simp only [putNode_eq]
    rcases (mach e).putNode s v with ⟨s', _ | _ | _⟩ <;> rfl
  | _ => rfl

theorem pos_key_inKey {s : St} (hp : pos s = .key) : inKey s = true := by
  unfold pos posOf at hp
  split at hp
  -- `posOf` answers `.key` in three rows: the key assembler of a map, of a struct, of a union (third alternative);
  -- every other row answers something else, at once or after the match on the field (first and second alternative)
  all_goals first
    | (cases hp; done)
    | (split at hp <;> cases hp)
    | (simp only [inKey, *]; rfl)

theorem pos_value_spec {s : St} {ty : Ty} {nul : Bool} (hp : pos s = .value ty nul) :
    inKey s = false ∧ ∀ v, (deliver s v).2 = .ok := by
  unfold pos posOf at hp
  split at hp
  all_goals first | (cases hp; done) | skip
  all_goals try split at hp
  all_goals first | (cases hp; done) | skip
  -- left are the six rows of `posOf` that answer `.value`: the root without its value, the slot of a list element, of
  -- a map value, of a struct field, of a tuple field, of a union member; `deliver` has a row for each
  all_goals exact ⟨by simp [inKey, Frame.endKey, *], fun v => by simp_all [deliver]⟩

theorem step_of_not_tainted {e : Engine} {s : St} (ht : s.tainted = false) (op : Op) :
    step e s op = stepU e s op := by
  unfold step
  simp [ht]

theorem step_prim {e : Engine} {s : St} (ht : s.tainted = false) {op : Op} {r : St × Out} (h : stepPrim e s op = r)
    (hop : ∀ v, op ≠ .assignNode v) : step e s op = r := by
  rw [step_eq]
  exact Mach.step_prim ht h hop

theorem keyed (e : Engine) : (mach e).Keyed inKey KeyReset fun _ => True where
  err h := (stepPrim_err h).imp_right fun hk => ⟨hk, trivial⟩
  ok := stepPrim_ok_not_inKey
  key := stepPrim_assembleKey_ok
  ended h := ⟨h.inKey, h.not_inKey⟩
  unique := KeyReset.unique
  marked _ := rfl

theorem step_err {e : Engine} {s s' : St} {op : Op} {c : ErrClass} (h : step e s op = (s', .err c)) :
    s' = s ∨ KeyReset s s' ∨
    (e.anPartial = true ∧ s' = { s with tainted := true } ∧ ∃ v, op = .assignNode v ∧ TAsm.isRec v = true) :=
  ((keyed e).step_err (step_eq e ▸ h)).imp_right (Or.imp_left And.left)

def Runs (e : Engine) (s : St) (ops : List Op) (s' : St) : Prop :=
  run e s ops = (s', List.replicate ops.length .ok)

theorem run_eq_hist (e : Engine) : run e = Hist.run (step e) := by
  funext s h
  induction h generalizing s with
  | nil => rfl
  | cons op ops ih =>
    simp only [run, Hist.run, ih]
    rcases step e s op with ⟨s', _ | _ | _⟩ <;> rfl

theorem runs_iff_mach {e : Engine} {s s' : St} {ops : List Op} : Runs e s ops s' ↔ Hist.Runs (mach e).step s ops s' := by
  unfold Runs Hist.Runs
  rw [run_eq_hist, step_eq]

theorem Runs.single {e : Engine} {s s1 : St} {op : Op} (h1 : step e s op = (s1, .ok)) : Runs e s [op] s1 :=
  runs_iff_mach.2 (Hist.Runs.cons (step_eq e ▸ h1) rfl)

theorem Runs.append {e : Engine} {s s1 s' : St} {a b : List Op} (h1 : Runs e s a s1) (h2 : Runs e s1 b s') :
    Runs e s (a ++ b) s' :=
  runs_iff_mach.2 (Hist.Runs.append (runs_iff_mach.1 h1) (runs_iff_mach.1 h2))

theorem step_hdr (e : Engine) (s : St) (op : Op) :
    (step e s op).1.ty = s.ty ∧ ((step e s op).1.tainted = s.tainted ∨ e.anPartial = true) := by
  rw [step_eq]
  exact ⟨Mach.step_state (mach e) (P := fun x => x.ty = s.ty) (fun s1 op h => (stepPrim_hdr e s1 op).1.trans h)
      (fun _ h => h) s op rfl,
    Mach.step_tainted (mach e) (fun s1 op => (stepPrim_hdr e s1 op).2) s op⟩

theorem run_ty (e : Engine) (s : St) (h : List Op) : (run e s h).1.ty = s.ty :=
  run_eq_hist e ▸ Hist.run_state (P := fun s' => s'.ty = s.ty) (fun s1 op h1 => (step_hdr e s1 op).1.trans h1) h s rfl

theorem run_not_tainted {e : Engine} (he : e.anPartial = false) (s : St) (h : List Op) :
    (run e s h).1.tainted = s.tainted :=
  run_eq_hist e ▸ Hist.run_state (P := fun s' => s'.tainted = s.tainted)
    (fun s1 op h1 => ((step_hdr e s1 op).2.resolve_right (by rw [he]; nofun)).trans h1) h s rfl

end RAsm
end Ipld

/-
  The pieces the item decoder threads, restated from the body of `decItem` (`readHead`, `decColl`) or taken from the
  model (`charge`/`finish`, `decKey`, the two loops with their induction principles).  `decItem_zero` here and
  `decItem_eq` in `CborTok` are the two equations that tie the restated pieces to `decItem`; nothing else unfolds it.
-/
import IpldModel.Lemmas.CborDecHead
namespace Ipld
namespace Cbor
open Spec

theorem charge_ok {r : Bytes} {B e : Int} (h : e ≤ B) : charge ⟨r, B⟩ e = .ok ⟨r, B - e⟩ := by
  have : ¬ (B - e < 0) := by omega
  simp [charge, this]

theorem charge_err {r : Bytes} {B e : Int} (h : B < e) : charge ⟨r, B⟩ e = .error .budget := by
  have : B - e < 0 := by omega
  simp [charge, this]

theorem charge_eq_ok {s s' : DS} {e : Int} (h : charge s e = .ok s') :
    e ≤ s.budget ∧ s' = ⟨s.rest, s.budget - e⟩ := by
  unfold charge at h
  simp only at h
  split at h
  · cases h
  · injection h with h; subst h; constructor
    · omega
    · rfl

theorem finish_ok {extra c : Int} {v : DM} {r : Bytes} {B : Int} (hc : 0 ≤ c)
    (h : extra + c ≤ B) : finish none extra c v ⟨r, B⟩ = .ok (v, ⟨r, B - extra - c⟩) := by
  unfold finish
  rw [charge_ok (by omega)]
  simp only [bind, Except.bind]
  rw [charge_ok (by omega)]
  rfl

theorem finish_tag (t : Nat) (extra c : Int) (v : DM) (r : Bytes) (B : Int) (h : extra ≤ B) :
    finish (some t) extra c v ⟨r, B⟩ = .error .badTag := by
  unfold finish
  rw [charge_ok h]
  rfl

theorem finish_eq_ok {tag : Option Nat} {extra c : Int} {v v' : DM} {s s' : DS}
    (h : finish tag extra c v s = .ok (v', s')) :
    tag = none ∧ v' = v ∧ s'.rest = s.rest ∧ 0 ≤ s'.budget ∧ s.budget - s'.budget = extra + c := by
  unfold finish at h
  obtain ⟨s1, h1, h2⟩ := bind_ok h
  obtain ⟨_, rfl⟩ := charge_eq_ok h1
  cases tag with
  | some t => cases h2
  | none =>
    obtain ⟨s2, h3, h4⟩ := bind_ok h2
    obtain ⟨hle, rfl⟩ := charge_eq_ok h3
    injection h4 with h4; injection h4 with ha hb; subst ha hb
    simp only [] at hle
    refine ⟨rfl, rfl, rfl, ?_, ?_⟩ <;> simp only [] <;> omega

/-- The head's argument: a uint64 for the integers, a Go `int` for lengths and tags. -/
def readHead (strict : Bool) (m info : Nat) (bs : Bytes) : R (Nat × Bytes) :=
  if m < 2 then readArg strict info bs else readLen strict info bs

/-- What a list and a map of `n` entries have in common: the entry charge, the tag gate, the depth
    gate, one unit per declared entry; then `k` reads the entries. -/
def decColl (cfg : DecCfg) (depth : Nat) (extra : Int) (tag : Option Nat) (n : Nat) (r : Bytes) (B : Int)
    (k : DS → R (DM × DS)) : R (DM × DS) := do
  let s0 ← charge ⟨r, B⟩ extra
  match tag with
  | some _ => .error .badTag
  | none =>
    if depth ≥ cfg.maxDepth then .error .depth else
    let s1 ← charge s0 n
    k s1

theorem le_six {m : Nat} (h : m ≤ 6) : m = 0 ∨ m = 1 ∨ m = 2 ∨ m = 3 ∨ m = 4 ∨ m = 5 ∨ m = 6 := by omega

theorem head_byte (m n : Nat) (hm : m < 8) :
    (UInt8.ofNat (32 * m + headInfo n)).toNat / 32 = m ∧ (UInt8.ofNat (32 * m + headInfo n)).toNat % 32 = headInfo n := by
  have := headInfo_le n
  rw [UInt8.toNat_ofNat']; omega

theorem readHead_headArg (strict : Bool) (m n : Nat) (hn : n < 2 ^ 64) (hl : 2 ≤ m → n < 2 ^ 63) (r : Bytes) :
    readHead strict m (headInfo n) (headArg n ++ r) = .ok (n, r) := by
  unfold readHead
  split
  · exact readArg_headArg strict n hn r
  · exact readLen_headArg strict n (hl (by omega)) r

theorem readHead_ok {strict : Bool} {m info n : Nat} {bs r : Bytes} (h : readHead strict m info bs = .ok (n, r)) :
    ∃ a, bs = a ++ r ∧ n < 2 ^ 64 ∧ (2 ≤ m → n < 2 ^ 63) ∧ (strict = true → info = headInfo n ∧ a = headArg n) := by
  unfold readHead at h
  split at h
  · obtain ⟨a, e, hn, hs⟩ := readArg_ok h
    exact ⟨a, e, hn, fun _ => by omega, hs⟩
  · obtain ⟨a, e, hn, hs⟩ := readLen_ok h
    exact ⟨a, e, by omega, fun _ => hn, hs⟩

theorem head_recon (b0 : UInt8) (n : Nat) (hi : b0.toNat % 32 = headInfo n) :
    b0 :: headArg n = shortestHead (b0.toNat / 32) n := by
  rw [shortestHead_eq]
  congr 1
  have : 32 * (b0.toNat / 32) + headInfo n = b0.toNat := by omega
  rw [this, UInt8.ofNat_toNat]

section coll
variable {cfg : DecCfg} {fuel depth : Nat} {extra : Int} {tag : Option Nat} {n : Nat} {r : Bytes} {B : Int}

theorem decItem_zero (s : DS) : decItem cfg 0 depth extra tag s = .error .eof := by
  simp [decItem]

theorem decColl_eq {k : DS → R (DM × DS)} (hd : depth < cfg.maxDepth) (he : extra ≤ B) (hn : (n : Int) ≤ B - extra) :
    decColl cfg depth extra none n r B k = k ⟨r, B - extra - n⟩ := by
  unfold decColl
  rw [charge_ok he]
  simp only [bind, Except.bind]
  rw [if_neg (by omega), charge_ok hn]

theorem decColl_tag {k : DS → R (DM × DS)} (t : Nat) (he : extra ≤ B) :
    decColl cfg depth extra (some t) n r B k = .error .badTag := by
  unfold decColl
  rw [charge_ok he]
  rfl

theorem decColl_budget {k : DS → R (DM × DS)} (hd : depth < cfg.maxDepth) (hB : B - extra < n) :
    decColl cfg depth extra none n r B k = .error .budget := by
  unfold decColl
  by_cases he : extra ≤ B
  · rw [charge_ok he]
    simp only [bind, Except.bind]
    rw [if_neg (by omega), charge_err hB]
  · rw [charge_err (by omega)]
    rfl

theorem decColl_ok {k : DS → R (DM × DS)} {x : DM × DS} (h : decColl cfg depth extra tag n r B k = .ok x) :
    tag = none ∧ depth < cfg.maxDepth ∧ (n : Int) ≤ B - extra ∧ k ⟨r, B - extra - n⟩ = .ok x := by
  unfold decColl at h
  obtain ⟨s0, h3, h4⟩ := bind_ok h
  obtain ⟨_, rfl⟩ := charge_eq_ok h3
  cases tag with
  | some t => cases h4
  | none =>
    simp only [] at h4
    split at h4
    · cases h4
    · obtain ⟨s1, h5, h6⟩ := bind_ok h4
      obtain ⟨hle, rfl⟩ := charge_eq_ok h5
      exact ⟨rfl, by omega, hle, h6⟩

end coll

theorem decKey_complete (cfg : DecCfg) (k : Bytes) {r : Bytes} {B : Int} (hk : k.length ≤ 33554432) :
    decKey cfg ⟨(shortestHead 3 k.length ++ k) ++ r, B⟩ = .ok (k, ⟨r, B⟩) := by
  have hi := headInfo_le k.length
  obtain ⟨hd, hmod⟩ := head_byte 3 k.length (by omega)
  rw [shortestHead_eq, List.cons_append, List.cons_append]
  unfold decKey
  simp only []
  rw [if_neg (by omega), if_pos hd, hmod, List.append_assoc,
    readLen_headArg _ _ (by omega)]
  simp only [bind, Except.bind]
  rw [if_neg (by omega), take?_append]
  rfl

/-- `0x7f`, the fourth indefinite-length marker, has major type 3: `hb3` excludes it. -/
theorem decKey_bad (cfg : DecCfg) (b : UInt8) (rest : Bytes) (B : Int) (hb3 : b.toNat / 32 ≠ 3)
    (hind : ¬ (b.toNat = 0x5f ∨ b.toNat = 0x9f ∨ b.toNat = 0xbf)) :
    decKey cfg ⟨b :: rest, B⟩ = .error .badKey := by
  unfold decKey
  simp only []
  rw [if_neg (by omega), if_neg hb3]

theorem decKey_ok {cfg : DecCfg} {s s' : DS} {k : Bytes} (h : decKey cfg s = .ok (k, s')) :
    s'.budget = s.budget ∧ ∃ hd, s.rest = hd ++ k ++ s'.rest ∧ 1 ≤ hd.length ∧
      (cfg.relaxed = false → hd = shortestHead 3 k.length) := by
  obtain ⟨rest0, B⟩ := s
  cases rest0 with
  | nil => cases h
  | cons b0 rest =>
    unfold decKey at h
    dsimp only at h
    by_cases hi : b0.toNat = 0x7f ∨ b0.toNat = 0x5f ∨ b0.toNat = 0x9f ∨ b0.toNat = 0xbf
    · rw [if_pos hi] at h; cases h
    by_cases hm : b0.toNat / 32 = 3
    · rw [if_neg hi, if_pos hm] at h
      obtain ⟨⟨n, r⟩, h1, h2⟩ := bind_ok h
      obtain ⟨a, rfl, _, hs⟩ := readLen_ok h1
      dsimp only at h2
      by_cases hn : n > 33554432
      · rw [if_pos hn] at h2; cases h2
      · rw [if_neg hn] at h2
        obtain ⟨⟨p, r'⟩, h3, h4⟩ := bind_ok h2
        obtain ⟨rfl, hl⟩ := take?_ok h3
        injection h4 with h4; injection h4 with ha hb; subst ha hb
        refine ⟨rfl, b0 :: a, by simp only [List.cons_append, List.append_assoc], by simp, ?_⟩
        intro hr
        obtain ⟨hi, rfl⟩ := hs (by rw [hr]; rfl)
        rw [head_recon b0 n hi, hm, hl]
    · rw [if_neg hi, if_neg hm] at h; cases h

theorem decKey_len {cfg : DecCfg} {s s' : DS} {k : Bytes} (h : decKey cfg s = .ok (k, s')) :
    s'.rest.length + k.length < s.rest.length ∧ s'.budget = s.budget := by
  obtain ⟨hb, hd, e, hl, _⟩ := decKey_ok h
  rw [e]
  simp only [List.length_append]
  exact ⟨by omega, hb⟩

theorem decList_ind {item : DS → R (DM × DS)} {P : DS → List DM → DS → Prop} (h0 : ∀ s, P s [] s)
    (hstep : ∀ {s x s1 xs s2}, item s = .ok (x, s1) → P s1 xs s2 → P s (x :: xs) s2) :
    ∀ {n : Nat} {s : DS} {xs : List DM} {s' : DS}, decList item n s = .ok (xs, s') → xs.length = n ∧ P s xs s'
  | 0, s, xs, s', h => by
    injection h with h; injection h with ha hb; subst ha hb
    exact ⟨rfl, h0 s⟩
  | n + 1, s, xs, s', h => by
    simp only [decList] at h
    obtain ⟨⟨x, s1⟩, h1, h2⟩ := bind_ok h
    obtain ⟨⟨xs', s2⟩, h3, h4⟩ := bind_ok h2
    injection h4 with h4; injection h4 with ha hb; subst ha hb
    obtain ⟨hl, hp⟩ := decList_ind h0 hstep h3
    exact ⟨congrArg (· + 1) hl, hstep h1 hp⟩

theorem decMap_ind {cfg : DecCfg} {item : DS → R (DM × DS)} {P : List Bytes → DS → List (Bytes × DM) → DS → Prop}
    (h0 : ∀ seen s, P seen s [] s)
    (hstep : ∀ {seen s k s1 v s3 es s4}, decKey cfg s = .ok (k, s1) → seen.contains k = false →
      item ⟨s1.rest, s1.budget - (k.length + 8)⟩ = .ok (v, s3) → P (k :: seen) s3 es s4 → P seen s ((k, v) :: es) s4) :
    ∀ {n : Nat} {seen : List Bytes} {s : DS} {es : List (Bytes × DM)} {s' : DS},
      decMap cfg item n seen s = .ok (es, s') → es.length = n ∧ P seen s es s'
  | 0, seen, s, es, s', h => by
    injection h with h; injection h with ha hb; subst ha hb
    exact ⟨rfl, h0 seen s⟩
  | n + 1, seen, s, es, s', h => by
    simp only [decMap] at h
    obtain ⟨⟨k, s1⟩, h1, h2⟩ := bind_ok h
    obtain ⟨s2, h3, h4⟩ := bind_ok h2
    obtain ⟨_, rfl⟩ := charge_eq_ok h3
    by_cases hseen : seen.contains k = true
    · rw [if_pos hseen] at h4; cases h4
    · rw [if_neg hseen] at h4
      obtain ⟨⟨v, s3⟩, h5, h6⟩ := bind_ok h4
      obtain ⟨⟨es', s4⟩, h7, h8⟩ := bind_ok h6
      injection h8 with h8; injection h8 with ha hb; subst ha hb
      obtain ⟨hl, hp⟩ := decMap_ind h0 hstep h7
      exact ⟨congrArg (· + 1) hl, hstep h1 (Bool.not_eq_true _ ▸ hseen) h5 hp⟩

theorem decMap_step {cfg : DecCfg} {item : DS → R (DM × DS)} {n : Nat} {seen : List Bytes} {s s1 s3 : DS}
    {k : Bytes} {v : DM} (hk : decKey cfg s = .ok (k, s1)) (hc : (k.length : Int) + 8 ≤ s1.budget)
    (hs : seen.contains k = false) (hi : item ⟨s1.rest, s1.budget - (k.length + 8)⟩ = .ok (v, s3)) :
    decMap cfg item (n + 1) seen s =
      decMap cfg item n (k :: seen) s3 >>= fun p => pure ((k, v) :: p.1, p.2) := by
  simp only [decMap, hk, bind, Except.bind]
  rw [charge_ok hc]
  simp only [hs, Bool.false_eq_true, if_false, hi]

theorem decMap_dup {cfg : DecCfg} {item : DS → R (DM × DS)} {n : Nat} {seen : List Bytes} {s s1 : DS} {k : Bytes}
    (hk : decKey cfg s = .ok (k, s1)) (hc : (k.length : Int) + 8 ≤ s1.budget) (hs : seen.contains k = true) :
    decMap cfg item (n + 1) seen s = .error .dupKey := by
  simp only [decMap, hk, bind, Except.bind]
  rw [charge_ok hc]
  simp only [hs, if_true]

/-- A relation between the outcomes of two runs that running on preserves: an outcome is related to itself, and
    related steps, followed by steps related on every value the second can hand on, are related.  Equality (two
    amounts of fuel) and `Dev` (with and without the wrap-around of negative integers) are the instances. -/
structure Congr (Rel : ∀ {α : Type}, R α → R α → Prop) : Prop where
  refl : ∀ {α : Type} (a : R α), Rel a a
  bind : ∀ {α β : Type} {x' x : R α} {f' f : α → R β}, Rel x' x → (∀ a, x = .ok a → Rel (f' a) (f a)) →
    Rel (x' >>= f') (x >>= f)

theorem Congr.eq : Congr Eq := ⟨fun _ => rfl, fun h hf => by subst h; exact bind_congr_ok hf⟩

theorem decKey_cfg_eq {cfg' cfg : DecCfg} (hr : cfg'.relaxed = cfg.relaxed) (s : DS) : decKey cfg' s = decKey cfg s := by
  unfold decKey
  rw [hr]

section collRel
variable {Rel : ∀ {α : Type}, R α → R α → Prop} (hR : Congr Rel)
include hR

theorem decColl_rel {cfg' cfg : DecCfg} {depth : Nat} {extra : Int} {tag : Option Nat} {n : Nat} {r : Bytes} {B : Int}
    (hd : cfg'.maxDepth = cfg.maxDepth) {k' k : DS → R (DM × DS)}
    (h : ∀ b, Rel (k' ⟨r, b⟩) (k ⟨r, b⟩)) :
    Rel (decColl cfg' depth extra tag n r B k') (decColl cfg depth extra tag n r B k) := by
  unfold decColl
  rw [hd]
  refine hR.bind (hR.refl _) fun s0 hc => ?_
  obtain ⟨_, rfl⟩ := charge_eq_ok hc
  cases tag with
  | some t => exact hR.refl _
  | none =>
    dsimp only
    split
    · exact hR.refl _
    · refine hR.bind (hR.refl _) fun s1 hc1 => ?_
      obtain ⟨_, rfl⟩ := charge_eq_ok hc1
      exact h _

end collRel

section loopRel
variable {Rel : ∀ {α : Type}, R α → R α → Prop} (hR : Congr Rel) {item' item : DS → R (DM × DS)} (L : Nat)
  (hagree : ∀ s, s.rest.length ≤ L → Rel (item' s) (item s))
  (hdec : ∀ ⦃s v s'⦄, item s = .ok (v, s') → s'.rest.length < s.rest.length)
include hR hagree hdec

theorem decList_rel : ∀ (n : Nat) (s : DS), s.rest.length ≤ L → Rel (decList item' n s) (decList item n s)
  | 0, s, _ => hR.refl _
  | n + 1, s, hs => by
    simp only [decList]
    refine hR.bind (hagree s hs) fun ⟨x, s1⟩ hi => hR.bind ?_ fun _ _ => hR.refl _
    exact decList_rel n s1 (Nat.le_trans (Nat.le_of_lt (hdec hi)) hs)

theorem decMap_rel {cfg' cfg : DecCfg} (hr : cfg'.relaxed = cfg.relaxed) :
    ∀ (n : Nat) (seen : List Bytes) (s : DS), s.rest.length ≤ L →
      Rel (decMap cfg' item' n seen s) (decMap cfg item n seen s)
  | 0, _, s, _ => hR.refl _
  | n + 1, seen, s, hs => by
    simp only [decMap, decKey_cfg_eq hr]
    refine hR.bind (hR.refl _) fun ⟨k, s1⟩ hk => hR.bind (hR.refl _) fun s2 hc => ?_
    obtain ⟨_, rfl⟩ := charge_eq_ok hc
    have h1 : s1.rest.length ≤ L :=
      Nat.le_trans (Nat.le_of_lt (Nat.lt_of_le_of_lt (Nat.le_add_right _ _) (decKey_len hk).1)) hs
    dsimp only
    split
    · exact hR.refl _
    · refine hR.bind (hagree _ h1) fun ⟨v, s3⟩ hi => hR.bind ?_ fun _ _ => hR.refl _
      exact decMap_rel hr n (k :: seen) s3 (Nat.le_trans (Nat.le_of_lt (hdec hi)) h1)

end loopRel

theorem decode_eq_ok {cfg : DecCfg} {bs : Bytes} {v : DM} :
    decode cfg bs = .ok v ↔ ∃ s', decItem cfg (bs.length + 1) 0 0 none ⟨bs, cfg.budget⟩ = .ok (v, s') ∧
      (cfg.dontParseBeyondEnd = false → s'.rest = []) := by
  unfold decode
  cases decItem cfg (bs.length + 1) 0 0 none ⟨bs, cfg.budget⟩ with
  | error e => exact ⟨nofun, fun ⟨_, h, _⟩ => nomatch h⟩
  | ok p =>
    obtain ⟨v', r, B⟩ := p
    cases hp : cfg.dontParseBeyondEnd <;> cases r <;> simp [bind, Except.bind, pure, Except.pure]
    exact ⟨fun h => ⟨_, ⟨h, rfl⟩, rfl⟩, fun ⟨_, h, _⟩ => h.1⟩

end Cbor
end Ipld

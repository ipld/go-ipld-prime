/-
  Representation-level assemblers: the invariant of the machine.  Every value it holds is `RGood` for the position it
  was delivered to, the keys of a frame are distinct, and every frame was begun at a position of its own type.
-/
import IpldModel.Lemmas.ReprAssemblerGood
namespace Ipld
namespace RAsm
open Ipld.Asm (Op Out ErrClass)
open Ipld.Schema (Ty Fields Members Field Member TL TLs TLKVs canonFields wrapPath conforms shapeOK)
open Ipld.TAsm (Phase Pos hasKey inInt64 Call PendFresh hasKey_iff hasKey_false_iff)

/-- a pending representation key does not address a field that has its value -/
def PendFreshR (fs : List Field) (es : List (Bytes × TL)) : Phase → Prop
  | .expectValue k => ∀ f, fieldOfR fs k = some f → hasKey es f.name = false
  | .midValue k => ∀ f, fieldOfR fs k = some f → hasKey es f.name = false
  | _ => True

def FrameOK : Frame → Prop
  | .list ety enul xs _ _ => ety.wf = true ∧ ∀ x ∈ xs, RGood ety enul x
  | .map vty vnul es ph _ =>
    vty.wf = true ∧ (es.map (·.1)).Nodup ∧ (∀ p ∈ es, RGood vty vnul p.2) ∧ PendFresh es ph
  | .struct fs es ph _ =>
    (∀ f ∈ fs, f.ty.wf = true) ∧ (fs.map (·.name)).Nodup ∧ EntriesOK fs es ∧ PendFreshR fs es ph
  | .tuple fs es _ _ =>
    (∀ f ∈ fs, f.ty.wf = true) ∧ (fs.map (·.name)).Nodup ∧ EntriesOK fs es ∧
    es.map (·.1) = (fs.take es.length).map (·.name)
  | .union ms cur _ _ =>
    (∀ m ∈ ms, m.ty.wf = true) ∧ (ms.map (·.name)).Nodup ∧
    ∀ n v, cur = some (n, v) → ∃ m ∈ ms, m.name = n ∧ RGood m.ty false v
  | .dead _ => True

/-- the frame is what `BeginMap` / `BeginList` opens at a position of type `ty` (through the kinded unions of `wrap`) -/
def FrameFor : Frame → Ty → Bool → Prop
  | .list ety enul _ _ w, ty, nul =>
    Schema.resolveKinded Schema.Engine.ideal nul .list ty = .ok (.list ety enul, w)
  | .map vty vnul _ _ w, ty, nul =>
    Schema.resolveKinded Schema.Engine.ideal nul .map ty = .ok (.map vty vnul, w)
  | .struct fs _ _ w, ty, nul =>
    ∃ F, Schema.resolveKinded Schema.Engine.ideal nul .map ty = .ok (.struct F .map, w) ∧ fs = F.toList
  | .tuple fs _ _ w, ty, nul =>
    ∃ F, Schema.resolveKinded Schema.Engine.ideal nul .list ty = .ok (.struct F .tuple, w) ∧ fs = F.toList
  | .union ms _ _ w, ty, nul =>
    ∃ M, Schema.resolveKinded Schema.Engine.ideal nul .map ty = .ok (.union M .keyed, w) ∧ ms = M.toList
  | .dead _, _, _ => True

/-- every frame was begun at a value position of its own type -/
def Chain (t : Ty) (r : Option TL) : List Frame → Prop
  | [] => True
  | f :: rest => (∃ ty nul, posOf t r rest = .value ty nul ∧ FrameFor f ty nul) ∧ Chain t r rest

structure Inv (s : St) : Prop where
  wf : s.ty.wf = true
  frames : ∀ f ∈ s.frames, FrameOK f
  chain : Chain s.ty s.root s.frames
  root : ∀ v, s.root = some v → RGood s.ty false v

theorem init_inv {ty : Ty} (h : ty.wf = true) : Inv (init ty) :=
  ⟨h, (by intro f hf; cases hf), trivial, (by intro v hv; cases hv)⟩

theorem Inv.pos_wf {s : St} (h : Inv s) {ty : Ty} {nul : Bool} (hp : pos s = .value ty nul) : ty.wf = true := by
  have hfr := h.frames
  unfold pos posOf at hp
  split at hp
  all_goals first | (cases hp; done) | skip
  all_goals try split at hp
  all_goals first | (cases hp; done) | skip
  all_goals (simp only [Pos.value.injEq] at hp; obtain ⟨rfl, -⟩ := hp)
  -- the six rows of `posOf` that answer `.value`.  The root: its type is the builder's
  · exact h.wf
  -- a frame on top: `FrameOK` says that the types it hands out are well formed - the entry type of a list or map, the
  -- types of the fields of a struct (found by `find?`) or tuple (by index), of the members of a union
  all_goals have hok := hfr _ (by rw [‹s.frames = _›]; exact List.mem_cons_self ..)
  all_goals first
    | exact hok.1
    | exact hok.1 _ (List.mem_of_find?_eq_some ‹_›)
    | exact hok.1 _ (List.mem_of_getElem? ‹_›)

theorem Inv.parent {t : Ty} {f : Frame} {rest : List Frame} {r : Option TL} {tt : Bool}
    (h : Inv ⟨t, f :: rest, r, tt⟩) :
    ∃ ty nul, pos ⟨t, rest, r, tt⟩ = .value ty nul ∧ FrameFor f ty nul := h.chain.1

section
variable {t : Ty} {f : Frame} {rest : List Frame} {r : Option TL} {tt : Bool}

theorem Inv.pop (h : Inv ⟨t, f :: rest, r, tt⟩) : Inv ⟨t, rest, r, tt⟩ :=
  ⟨h.wf, fun g hg => h.frames g (by simp [hg]), h.chain.2, h.root⟩

theorem Inv.top (h : Inv ⟨t, f :: rest, r, tt⟩) : FrameOK f := h.frames f (by simp)

/-- the innermost frame is replaced by one of the same container (same type, same `wrap`: `FrameFor` reads nothing else;
    where the new frame differs from the old in entries or phase only, the third argument is found by itself) -/
theorem Inv.replaceTop {g : Frame} (h : Inv ⟨t, f :: rest, r, tt⟩) (hg : FrameOK g)
    (hfor : ∀ ty nul, FrameFor f ty nul → FrameFor g ty nul := by exact fun _ _ hx => hx) :
    Inv ⟨t, g :: rest, r, tt⟩ := by
  refine ⟨h.wf, ?_, ⟨?_, h.chain.2⟩, h.root⟩
  · intro x hx
    simp only [List.mem_cons] at hx
    rcases hx with rfl | hx
    · exact hg
    · exact h.frames x (by simp [hx])
  · obtain ⟨ty, nul, hp, hf⟩ := h.chain.1
    exact ⟨ty, nul, hp, hfor ty nul hf⟩

end

theorem Inv.push {s : St} (h : Inv s) {g : Frame} (hg : FrameOK g) {ty : Ty} {nul : Bool}
    (hp : pos s = .value ty nul) (hfor : FrameFor g ty nul) : Inv { s with frames := g :: s.frames } := by
  refine ⟨h.wf, ?_, ⟨⟨ty, nul, hp, hfor⟩, h.chain⟩, h.root⟩
  intro x hx
  simp only [List.mem_cons] at hx
  rcases hx with rfl | hx
  · exact hg
  · exact h.frames x hx

theorem EntriesOK.snoc {fs : List Field} {es : List (Bytes × TL)} (h : EntriesOK fs es) {f : Field} (hf : f ∈ fs)
    (hk : hasKey es f.name = false) {v : TL} (hv : RGood f.ty f.nullable v) : EntriesOK fs (es ++ [(f.name, v)]) := by
  refine ⟨TAsm.nodup_keys_snoc h.1 hk, ?_⟩
  intro p hp
  simp only [List.mem_append, List.mem_singleton] at hp
  rcases hp with hp | rfl
  · exact h.2 p hp
  · exact ⟨f, hf, rfl, hv⟩

theorem tuple_next_fresh {fs : List Field} {es : List (Bytes × TL)} (hnd : (fs.map (·.name)).Nodup)
    (hpre : es.map (·.1) = (fs.take es.length).map (·.name)) {f : Field} (hf : fs[es.length]? = some f) :
    hasKey es f.name = false :=
  tuple_rest_fresh hnd hpre (List.mem_of_getElem? (by simpa using hf : (fs.drop es.length)[0]? = some f))

theorem tuple_pre_snoc {fs : List Field} {es : List (Bytes × TL)}
    (hpre : es.map (·.1) = (fs.take es.length).map (·.name)) {f : Field} (hf : fs[es.length]? = some f) (v : TL) :
    (es ++ [(f.name, v)]).map (·.1) = (fs.take (es ++ [(f.name, v)]).length).map (·.name) := by
  simp only [List.map_append, List.map_cons, List.map_nil, List.length_append, List.length_cons, List.length_nil,
    Nat.zero_add, List.take_add_one, hf, Option.toList_some, hpre]

theorem deliver_inv {s : St} {v : TL} (h : Inv s) (hv : ∃ ty nul, pos s = .value ty nul ∧ RGood ty nul v) :
    Inv (deliver s v).1 := by
  obtain ⟨ty, nul, hp, hg⟩ := hv
  obtain ⟨t, fr, r, tt⟩ := s
  unfold deliver
  simp only
  split
  · -- the root builder
    split
    · cases hp
      exact ⟨h.wf, h.frames, trivial, fun w hw => by cases hw; exact hg⟩
    · exact h
  · -- a list element
    cases hp
    obtain ⟨hwf, hgood⟩ := h.top
    exact h.replaceTop ⟨hwf, forall_mem_snoc hgood hg⟩
  · -- a map value: its key was fresh
    cases hp
    obtain ⟨hwf, hnd, hgood, hfresh⟩ := h.top
    exact h.replaceTop ⟨hwf, TAsm.nodup_keys_snoc hnd hfresh, forall_mem_snoc hgood hg, trivial⟩
  · -- the field a struct's key addresses
    obtain ⟨hwfs, hfnd, hes, hfresh⟩ := h.top
    split
    · rename_i f0 hfo
      simp only [pos, posOf, hfo] at hp
      cases hp
      exact h.replaceTop ⟨hwfs, hfnd, hes.snoc (List.mem_of_find?_eq_some hfo) (hfresh f0 hfo) hg, trivial⟩
    · exact h
  · -- a tuple's next field
    obtain ⟨hwfs, hfnd, hes, hpre⟩ := h.top
    split
    · rename_i f0 hfo
      simp only [pos, posOf, hfo] at hp
      cases hp
      exact h.replaceTop ⟨hwfs, hfnd, hes.snoc (List.mem_of_getElem? hfo) (tuple_next_fresh hfnd hpre hfo) hg,
        tuple_pre_snoc hpre hfo v⟩
    · exact h
  · -- the member of a keyed union
    obtain ⟨hwfs, hnd, _⟩ := h.top
    split
    · rename_i m0 hmo
      simp only [pos, posOf, hmo] at hp
      cases hp
      refine h.replaceTop ⟨hwfs, hnd, fun n v' hc => ?_⟩
      simp only [Option.some.injEq, Prod.mk.injEq] at hc
      obtain ⟨rfl, rfl⟩ := hc
      exact ⟨m0, List.mem_of_find?_eq_some hmo, rfl, hg⟩
    · exact h
  · exact h

theorem opensMap_frame {ty : Ty} {nul : Bool} {f : Frame} (hwf : ty.wf = true) (h : opensMap ty nul = .frame f) :
    FrameOK f ∧ FrameFor f ty nul := by
  unfold opensMap at h
  split at h
  · rename_i hr
    cases h
    have := resolved_wf hwf hr
    exact ⟨⟨this, by simp, by simp, trivial⟩, hr⟩
  · rename_i fs _ hr
    cases h
    obtain ⟨h1, h2, _⟩ := Schema.wf_struct (resolved_wf hwf hr)
    exact ⟨⟨h1, h2, ⟨by simp, by simp⟩, trivial⟩, fs, hr, rfl⟩
  · rename_i ms _ hr
    cases h
    obtain ⟨h1, h2⟩ := Schema.wf_union (resolved_wf hwf hr)
    exact ⟨⟨h1, h2, by simp⟩, ms, hr, rfl⟩
  all_goals cases h

theorem opensList_frame {ty : Ty} {nul : Bool} {f : Frame} (hwf : ty.wf = true) (h : opensList ty nul = .frame f) :
    FrameOK f ∧ FrameFor f ty nul := by
  unfold opensList at h
  split at h
  · rename_i hr
    cases h
    have := resolved_wf hwf hr
    exact ⟨⟨this, by simp⟩, hr⟩
  · rename_i fs _ hr
    cases h
    obtain ⟨h1, h2, _⟩ := Schema.wf_struct (resolved_wf hwf hr)
    exact ⟨⟨h1, h2, ⟨by simp, by simp⟩, by simp⟩, fs, hr, rfl⟩
  all_goals cases h

theorem valuePrim_inv {e : Engine} {s : St} {ty : Ty} {nul : Bool} {op : Op} (h : Inv s)
    (hp : pos s = .value ty nul) : Inv (valuePrim e s ty nul op).1 := by
  have hwf := h.pos_wf hp
  cases op with
  | assign v =>
    simp only [valuePrim]
    split
    · exact h
    · split
      · exact h
      · split
        · rename_i hb
          exact deliver_inv h ⟨_, _, hp, good_built hwf hb⟩
        · exact h
  | beginMap n =>
    simp only [valuePrim]
    split
    · rename_i hf
      obtain ⟨h1, h2⟩ := opensMap_frame hwf hf
      exact h.push h1 hp h2
    · split
      · exact h.push trivial hp trivial
      · exact h
    · exact h
  | beginList n =>
    simp only [valuePrim]
    split
    · rename_i hf
      obtain ⟨h1, h2⟩ := opensList_frame hwf hf
      exact h.push h1 hp h2
    · exact h
  | _ => exact h

theorem supplyKey_inv {e : Engine} {s : St} (k : Bytes) (he : e.keyAsmDupMapKey = false) (h : Inv s) :
    Inv (supplyKey e s k).1 := by
  obtain ⟨t, fr, r, tt⟩ := s
  unfold supplyKey
  simp only
  split
  · -- a typed map: refused (repeated), or pending and fresh
    obtain ⟨hwf, hnd, hgood, _⟩ := h.top
    split
    · exact h.replaceTop ⟨hwf, hnd, hgood, trivial⟩
    · rename_i hc
      simp only [he, Bool.not_false, Bool.and_true, Bool.not_eq_true] at hc
      exact h.replaceTop ⟨hwf, hnd, hgood, hc⟩
  · -- a struct: the key addresses no field (nothing to keep fresh), or a field that has no value yet
    obtain ⟨hwfs, hfnd, hes, _⟩ := h.top
    split
    · rename_i hnone
      split
      · exact h.replaceTop ⟨hwfs, hfnd, hes, trivial⟩
      · exact h.replaceTop ⟨hwfs, hfnd, hes, fun f hf => by rw [hnone] at hf; cases hf⟩
    · rename_i hsome
      split
      · exact h.replaceTop ⟨hwfs, hfnd, hes, trivial⟩
      · rename_i hc
        simp only [Bool.not_eq_true] at hc
        exact h.replaceTop ⟨hwfs, hfnd, hes, fun f hf => by rw [hsome] at hf; cases hf; exact hc⟩
  · -- a keyed union: its frame's facts do not mention the phase
    split <;> exact h.replaceTop h.top
  · exact h

theorem keyPrim_inv {e : Engine} {s : St} {op : Op} (he : e.keyAsmDupMapKey = false) (h : Inv s) :
    Inv (keyPrim e s op).1 := by
  unfold keyPrim
  split
  · exact supplyKey_inv _ he h
  all_goals exact h

theorem finish_inv {t : Ty} {f : Frame} {rest : List Frame} {r : Option TL} {tt : Bool}
    (h : Inv ⟨t, f :: rest, r, tt⟩) {v : TL}
    (hv : ∀ ty nul, ty.wf = true → FrameFor f ty nul → RGood ty nul v) :
    Inv (deliver ⟨t, rest, r, tt⟩ v).1 := by
  obtain ⟨ty, nul, hp, hfor⟩ := h.parent
  exact deliver_inv h.pop ⟨ty, nul, hp, hv ty nul (h.pop.pos_wf hp) hfor⟩

theorem expectsKey_inv (e : Engine) {t : Ty} {f : Frame} {rest : List Frame} {r : Option TL} {tt : Bool} {op : Op}
    (h : Inv ⟨t, f :: rest, r, tt⟩) (hx : expectsKey ⟨t, f :: rest, r, tt⟩ = true) :
    Inv (stepPrim e ⟨t, f :: rest, r, tt⟩ op).1 := by
  unfold expectsKey at hx
  split at hx
  · -- a typed map
    rename_i hf; cases hf
    simp only [stepPrim]
    have hok := h.top
    split
    · exact h.replaceTop ⟨hok.1, hok.2.1, hok.2.2.1, trivial⟩
    · split
      · exact h
      · rename_i hc
        simp only [Bool.not_eq_true] at hc
        exact h.replaceTop ⟨hok.1, hok.2.1, hok.2.2.1, hc⟩
    · exact finish_inv h fun ty nul hwf hfor => good_wrap hwf hfor (good_map false hok.2.1 hok.2.2.1)
    · exact h
  · -- a struct
    rename_i hf; cases hf
    simp only [stepPrim]
    have hok := h.top
    split
    · exact h.replaceTop ⟨hok.1, hok.2.1, hok.2.2.1, trivial⟩
    · split
      · rename_i hnone
        split
        · exact h
        · refine h.replaceTop ⟨hok.1, hok.2.1, hok.2.2.1, ?_⟩
          intro f hf; rw [hnone] at hf; cases hf
      · rename_i hsome
        split
        · exact h
        · rename_i hc
          simp only [Bool.not_eq_true] at hc
          refine h.replaceTop ⟨hok.1, hok.2.1, hok.2.2.1, ?_⟩
          intro f hf; rw [hsome] at hf; cases hf; exact hc
    · split
      · rename_i hreq
        exact finish_inv h fun ty nul hwf ⟨F, hr, hF⟩ => by
          subst hF; exact good_wrap hwf hr (good_struct (by intro hc; cases hc) false hok.2.1 hok.2.2.1 hreq)
      · exact h
    · exact h
  · -- a keyed union
    rename_i hf; cases hf
    simp only [stepPrim]
    have hok := h.top
    split
    · exact h.replaceTop hok
    · split
      · exact h
      · exact h.replaceTop hok
    · split
      · rename_i n v
        apply finish_inv h
        intro ty nul hwf hfor
        obtain ⟨M, hr, rfl⟩ := hfor
        obtain ⟨m, hm, rfl, hg⟩ := hok.2.2 n v rfl
        exact good_wrap hwf hr (good_union false hok.2.1 hm hg)
      · exact h
    · exact h
  · cases hx

theorem stepPrim_inv {e : Engine} (he : e.keyAsmDupMapKey = false) (s : St) (op : Op) (h : Inv s) :
    Inv (stepPrim e s op).1 := by
  obtain ⟨t, fr, r, tt⟩ := s
  unfold stepPrim
  simp only
  split
  · -- the root builder
    split
    · exact h
    · exact valuePrim_inv h rfl
  · -- list, expecting AssembleValue / Finish
    have hok := h.top
    split
    · exact h.replaceTop hok
    · exact finish_inv h fun ty nul hwf hfor => good_wrap hwf hfor (good_list false hok.2)
    · exact h
  · -- a list element's value assembler
    exact valuePrim_inv h rfl
  · -- a typed map, expecting a key
    exact expectsKey_inv e h rfl
  · -- its key assembler
    exact keyPrim_inv he h
  · -- a typed map with its key, expecting AssembleValue
    have hok := h.top
    split
    · exact h.replaceTop hok
    · exact h
  · -- a map value's assembler
    exact valuePrim_inv h rfl
  · -- a struct, expecting a key
    exact expectsKey_inv e h rfl
  · -- its key assembler
    exact keyPrim_inv he h
  · -- a struct with its key, expecting AssembleValue
    have hok := h.top
    split
    · exact h.replaceTop hok
    · exact h
  · -- the value assembler of the field the key addresses, or an error assembler
    split
    · rename_i hfo
      exact valuePrim_inv h (by simp [pos, posOf, hfo])
    · rw [errPrim_state]; exact h
  · -- tuple, expecting AssembleValue / Finish
    have hok := h.top
    split
    · exact h.replaceTop hok
    · split
      · rename_i hreq
        exact finish_inv h fun ty nul hwf ⟨F, hr, hF⟩ => by
          subst hF; exact good_wrap hwf hr (good_tuple false hok.2.1 hok.2.2.1 hok.2.2.2 hreq)
      · exact h
    · exact h
  · -- the value assembler of the tuple's next field, or an error assembler
    split
    · rename_i hfo
      exact valuePrim_inv h (by simp [pos, posOf, hfo])
    · rw [errPrim_state]; exact h
  · -- a keyed union, expecting a key
    exact expectsKey_inv e h rfl
  · -- its key assembler
    exact keyPrim_inv he h
  · -- a keyed union with its key, expecting AssembleValue
    have hok := h.top
    split
    · exact h.replaceTop hok
    · exact h
  · -- the member's value assembler, or an error assembler
    split
    · rename_i hmo
      exact valuePrim_inv h (by simp [pos, posOf, hmo])
    · rw [errPrim_state]; exact h
  · -- the dead map assembler
    split
    · exact h.replaceTop trivial
    all_goals exact h
  · -- the dead map assembler past `AssembleKey`: an error assembler
    rw [errPrim_state]; exact h

theorem putList_inv {e : Engine} (he : e.keyAsmDupMapKey = false) : (xs : DMs) → (s : St) → Inv s → Inv (putList e s xs).1 :=
  fun xs s h => putList_eq e xs s ▸ Mach.putList_state (mach e) (stepPrim_inv he) xs s h

theorem putKVs_inv {e : Engine} (he : e.keyAsmDupMapKey = false) : (es : DMKVs) → (s : St) → Inv s → Inv (putKVs e s es).1 :=
  fun es s h => putKVs_eq e es s ▸ Mach.putKVs_state (mach e) (stepPrim_inv he) es s h

theorem step_inv {e : Engine} (he : e.keyAsmDupMapKey = false) (s : St) (op : Op) (h : Inv s) :
    Inv (step e s op).1 := by
  rw [step_eq]
  exact Mach.step_state (mach e) (stepPrim_inv he)
    (fun _ h => ⟨h.wf, h.frames, h.chain, h.root⟩) s op h

theorem run_inv {e : Engine} {s : St} (ops : List Op) (he : e.keyAsmDupMapKey = false) (h : Inv s) :
    Inv (run e s ops).1 :=
  run_eq_hist e ▸ Hist.run_state (step_inv he) ops s h

theorem build_good {s : St} {v : TL} (h : Inv s) (hb : build s = some v) : RGood s.ty false v := by
  unfold build at hb
  split at hb
  · exact h.root v hb
  · cases hb

end RAsm
end Ipld

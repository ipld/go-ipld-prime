/-
  The bundled sharders (C17) are lists of parts taken at fixed offsets from the end of the key (`tailPart`), then the
  key; the slice expressions of the translated code are those parts; such components keep a path inside its directory.
-/
import IpldModel.Model.Store
import IpldModel.Generated.Sharding
import IpldModel.Lemmas.ListMore
namespace Ipld.Store
open Ipld.Generated

theorem dot_bytes : ".".toUTF8.toList = [0x2e] := by rw [byteArray_toList_eq]; rfl

theorem dotdot_bytes : "..".toUTF8.toList = [0x2e, 0x2e] := by rw [byteArray_toList_eq]; rfl

theorem stagingDir_bytes : stagingDir = [0x2e, 0x74, 0x65, 0x6d, 0x70] := by
  rw [stagingDir, byteArray_toList_eq]; rfl

/-- the index expressions `len key - a` of the sharders do not wrap for keys shorter than 2^63 -/
theorem wrap_len_sub (key : Bytes) (a : Int) (h0 : 0 ≤ a) (ha : a ≤ 8) (hl : key.length < 2 ^ 63) :
    wrapI64 (goLen key - a) = goLen key - a := by
  apply wrapI64_id
  unfold inI64 goLen
  omega

theorem goSlice_eq_sub (key : Bytes) (a b : Nat) :
    goSlice key ((key.length : Int) - (a : Int)) ((key.length : Int) - (b : Int)) =
      sub key (key.length - a) (key.length - b) := by
  unfold goSlice sub
  rw [Int.toNat_sub, Int.toNat_sub]

/-- a slice expression `key[len-a : len-b]` of the translated code, in the model's arithmetic -/
theorem slice_src (key : Bytes) (a b : Int) (hb : 0 ≤ b) (hba : b ≤ a) (ha8 : a ≤ 8) (hl : key.length < 2 ^ 63) :
    goSlice key (wrapI64 (goLen key - a)) (wrapI64 (goLen key - b)) =
      sub key (key.length - a.toNat) (key.length - b.toNat) := by
  rw [wrap_len_sub key a (Int.le_trans hb hba) ha8 hl, wrap_len_sub key b hb (Int.le_trans hba ha8) hl]
  obtain ⟨a, rfl⟩ := Int.eq_ofNat_of_zero_le (Int.le_trans hb hba)
  obtain ⟨b, rfl⟩ := Int.eq_ofNat_of_zero_le hb
  exact goSlice_eq_sub key a b

/-- the bounds of a Go slice expression `s[lo:hi]` are legal (no panic) -/
def SliceOk (s : Bytes) (lo hi : Int) : Prop := 0 ≤ lo ∧ lo ≤ hi ∧ hi ≤ goLen s

/-- a branch condition `len > m` of the translated code, in the model's arithmetic -/
theorem goLen_gt (key : Bytes) (m : Int) (hm : 0 ≤ m) : (goLen key > m) ↔ key.length > m.toNat := by
  unfold goLen; omega

/-- a shard directory name: `n` zeros of padding, or `n` consecutive characters of the key -/
def ShardPart (n : Nat) (key c : Bytes) : Prop :=
  c = zeros n ∨ ∃ lo hi, c = sub key lo hi ∧ hi = lo + n ∧ hi ≤ key.length

/-- the output of a sharder on the empty list: shard directory names, then the key itself -/
def ShardShape (n : Nat) (sh : Sharder) : Prop :=
  ∀ key, ∃ pre, sh key [] = pre ++ [key] ∧ ∀ c ∈ pre, ShardPart n key c

/-- the `n` characters that start `a` before the end of the key; zeros when the key is shorter than `a` -/
def tailPart (n a : Nat) (key : Bytes) : Bytes :=
  if a ≤ key.length then sub key (key.length - a) (key.length - (a - n)) else zeros n

theorem tailPart_of_le {n a : Nat} {key : Bytes} (h : a ≤ key.length) :
    tailPart n a key = sub key (key.length - a) (key.length - (a - n)) := if_pos h

theorem tailPart_of_not_le {n a : Nat} {key : Bytes} (h : ¬ a ≤ key.length) : tailPart n a key = zeros n := if_neg h

theorem tailPart_part {n a : Nat} (hn : n ≤ a) (key : Bytes) : ShardPart n key (tailPart n a key) := by
  unfold tailPart
  split
  · next h =>
    exact Or.inr ⟨_, _, rfl, by rw [← Nat.sub_add_sub_cancel h (Nat.sub_le a n), Nat.sub_sub_self hn], Nat.sub_le ..⟩
  · exact Or.inl rfl

/-- the bundled sharders are lists of such parts (`l > 2` is `3 ≤ l`) -/
theorem shardR12_eq (key : Bytes) (shards : List Bytes) : shardR12 key shards = shards ++ [tailPart 2 3 key, key] := by
  dsimp only [shardR12]
  split
  · next h => rw [tailPart_of_le h]
  · next h => rw [tailPart_of_not_le h]

theorem shardR122_eq (key : Bytes) (shards : List Bytes) :
    shardR122 key shards = shards ++ [tailPart 2 5 key, tailPart 2 3 key, key] := by
  dsimp only [shardR122]
  split
  · next h => rw [tailPart_of_le h, tailPart_of_le (Nat.le_trans (by decide) h)]
  · next h5 =>
    split
    · next h => rw [tailPart_of_not_le h5, tailPart_of_le h]
    · next h => rw [tailPart_of_not_le h5, tailPart_of_not_le h]

theorem shardR133_eq (key : Bytes) (shards : List Bytes) :
    shardR133 key shards = shards ++ [tailPart 3 7 key, tailPart 3 4 key, key] := by
  dsimp only [shardR133]
  split
  · next h => rw [tailPart_of_le h, tailPart_of_le (Nat.le_trans (by decide) h)]
  · next h7 =>
    split
    · next h => rw [tailPart_of_not_le h7, tailPart_of_le h]
    · next h => rw [tailPart_of_not_le h7, tailPart_of_not_le h]

theorem shape_of_tailParts {n : Nat} {sh : Sharder} (offs : List Nat) (hn : ∀ a ∈ offs, n ≤ a)
    (h : ∀ key, sh key [] = offs.map (tailPart n · key) ++ [key]) : ShardShape n sh := by
  intro key
  refine ⟨_, h key, fun c hc => ?_⟩
  obtain ⟨a, ha, rfl⟩ := List.mem_map.1 hc
  exact tailPart_part (hn a ha) key

/-- the bundled sharders, with the width of their shard directory names -/
inductive Bundled : Nat → Sharder → Prop where
  | r12 : Bundled 2 shardR12
  | r122 : Bundled 2 shardR122
  | r133 : Bundled 3 shardR133

theorem bundled_shape {n : Nat} {sh : Sharder} (hb : Bundled n sh) : ShardShape n sh := by
  cases hb with
  | r12 => exact shape_of_tailParts [3] (by decide) (shardR12_eq · [])
  | r122 => exact shape_of_tailParts [5, 3] (by decide) (shardR122_eq · [])
  | r133 => exact shape_of_tailParts [7, 4] (by decide) (shardR133_eq · [])

theorem bundled_length {n : Nat} {sh : Sharder} (hb : Bundled n sh) (k k' : Bytes) :
    (sh k []).length = (sh k' []).length := by
  cases hb with
  | r12 => rw [shardR12_eq, shardR12_eq]; rfl
  | r122 => rw [shardR122_eq, shardR122_eq]; rfl
  | r133 => rw [shardR133_eq, shardR133_eq]; rfl

theorem shardPart_length {n : Nat} {key c : Bytes} (h : ShardPart n key c) : c.length = n := by
  rcases h with rfl | ⟨lo, hi, rfl, rfl, hh⟩
  · exact List.length_replicate
  · rw [sub, List.length_take, List.length_drop, Nat.add_sub_cancel_left]
    exact Nat.min_eq_left (Nat.le_sub_of_add_le' hh)

theorem shardPart_mem {n : Nat} {key c : Bytes} (h : ShardPart n key c) : ∀ b ∈ c, b = 0x30 ∨ b ∈ key := by
  intro b hb
  rcases h with rfl | ⟨lo, hi, rfl, e, hh⟩
  · exact Or.inl (List.eq_of_mem_replicate hb)
  · exact Or.inr (List.mem_of_mem_drop (List.mem_of_mem_take hb))

theorem safeComponent_iff (c : Bytes) :
    safeComponent c = true ↔ c ≠ [] ∧ ∀ b ∈ c, isB32Char b = true ∨ b = 0x30 := by
  unfold safeComponent
  cases c with
  | nil => simp
  | cons a r => simp [List.all_eq_true]

theorem safe_of_shape {n : Nat} {sh : Sharder} (h : ShardShape n sh) (hn : 0 < n) (key : Bytes) (hk : key ≠ [])
    (hall : ∀ b ∈ key, isB32Char b = true) : ∀ c ∈ sh key [], safeComponent c = true := by
  obtain ⟨pre, e, hp⟩ := h key
  intro c hc
  rw [e, List.mem_append, List.mem_singleton] at hc
  rw [safeComponent_iff]
  rcases hc with hc | rfl
  · have hl := shardPart_length (hp c hc)
    refine ⟨fun x => by rw [x] at hl; simp at hl; omega, ?_⟩
    intro b hb
    rcases shardPart_mem (hp c hc) b hb with h0 | hm
    · exact Or.inr h0
    · exact Or.inl (hall b hm)
  · exact ⟨hk, fun b hb => Or.inl (hall b hb)⟩

end Ipld.Store

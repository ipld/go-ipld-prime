/-
  Effects of the primitive heap operations of the heap model (`writeCell`, `appendSlice`, `setObj`,
  `gomapInsert`, allocation).
-/
import IpldModel.Lemmas.HeapList
namespace Ipld
namespace Heap

def Obj.slice : Obj → Slice
  | .map t _ => t
  | .list x => x

def Obj.gm : Obj → Option Nat
  | .map _ m => some m
  | .list _ => none

def Obj.withSlice : Obj → Slice → Obj
  | .map _ m, s => .map s m
  | .list _, s => .list s

def Cell.ref : Cell → Option NRef
  | .entry _ (some v) => some v
  | .item v => some v
  | _ => none

def HFrame.id : HFrame → Nat
  | .map id _ => id
  | .list id _ => id

def objAt (h : H) (id : Nat) : Obj := h.objs.getD id default
def arrAt (h : H) (a : Nat) : List Cell := h.arrs.getD a []
def gmAt (h : H) (m : Nat) : List (Bytes × NRef) := h.gomaps.getD m []

theorem sliceCells_eq (h : H) (s : Slice) : sliceCells h s = (arrAt h s.arr).take s.len := rfl

@[simp] theorem Obj.withSlice_slice (o : Obj) (s : Slice) : (o.withSlice s).slice = s := by
  cases o <;> rfl
@[simp] theorem Obj.withSlice_gm (o : Obj) (s : Slice) : (o.withSlice s).gm = o.gm := by
  cases o <;> rfl

def SliceWf (h : H) (s : Slice) : Prop :=
  s.arr < h.arrs.length ∧ s.len ≤ s.cap ∧ s.cap ≤ (arrAt h s.arr).length

@[simp] theorem writeCell_objs (h : H) (a i : Nat) (c : Cell) : (writeCell h a i c).objs = h.objs := rfl
@[simp] theorem writeCell_gomaps (h : H) (a i : Nat) (c : Cell) : (writeCell h a i c).gomaps = h.gomaps := rfl
@[simp] theorem writeCell_finished (h : H) (a i : Nat) (c : Cell) : (writeCell h a i c).finished = h.finished := rfl
@[simp] theorem writeCell_arrs_length (h : H) (a i : Nat) (c : Cell) :
    (writeCell h a i c).arrs.length = h.arrs.length := by simp [writeCell]

theorem arrAt_writeCell (h : H) (a i a' : Nat) (c : Cell) :
    arrAt (writeCell h a i c) a' =
      if a' = a ∧ a < h.arrs.length then setAt (arrAt h a) i c else arrAt h a' := by
  simp only [arrAt, writeCell, getD_setAt]

theorem arrAt_writeCell_ne {h : H} {a i a' : Nat} {c : Cell} (hne : a' ≠ a) :
    arrAt (writeCell h a i c) a' = arrAt h a' := by
  rw [arrAt_writeCell, if_neg (fun hh => hne hh.1)]

theorem arrAt_writeCell_self {h : H} {a i : Nat} {c : Cell} (ha : a < h.arrs.length) :
    arrAt (writeCell h a i c) a = setAt (arrAt h a) i c := by
  rw [arrAt_writeCell, if_pos ⟨rfl, ha⟩]

theorem arrAt_writeCell_length {h : H} {a i a' : Nat} {c : Cell} :
    (arrAt (writeCell h a i c) a').length = (arrAt h a').length := by
  rw [arrAt_writeCell]
  split
  · rename_i hh; rw [length_setAt, hh.1]
  · rfl

theorem arrAt_writeCell_take {h : H} {a i a' n : Nat} {c : Cell} (hn : a' = a → n ≤ i) :
    (arrAt (writeCell h a i c) a').take n = (arrAt h a').take n := by
  rw [arrAt_writeCell]
  split
  · rename_i hh; rw [take_setAt_le _ _ (hn hh.1), hh.1]
  · rfl

@[simp] theorem setObj_arrs (h : H) (id : Nat) (o : Obj) : (setObj h id o).arrs = h.arrs := rfl
@[simp] theorem setObj_gomaps (h : H) (id : Nat) (o : Obj) : (setObj h id o).gomaps = h.gomaps := rfl
@[simp] theorem setObj_finished (h : H) (id : Nat) (o : Obj) : (setObj h id o).finished = h.finished := rfl
@[simp] theorem setObj_objs_length (h : H) (id : Nat) (o : Obj) :
    (setObj h id o).objs.length = h.objs.length := by simp [setObj]
@[simp] theorem arrAt_setObj (h : H) (id : Nat) (o : Obj) (a : Nat) : arrAt (setObj h id o) a = arrAt h a := rfl
@[simp] theorem gmAt_setObj (h : H) (id : Nat) (o : Obj) (m : Nat) : gmAt (setObj h id o) m = gmAt h m := rfl

theorem objAt_setObj (h : H) (id id' : Nat) (o : Obj) :
    objAt (setObj h id o) id' = if id' = id ∧ id < h.objs.length then o else objAt h id' := by
  simp only [objAt, setObj, getD_setAt]

theorem objAt_setObj_ne (h : H) {id id' : Nat} (o : Obj) (hne : id' ≠ id) :
    objAt (setObj h id o) id' = objAt h id' := by
  rw [objAt_setObj, if_neg (fun hh => hne hh.1)]

theorem objAt_setObj_self (h : H) {id : Nat} (o : Obj) (hlt : id < h.objs.length) :
    objAt (setObj h id o) id = o := by
  rw [objAt_setObj, if_pos ⟨rfl, hlt⟩]

@[simp] theorem gomapInsert_objs (h : H) (m : Nat) (k : Bytes) (v : NRef) : (gomapInsert h m k v).objs = h.objs := rfl
@[simp] theorem gomapInsert_arrs (h : H) (m : Nat) (k : Bytes) (v : NRef) : (gomapInsert h m k v).arrs = h.arrs := rfl
@[simp] theorem gomapInsert_finished (h : H) (m : Nat) (k : Bytes) (v : NRef) :
    (gomapInsert h m k v).finished = h.finished := rfl
@[simp] theorem gomapInsert_gomaps_length (h : H) (m : Nat) (k : Bytes) (v : NRef) :
    (gomapInsert h m k v).gomaps.length = h.gomaps.length := by simp [gomapInsert]
@[simp] theorem arrAt_gomapInsert (h : H) (m : Nat) (k : Bytes) (v : NRef) (a : Nat) :
    arrAt (gomapInsert h m k v) a = arrAt h a := rfl
@[simp] theorem objAt_gomapInsert (h : H) (m : Nat) (k : Bytes) (v : NRef) (id : Nat) :
    objAt (gomapInsert h m k v) id = objAt h id := rfl

theorem gmAt_gomapInsert (h : H) (m m' : Nat) (k : Bytes) (v : NRef) :
    gmAt (gomapInsert h m k v) m' =
      if m' = m ∧ m < h.gomaps.length then ((gmAt h m).filter fun e => e.1 ≠ k) ++ [(k, v)] else gmAt h m' := by
  simp only [gmAt, gomapInsert, getD_setAt]

theorem gmAt_gomapInsert_ne (h : H) {m m' : Nat} (k : Bytes) (v : NRef) (hne : m' ≠ m) :
    gmAt (gomapInsert h m k v) m' = gmAt h m' := by
  rw [gmAt_gomapInsert, if_neg (fun hh => hne hh.1)]

@[simp] theorem allocArr_fst_objs (h : H) (n : Nat) : (allocArr h n).1.objs = h.objs := rfl
@[simp] theorem allocArr_fst_gomaps (h : H) (n : Nat) : (allocArr h n).1.gomaps = h.gomaps := rfl
@[simp] theorem allocArr_fst_finished (h : H) (n : Nat) : (allocArr h n).1.finished = h.finished := rfl
@[simp] theorem allocArr_snd (h : H) (n : Nat) : (allocArr h n).2 = h.arrs.length := rfl
@[simp] theorem allocArr_fst_arrs (h : H) (n : Nat) :
    (allocArr h n).1.arrs = h.arrs ++ [List.replicate n .empty] := rfl

theorem arrAt_append_lt (h h' : H) (x : List Cell) {a : Nat} (he : h'.arrs = h.arrs ++ [x])
    (ha : a < h.arrs.length) : arrAt h' a = arrAt h a := by
  simp only [arrAt, he]; exact getD_append_lt ha

theorem arrAt_append_len (h h' : H) (x : List Cell) (he : h'.arrs = h.arrs ++ [x]) :
    arrAt h' h.arrs.length = x := by
  simp only [arrAt, he]; exact getD_append_len

theorem objAt_append_lt (h h' : H) (o : Obj) {id : Nat} (he : h'.objs = h.objs ++ [o])
    (hlt : id < h.objs.length) : objAt h' id = objAt h id := by
  simp only [objAt, he]; exact getD_append_lt hlt

theorem objAt_append_len (h h' : H) (o : Obj) (he : h'.objs = h.objs ++ [o]) :
    objAt h' h.objs.length = o := by
  simp only [objAt, he]; exact getD_append_len

theorem gmAt_append_lt (h h' : H) (x : List (Bytes × NRef)) {m : Nat} (he : h'.gomaps = h.gomaps ++ [x])
    (hlt : m < h.gomaps.length) : gmAt h' m = gmAt h m := by
  simp only [gmAt, he]; exact getD_append_lt hlt

theorem gmAt_append_len (h h' : H) (x : List (Bytes × NRef)) (he : h'.gomaps = h.gomaps ++ [x]) :
    gmAt h' h.gomaps.length = x := by
  simp only [gmAt, he]; exact getD_append_len

theorem appendSlice_objs (h : H) (s : Slice) (c : Cell) : (appendSlice h s c).1.objs = h.objs := by
  unfold appendSlice; split <;> rfl

theorem appendSlice_gomaps (h : H) (s : Slice) (c : Cell) : (appendSlice h s c).1.gomaps = h.gomaps := by
  unfold appendSlice; split <;> rfl

theorem appendSlice_finished (h : H) (s : Slice) (c : Cell) :
    (appendSlice h s c).1.finished = h.finished := by
  unfold appendSlice; split <;> rfl

theorem appendSlice_len (h : H) (s : Slice) (c : Cell) : (appendSlice h s c).2.1.len = s.len + 1 := by
  unfold appendSlice; split <;> rfl

theorem appendSlice_arrs_length (h : H) (s : Slice) (c : Cell) :
    h.arrs.length ≤ (appendSlice h s c).1.arrs.length := by
  unfold appendSlice; split
  · simp
  · simp [allocArr]

theorem appendSlice_arr (h : H) (s : Slice) (c : Cell) :
    (appendSlice h s c).2.1.arr = s.arr ∨ (appendSlice h s c).2.1.arr = h.arrs.length := by
  unfold appendSlice; split
  · exact Or.inl rfl
  · exact Or.inr rfl

theorem appendSlice_arrs_length_le (h : H) (s : Slice) (c : Cell) :
    (appendSlice h s c).1.arrs.length ≤ h.arrs.length + 1 := by
  unfold appendSlice; split
  · simp
  · simp [allocArr]

theorem arrAt_appendSlice_ne (h : H) (s : Slice) (c : Cell) {a : Nat} (ha : a < h.arrs.length)
    (hne : a ≠ s.arr) : arrAt (appendSlice h s c).1 a = arrAt h a := by
  unfold appendSlice; split
  · exact arrAt_writeCell_ne hne
  · simp only [arrAt, allocArr]
    rw [getD_setAt_ne (by omega)]
    exact getD_append_lt ha

theorem arrAt_appendSlice_take (h : H) (s : Slice) (c : Cell) {a n : Nat} (ha : a < h.arrs.length)
    (hn : a = s.arr → n ≤ s.len) : (arrAt (appendSlice h s c).1 a).take n = (arrAt h a).take n := by
  unfold appendSlice; split
  · exact arrAt_writeCell_take hn
  · simp only [arrAt, allocArr]
    rw [getD_setAt_ne (by omega), getD_append_lt ha]

theorem arrAt_appendSlice_length (h : H) (s : Slice) (c : Cell) {a : Nat} (ha : a < h.arrs.length) :
    (arrAt (appendSlice h s c).1 a).length = (arrAt h a).length := by
  unfold appendSlice; split
  · exact arrAt_writeCell_length
  · simp only [arrAt, allocArr]
    rw [getD_setAt_ne (by omega), getD_append_lt ha]

theorem appendSlice_full {h : H} {s : Slice} (c : Cell) (h2 : s.len ≤ s.cap) (hlt : ¬ s.len < s.cap) :
    ∃ nc, s.len + 1 ≤ nc ∧ appendSlice h s c =
      ({ h with arrs := h.arrs ++ [(arrAt h s.arr).take s.len ++ [c] ++ List.replicate (nc - s.len - 1) .empty] },
        { arr := h.arrs.length, len := s.len + 1, cap := nc }, []) := by
  refine ⟨if s.cap = 0 then 1 else 2 * s.cap, by split <;> omega, ?_⟩
  unfold appendSlice
  rw [if_neg hlt]
  simp only [allocArr, arrAt]
  rw [setAt_append_len]

theorem appendSlice_wf (h : H) (s : Slice) (c : Cell) (hw : SliceWf h s) :
    SliceWf (appendSlice h s c).1 (appendSlice h s c).2.1 := by
  obtain ⟨h1, h2, h3⟩ := hw
  by_cases hlt : s.len < s.cap
  · unfold appendSlice; rw [if_pos hlt]
    exact ⟨by simpa using h1, hlt, by rw [arrAt_writeCell_length]; exact h3⟩
  · obtain ⟨nc, hnc, e⟩ := appendSlice_full (h := h) c h2 hlt
    rw [e]
    have hl : ((arrAt h s.arr).take s.len).length = s.len := by rw [List.length_take]; omega
    generalize (arrAt h s.arr).take s.len = old at hl
    refine ⟨by simp, hnc, ?_⟩
    simp only [arrAt, getD_append_len, List.length_append, List.length_replicate, List.length_cons,
      List.length_nil, hl]
    omega

theorem appendSlice_cells (h : H) (s : Slice) (c : Cell) (hw : SliceWf h s) :
    sliceCells (appendSlice h s c).1 (appendSlice h s c).2.1 = sliceCells h s ++ [c] := by
  obtain ⟨h1, h2, h3⟩ := hw
  by_cases hlt : s.len < s.cap
  · unfold appendSlice; rw [if_pos hlt]
    simp only [sliceCells_eq]
    rw [arrAt_writeCell_self h1]
    exact take_succ_setAt _ _ (by omega)
  · obtain ⟨nc, hnc, e⟩ := appendSlice_full (h := h) c h2 hlt
    rw [e]
    have hl : ((arrAt h s.arr).take s.len).length = s.len := by rw [List.length_take]; omega
    simp only [sliceCells_eq]
    generalize (arrAt h s.arr).take s.len = old at hl
    simp only [arrAt, getD_append_len]
    rw [List.take_append_of_le_length (by simp [hl]), List.take_of_length_le (by simp [hl])]

/-- what `append` logs as written: only the cell just past `len` of the slice's own array -/
theorem appendSlice_written (h : H) (s : Slice) (c : Cell) :
    ∀ l ∈ (appendSlice h s c).2.2, l = .arrCell s.arr s.len := by
  unfold appendSlice; split
  · intro l hl; simpa using hl
  · intro l hl; cases hl

end Heap
end Ipld

/-
  The read side of a typed node (`TRead`): a typed node read through `datamodel.Node` at type level IS the typed value `TL`;
  on a value without `absent` the read functions are those of the generic model, and what was put in is what they return.
  Before that, in `TAsm`: `find?` by key in a list of entries mapped entry by entry and in `canonFields`; `Schema.build` at
  type level is `conforms` and `normalize` (`build_type_ok`, `build_type_of_conforms`).
-/
import IpldModel.Lemmas.TypedValues
import IpldModel.Lemmas.SchemaType
namespace Ipld
namespace TAsm
open Ipld.Schema (Ty Fields Field TL TLs TLKVs canonFields conforms conformsList conformsMap conformsStruct
  normalize normalizeList normalizeMap normalizeStruct)

theorem find_map_snd {β γ : Type} (g : β → γ) (k : Bytes) : (l : List (Bytes × β)) →
    (l.map fun p => (p.1, g p.2)).find? (fun e => e.1 == k) = (l.find? (fun e => e.1 == k)).map fun p => (p.1, g p.2)
  | [] => rfl
  | (a, b) :: l => by
    simp only [List.map_cons, List.find?_cons]
    cases a == k
    · exact find_map_snd g k l
    · rfl

theorem find_map_of_mem {α β : Type} (g : α → Bytes × β) (key : α → Bytes) (hg : ∀ a, (g a).1 = key a)
    (l : List α) (hnd : (l.map key).Nodup) (a : α) (ha : a ∈ l) :
    (l.map g).find? (fun e => e.1 == key a) = some (g a) := by
  have hk : (l.map g).map (·.1) = l.map key := by
    rw [List.map_map]; exact List.map_congr_left fun a _ => hg a
  have := find?_key_of_mem (·.1) (hk ▸ hnd) (g a) (List.mem_map_of_mem ha)
  rwa [hg a] at this

theorem find_map_none {α β : Type} (g : α → Bytes × β) (key : α → Bytes) (hg : ∀ a, (g a).1 = key a) (k : Bytes)
    (l : List α) (hk : k ∉ l.map key) : (l.map g).find? (fun e => e.1 == k) = none := by
  simp only [List.find?_eq_none, List.mem_map, beq_iff_eq]
  rintro e ⟨a, ha, rfl⟩ hek
  exact hk (List.mem_map.2 ⟨a, ha, by rw [← hg a, hek]⟩)

theorem canonFields_find (F : List Field) (hnd : (F.map (·.name)).Nodup) (L : List (Bytes × TL)) {f : Field}
    (hf : f ∈ F) :
    (canonFields F L).find? (fun e => e.1 == f.name) =
      some (f.name, match L.find? (fun e => e.1 == f.name) with
                    | some e => e.2
                    | none => .absent) := by
  unfold canonFields
  rw [find_map_of_mem _ (·.name) (by intro a; split <;> rfl) F hnd f hf]
  cases L.find? (fun e => e.1 == f.name) with
  | none => rfl
  | some e => obtain ⟨a, b⟩ := e; rfl

theorem build_type_ok {ty : Ty} {nul : Bool} {d : DM} {w : TL} (hwf : ty.wf = true)
    (h : Schema.build Schema.Engine.ideal .type ty nul none d = .ok w) :
    conforms ty nul (TL.ofDM d) = true ∧ w = normalize ty (TL.ofDM d) := by
  rw [Schema.build_type hwf] at h
  split at h
  · rename_i hc
    cases h
    exact ⟨hc, rfl⟩
  · cases h

theorem build_type_of_conforms {ty : Ty} {nul : Bool} {d : DM} (hwf : ty.wf = true)
    (hc : conforms ty nul (TL.ofDM d) = true) :
    Schema.build Schema.Engine.ideal .type ty nul none d = .ok (normalize ty (TL.ofDM d)) := by
  rw [Schema.build_type hwf, if_pos hc]

/- A struct is a map that lists all its fields in declaration order, an unset optional field reading as `Absent`.  The
  functions below are the read functions of `Model/Assembler.lean` (`Asm.lookupByString`, `Asm.lookupByIndex`,
  `Asm.length`) carried over to `TL` verbatim. -/

namespace TRead
open Ipld.Asm (ReadErr)
open Ipld.Schema (Ty Fields Field TL TLs TLKVs canonFields conforms conformsList conformsMap conformsStruct
  normalize normalizeList normalizeMap normalizeStruct)

/-- `LookupByString` (for a struct: by field name; an unset optional field answers `absent`) -/
def lookupByString (w : TL) (k : Bytes) : Except ReadErr TL :=
  match w with
  | .map es => match es.toList.find? (fun e => e.1 == k) with
      | some e => .ok e.2
      | none => .error .notExists
  | _ => .error .wrongKind

def lookupByIndex (w : TL) (i : Int) : Except ReadErr TL :=
  match w with
  | .list xs => if i < 0 then .error .notExists else
      match xs.toList[i.toNat]? with
      | some x => .ok x
      | none => .error .notExists
  | _ => .error .wrongKind

def length (w : TL) : Int :=
  match w with
  | .list xs => xs.toList.length
  | .map es => es.toList.length
  | _ => -1

/-- the keys `MapIterator` yields, in its order -/
def keys (w : TL) : List Bytes :=
  match w with
  | .map es => es.toList.map (·.1)
  | _ => []

/-- the (key, value) pairs `MapIterator` yields, in its order -/
def entries (w : TL) : List (Bytes × TL) :=
  match w with
  | .map es => es.toList
  | _ => []

/-- the values `ListIterator` yields, in its order -/
def elems (w : TL) : List TL :=
  match w with
  | .list xs => xs.toList
  | _ => []

theorem lookupByString_ofDM (d : DM) (k : Bytes) :
    lookupByString (TL.ofDM d) k = (Asm.lookupByString d k).map TL.ofDM := by
  cases d <;> try rfl
  rename_i es
  simp only [TL.ofDM, lookupByString, Asm.lookupByString, Schema.ofDMKVs_toList, find_map_snd]
  cases es.toList.find? (fun e => e.1 == k) <;> rfl

theorem lookupByIndex_ofDM (d : DM) (i : Int) :
    lookupByIndex (TL.ofDM d) i = (Asm.lookupByIndex d i).map TL.ofDM := by
  cases d <;> try rfl
  rename_i xs
  simp only [TL.ofDM, lookupByIndex, Asm.lookupByIndex, Schema.ofDMs_toList, List.getElem?_map]
  split
  · rfl
  · cases xs.toList[i.toNat]? <;> rfl

theorem length_ofDM (d : DM) : length (TL.ofDM d) = Asm.length d := by
  cases d <;> try rfl
  · rename_i xs; simp [TL.ofDM, length, Asm.length, Schema.ofDMs_toList, DMs.length]
  · rename_i es; simp [TL.ofDM, length, Asm.length, Schema.ofDMKVs_toList, DMKVs.length]

theorem keys_ofDM_map (es : DMKVs) : keys (TL.ofDM (.map es)) = es.keys := by
  simp [TL.ofDM, keys, Schema.ofDMKVs_keys, DMKVs.keys]

theorem read_struct {F : Fields} {r : Schema.StructRepr} {nul : Bool} (hwf : (Ty.struct F r).wf = true) {kvs : DMKVs}
    (hc : conforms (.struct F r) nul (TL.ofDM (.map kvs)) = true) :
    length (normalize (.struct F r) (TL.ofDM (.map kvs))) = (F.toList.length : Int) ∧
    keys (normalize (.struct F r) (TL.ofDM (.map kvs))) = F.toList.map (·.name) ∧
    (∀ k v, (k, v) ∈ kvs.toList → ∃ f, fieldOf F.toList k = some f ∧ f ∈ F.toList ∧
      conforms f.ty f.nullable (TL.ofDM v) = true ∧
      lookupByString (normalize (.struct F r) (TL.ofDM (.map kvs))) k = .ok (normalize f.ty (TL.ofDM v))) ∧
    (∀ f ∈ F.toList, f.name ∉ kvs.keys → f.opt = true ∧
      lookupByString (normalize (.struct F r) (TL.ofDM (.map kvs))) f.name = .ok .absent) := by
  have hFnd := (Schema.wf_struct hwf).2.1
  obtain ⟨hnd, _, hent, hreq⟩ := Schema.conformsStruct_iff.1 hc
  have hnd' : (kvs.toList.map (·.1)).Nodup := Schema.ofDMKVs_keys kvs ▸ hnd
  have hw : normalize (.struct F r) (TL.ofDM (.map kvs)) =
      .map (TLKVs.ofList (canonFields F.toList (kvs.toList.map (nfield F.toList)))) := by
    simp only [TL.ofDM, normalize, normalizeStruct_ofDMKVs]
  rw [hw]
  refine ⟨?_, ?_, ?_, ?_⟩
  · simp [length, canonFields]
  · simp [keys, canonFields_keys]
  · intro k v hm
    have hm' : (k, TL.ofDM v) ∈ (TLKVs.ofDMKVs kvs).toList := by
      rw [Schema.ofDMKVs_toList]
      exact List.mem_map.2 ⟨(k, v), hm, rfl⟩
    obtain ⟨f, hf, hv⟩ := hent _ hm'
    simp only at hf hv
    have hfm : f ∈ F.toList := List.mem_of_find?_eq_some hf
    have hname : f.name = k := by simpa using List.find?_some hf
    rw [Schema.fieldValOK_ofDM] at hv
    refine ⟨f, hf, hfm, hv, ?_⟩
    have hL : (kvs.toList.map (nfield F.toList)).find? (fun e => e.1 == k) = some (nfield F.toList (k, v)) :=
      find_map_of_mem (nfield F.toList) (·.1) (fun _ => rfl) kvs.toList hnd' (k, v) hm
    have hcf := canonFields_find F.toList hFnd (kvs.toList.map (nfield F.toList)) hfm
    rw [hname] at hcf
    simp only [lookupByString, Schema.TLKVs.toList_ofList, hcf, hL, nfield, hf]
  · intro f hfm hk
    have hL : (kvs.toList.map (nfield F.toList)).find? (fun e => e.1 == f.name) = none :=
      find_map_none (nfield F.toList) (·.1) (fun _ => rfl) f.name kvs.toList hk
    have hcf := canonFields_find F.toList hFnd (kvs.toList.map (nfield F.toList)) hfm
    refine ⟨?_, ?_⟩
    · rcases hreq f hfm with h | h | h
      · exact h
      · cases h
      · exfalso
        apply hk
        simpa [Schema.ofDMKVs_keys, DMKVs.keys] using h
    · simp only [lookupByString, Schema.TLKVs.toList_ofList, hcf, hL]

theorem read_map {vty : Ty} {vnul nul : Bool} {kvs : DMKVs}
    (hc : conforms (.map vty vnul) nul (TL.ofDM (.map kvs)) = true) :
    length (normalize (.map vty vnul) (TL.ofDM (.map kvs))) = (kvs.toList.length : Int) ∧
    keys (normalize (.map vty vnul) (TL.ofDM (.map kvs))) = kvs.keys ∧
    kvs.keys.Nodup ∧
    (∀ k v, (k, v) ∈ kvs.toList → conforms vty vnul (TL.ofDM v) = true ∧
      lookupByString (normalize (.map vty vnul) (TL.ofDM (.map kvs))) k = .ok (normalize vty (TL.ofDM v))) ∧
    (∀ k, k ∉ kvs.keys →
      lookupByString (normalize (.map vty vnul) (TL.ofDM (.map kvs))) k = .error .notExists) := by
  obtain ⟨hnd, _, hent⟩ := Schema.conformsMap_iff.1 hc
  have hnd' : (kvs.toList.map (·.1)).Nodup := Schema.ofDMKVs_keys kvs ▸ hnd
  have hw : normalize (.map vty vnul) (TL.ofDM (.map kvs)) = .map (normalizeMap vty (TLKVs.ofDMKVs kvs)) := by
    simp only [TL.ofDM, normalize]
  rw [hw]
  refine ⟨?_, ?_, hnd', ?_, ?_⟩
  · simp [length, normalizeMap_ofDMKVs]
  · simp [keys, normalizeMap_ofDMKVs, DMKVs.keys, List.map_map, Function.comp_def]
  · intro k v hm
    have hm' : (k, TL.ofDM v) ∈ (TLKVs.ofDMKVs kvs).toList := by
      rw [Schema.ofDMKVs_toList]
      exact List.mem_map.2 ⟨(k, v), hm, rfl⟩
    refine ⟨hent _ hm', ?_⟩
    have hL := find_map_of_mem (fun p : Bytes × DM => (p.1, normalize vty (TL.ofDM p.2))) (·.1) (fun _ => rfl)
      kvs.toList hnd' (k, v) hm
    simp only at hL
    simp only [lookupByString, normalizeMap_ofDMKVs, hL]
  · intro k hk
    have hL := find_map_none (fun p : Bytes × DM => (p.1, normalize vty (TL.ofDM p.2))) (·.1) (fun _ => rfl) k
      kvs.toList hk
    simp only [lookupByString, normalizeMap_ofDMKVs, hL]

theorem read_list {ety : Ty} {enul nul : Bool} {ys : DMs}
    (hc : conforms (.list ety enul) nul (TL.ofDM (.list ys)) = true) :
    length (normalize (.list ety enul) (TL.ofDM (.list ys))) = (ys.toList.length : Int) ∧
    elems (normalize (.list ety enul) (TL.ofDM (.list ys))) = ys.toList.map (fun y => normalize ety (TL.ofDM y)) ∧
    (∀ y ∈ ys.toList, conforms ety enul (TL.ofDM y) = true) ∧
    (∀ n : Nat, lookupByIndex (normalize (.list ety enul) (TL.ofDM (.list ys))) (n : Int) =
      match ys.toList[n]? with
      | some y => .ok (normalize ety (TL.ofDM y))
      | none => .error .notExists) := by
  have hent := Schema.conformsList_iff.1 hc
  have hw : normalize (.list ety enul) (TL.ofDM (.list ys)) = .list (normalizeList ety (TLs.ofDMs ys)) := by
    simp only [TL.ofDM, normalize]
  rw [hw]
  refine ⟨?_, ?_, ?_, ?_⟩
  · simp [length, normalizeList_ofDMs]
  · simp [elems, normalizeList_ofDMs]
  · intro y hy
    apply hent
    rw [Schema.ofDMs_toList]
    exact List.mem_map_of_mem hy
  · intro n
    simp only [lookupByIndex, Int.toNat_natCast, normalizeList_ofDMs, List.getElem?_map]
    rw [if_neg (Int.not_lt.2 (Int.natCast_nonneg n))]
    cases ys.toList[n]? <;> rfl

end TRead

end TAsm
end Ipld

/-
  The transform against the matching walk: when at every position the walk can reach the two child enumerations
  pair up (`Spec.AlignedAt`) and `Match` agrees with `Decide` (`Spec.PlainMatch`), `walkT` and `Walk.walkAdv` run in
  lock step (`SRel`, `OutRel`) unless one of them runs out of fuel: the two consume fuel differently.
-/
import IpldModel.Lemmas.WalkTransform
import IpldModel.Lemmas.WalkReach
namespace Ipld
namespace WalkT
open Sel Walk Spec

/-- the walk's state and the transform's agree: the budgets, the seen-set, and the log as a matching callback
    and the loader observe it -/
structure SRel (w t : St) : Prop where
  nb : w.nodeBudget = t.nodeBudget
  lb : w.linkBudget = t.linkBudget
  seen : w.seen = t.seen
  log : observedLog w.events = observedLog t.events

/-- the matching walk and the transforming walk end alike: both succeed, or both fail with the same walk error -/
def OutRel {α : Type} : Except Err Unit → Except TErr α → Prop
  | .ok _, .ok _ => True
  | .error e, .error (.walk e') => e = e'
  | _, _ => False

/-- Lock step of the two walks after corresponding calls: related states and like outcomes, unless one of them ran out of
    fuel (the two count fuel differently, so nothing is claimed then). -/
def Corr {α : Type} (rW : WR) (rT : St × Except TErr α) : Prop :=
  rW.2 = .error .fuel ∨ rT.2 = .error (.walk .fuel) ∨ (SRel rW.1 rT.1 ∧ OutRel rW.2 rT.2)

section
variable {α β : Type} {a : Except Err Unit} {b : Except TErr α} {rW : WR} {rT : St × Except TErr α} {w t : St}

theorem outRel_cases (h : OutRel a b) :
    (a = .ok () ∧ ∃ r, b = .ok r) ∨ ∃ e, a = .error e ∧ b = .error (.walk e) :=
  match a, b, h with
  | .ok (), .ok r, _ => Or.inl ⟨rfl, r, rfl⟩
  | .error e, .error (.walk _), rfl => Or.inr ⟨e, rfl, rfl⟩

theorem outRel_outcomes (h : OutRel a b) :
    (a = .ok () ↔ ∃ r, b = .ok r) ∧ (∀ e, a = .error e ↔ b = .error (.walk e)) ∧ b ≠ .error .callback := by
  rcases outRel_cases h with ⟨ha, r, hb⟩ | ⟨e, ha, hb⟩
  · rw [ha, hb]; exact ⟨⟨fun _ => ⟨r, rfl⟩, fun _ => rfl⟩, fun _ => ⟨nofun, nofun⟩, nofun⟩
  · rw [ha, hb]
    exact ⟨⟨nofun, nofun⟩, fun _ => ⟨fun h => by cases h; rfl, fun h => by cases h; rfl⟩, nofun⟩

theorem corr_mapT {g : α → β} (h : Corr rW rT) : Corr rW (mapT g rT) := by
  obtain ⟨t1, rT⟩ := rT
  rcases h with h | h | ⟨h1, h2⟩
  · exact Or.inl h
  · cases h; exact Or.inr (Or.inl rfl)
  · rcases outRel_cases h2 with ⟨ha, r, hb⟩ | ⟨e, ha, hb⟩
    · cases hb; exact Or.inr (Or.inr ⟨h1, by rw [ha]; trivial⟩)
    · cases hb; exact Or.inr (Or.inr ⟨h1, by rw [ha]; rfl⟩)

theorem corr_bind {fW : St → WR} {fT : St → α → St × Except TErr β}
    (h1 : Corr rW rT) (h2 : ∀ w' t' a, SRel w' t' → Corr (fW w') (fT t' a)) :
    Corr (andThen rW fW) (bindT rT fT) := by
  obtain ⟨w1, rW⟩ := rW
  obtain ⟨t1, rT⟩ := rT
  rcases h1 with h | h | ⟨hs, ho⟩
  · cases h; exact Or.inl rfl
  · cases h; exact Or.inr (Or.inl rfl)
  · rcases outRel_cases ho with ⟨ha, r, hb⟩ | ⟨e, ha, hb⟩
    · cases ha; cases hb; exact h2 _ _ _ hs
    · cases ha; cases hb; exact Or.inr (Or.inr ⟨hs, rfl⟩)

theorem corr_ok (h : SRel w t) {a : α} : Corr (w, .ok ()) (t, (.ok a : Except TErr α)) :=
  Or.inr (Or.inr ⟨h, trivial⟩)

theorem corr_err (h : SRel w t) {e : Err} : Corr (w, .error e) (t, (.error (.walk e) : Except TErr α)) :=
  Or.inr (Or.inr ⟨h, rfl⟩)

end

theorem checkNode_rel {w t : St} (h : SRel w t) :
    (∃ e, checkNode w = .error e ∧ checkNode t = .error e) ∨
    (∃ w1 t1, checkNode w = .ok w1 ∧ checkNode t = .ok t1 ∧ SRel w1 t1) := by
  rcases checkNode_cases w with ⟨⟨b, hb, hle⟩, hw⟩ | ⟨hpos, hw⟩ <;>
    rcases checkNode_cases t with ⟨⟨b', hb', hle'⟩, ht⟩ | ⟨hpos', ht⟩
  · exact .inl ⟨_, hw, ht⟩
  · exact absurd (hpos' b (h.nb ▸ hb)) (Int.not_lt.2 hle)
  · exact absurd (hpos b' (h.nb ▸ hb')) (Int.not_lt.2 hle')
  · exact .inr ⟨_, _, hw, ht, congrArg (Option.map _) h.nb, h.lb, h.seen, h.log⟩

theorem checkLink_rel {w t : St} (h : SRel w t) :
    (∃ e, checkLink w = .error e ∧ checkLink t = .error e) ∨
    (∃ w1 t1, checkLink w = .ok w1 ∧ checkLink t = .ok t1 ∧ SRel w1 t1) := by
  rcases checkLink_cases w with ⟨⟨b, hb, hle⟩, hw⟩ | ⟨hpos, hw⟩ <;>
    rcases checkLink_cases t with ⟨⟨b', hb', hle'⟩, ht⟩ | ⟨hpos', ht⟩
  · exact .inl ⟨_, hw, ht⟩
  · exact absurd (hpos' b (h.lb ▸ hb)) (Int.not_lt.2 hle)
  · exact absurd (hpos b' (h.lb ▸ hb')) (Int.not_lt.2 hle')
  · exact .inr ⟨_, _, hw, ht, h.nb, congrArg (Option.map _) h.lb, h.seen, h.log⟩

/-- the link step takes the same decisions in related states: it reads the seen-set and the link budget, and only
    adds to the log -/
theorem linkStep_rel (cfg : Cfg) (c : Bytes) {w t : St} (h : SRel w t) :
    SRel (linkStep cfg c w).1 (linkStep cfg c t).1 ∧ (linkStep cfg c w).2 = (linkStep cfg c t).2 := by
  rw [linkStep_eq, linkStep_eq, ← h.seen]
  by_cases hc : (cfg.linkOnce && w.seen.contains c) = true
  · rw [if_pos hc, if_pos hc]; exact ⟨h, rfl⟩
  · rw [if_neg hc, if_neg hc]
    have hr : SRel (markSeen cfg c w) (markSeen cfg c t) := by
      unfold markSeen
      split
      · exact ⟨h.nb, h.lb, congrArg (c :: ·) h.seen, h.log⟩
      · exact h
    rcases checkLink_rel hr with ⟨e, e1, e2⟩ | ⟨w2, t2, e1, e2, hr2⟩
    · rw [e1, e2]; exact ⟨hr, rfl⟩
    · rw [e1, e2]; exact ⟨⟨hr2.nb, hr2.lb, hr2.seen, congrArg (Event.load c :: ·) hr2.log⟩, rfl⟩

theorem visit_rel {w t : St} (h : SRel w t) {pw pt : Path} (hp : pathText pw = pathText pt) {n : DM} {s : S}
    (hm : PlainMatch s n) :
    SRel { w with events := visitEvent pw n s :: w.events }
      (if decideNode s n then callSt pt n t else t) := by
  obtain ⟨h1, h2, h3, h4⟩ := h
  unfold PlainMatch at hm
  unfold visitEvent
  rw [hm]
  cases decideNode s n with
  | true =>
    simp only [if_true]
    refine ⟨h1, h2, h3, ?_⟩
    show Event.visit ((pathText pw).map .str) n .matched :: observedLog w.events =
      Event.visit ((pathText pt).map .str) n .matched :: observedLog t.events
    rw [hp, h4]
  | false =>
    simp only [Bool.false_eq_true, if_false]
    exact ⟨h1, h2, h3, h4⟩

section Sim
variable {cfg : Cfg} (hs : cfg.startAt = []) {fn : TFn} (hfn : ∀ p d, fn p d = .same) {root : DM} {s0 : S}
  (hal : ∀ path n s, Reach cfg root s0 path n s → AlignedAt n s ∧ PlainMatch s n)

variable (cfg fn root s0) in
/-- the hypothesis of the induction on the walk's fuel: lock step for every walk fuel below `F` -/
def SimBelow (F : Nat) : Prop :=
  ∀ f, f < F → ∀ past g {pw pt n s w t}, SRel w t → pathText pw = pathText pt → Reach cfg root s0 pw n s →
    Corr (walkAdv cfg f past pw n s w) (walkT cfg fn g pt n s t)

theorem sim_enter {F : Nat} (IH : SimBelow cfg fn root s0 F) (k : Nat) (hk : k < F) (past : Bool) (g : Nat)
    {pw pt : Path} (hp : pathText pw = pathText pt) {n : DM} {s : S} (hr : Reach cfg root s0 pw n s)
    {a b : Seg} (hab : a.toString = b.toString) {v : DM} (hmem : (a, v) ∈ childList n s) {sNext : S}
    (hx : explore s n a = .ok (some sNext)) (hatt : attended (interests s) b = true)
    (hxb : explore s n b = .ok (some sNext)) {w t : St} (hst : SRel w t) :
    Corr (enterChild cfg k past (pw ++ [a]) v sNext w)
      (tChild cfg (walkT cfg fn g) pt n s (interests s) b v t) := by
  have hp' : pathText (pw ++ [a]) = pathText (pt ++ [b]) := by
    simp only [pathText, List.map_append, List.map_cons, List.map_nil] at hp ⊢
    rw [hp, hab]
  by_cases hl : ∃ c, v = .link c
  · obtain ⟨c, rfl⟩ := hl
    rw [tChild_link hatt hxb]
    simp only [enterChild]
    obtain ⟨h1, h2⟩ := linkStep_rel cfg c hst
    have hsome := @linkStep_some cfg c w
    generalize linkStep cfg c w = lw at h1 h2 hsome
    generalize linkStep cfg c t = lt at h1 h2
    obtain ⟨w1, rw1⟩ := lw
    obtain ⟨t1, rt1⟩ := lt
    cases h2
    obtain _ | _ | blk := rw1
    · exact corr_err h1
    · exact corr_ok h1
    · obtain ⟨g1, g2, _⟩ := hsome rfl
      exact IH k hk past g h1 hp' (Reach.link hr hmem hx g1 g2)
  · have hnl : ∀ c, v ≠ .link c := fun c hc => hl ⟨c, hc⟩
    rw [tChild_child hatt hxb hnl, enterChild_nonlink hnl]
    exact IH k hk past g hst hp' (Reach.child hr hmem hx hnl)

include hs in
theorem sim_loop {F : Nat} (IH : SimBelow cfg fn root s0 F) (g : Nat) {pw pt : Path}
    (hp : pathText pw = pathText pt) {n : DM} {s : S} (hr : Reach cfg root s0 pw n s)
    {lw lt : List (Seg × DM)} (ha : Align n s lw lt) :
    ∀ (k : Nat), k < F → ∀ (lp : Loop) (w t : St), (∀ x ∈ lw, x ∈ childList n s) → SRel w t →
      Corr (walkChildren cfg k pw n s lw lp w)
        (iterate (tChild cfg (walkT cfg fn g) pt n s (interests s)) lt t) := by
  induction ha with
  | nil =>
    intro k _ lp w t _ hst
    cases k with
    | zero => rw [walkChildren_zero]; exact Or.inl rfl
    | succ k => rw [walkChildren_nil, iterate_nil]; exact corr_ok hst
  | @passW a lw lt hx _ ih =>
    intro k hk lp w t hmem hst
    obtain ⟨a1, a2⟩ := a
    cases k with
    | zero => rw [walkChildren_zero]; exact Or.inl rfl
    | succ k =>
      rw [walkChildren_cons, loopStep_noStart cfg hs]
      simp only [Bool.false_eq_true, if_false]
      cases k with
      | zero => rw [exploreChild_zero]; exact Or.inl rfl
      | succ k =>
        rw [exploreChild_succ]
        simp only at hx
        rw [hx]
        simp only [andThen_ok]
        exact ih (k + 1) (Nat.lt_of_succ_lt hk) lp w t (fun x hx => hmem x (List.mem_cons_of_mem _ hx)) hst
  | @passT b lw lt hb _ ih =>
    intro k hk lp w t hmem hst
    obtain ⟨b1, b2⟩ := b
    rw [iterate_cons, tChild_pass hb]
    simp only [bindT]
    exact corr_mapT (ih k hk lp w t hmem hst)
  | @both a b lw lt hab hv hatt hxx _ ih =>
    intro k hk lp w t hmem hst
    obtain ⟨a1, a2⟩ := a
    obtain ⟨b1, b2⟩ := b
    simp only at hab hv hatt hxx
    subst hv
    cases k with
    | zero => rw [walkChildren_zero]; exact Or.inl rfl
    | succ k =>
      rw [walkChildren_cons, loopStep_noStart cfg hs, iterate_cons]
      simp only [Bool.false_eq_true, if_false]
      apply corr_bind
      · cases k with
        | zero => rw [exploreChild_zero]; exact Or.inl rfl
        | succ k =>
          rw [exploreChild_succ]
          cases hx : explore s n a1 with
          | error e =>
            rw [tChild_error hatt (hxx.symm.trans hx)]
            cases e
            · exact corr_err hst
            · exact corr_err hst
          | ok o =>
            cases o with
            | none => rw [tChild_pass (Or.inr (hxx.symm.trans hx))]; exact corr_ok hst
            | some sNext =>
              exact sim_enter IH k (Nat.lt_of_succ_lt (Nat.lt_of_succ_lt hk)) _ g hp hr hab
                (hmem _ (List.mem_cons_self ..)) hx hatt (hxx.symm.trans hx) hst
      · intro w' t' v' hst'
        exact corr_mapT
          (ih k (Nat.lt_of_succ_lt hk) lp w' t' (fun x hx => hmem x (List.mem_cons_of_mem _ hx)) hst')

theorem alignedAt_iff {n : DM} {s : S} : AlignedAt n s ↔ Align n s (childList n s) (children n) := by
  unfold AlignedAt childList
  cases interests s <;> exact Iff.rfl

include hs in
theorem sim_descend {F : Nat} (IH : SimBelow cfg fn root s0 F) (f : Nat) (hf : f < F) (past : Bool) (g : Nat)
    {pw pt : Path} (hp : pathText pw = pathText pt) {n : DM} {s : S} (hr : Reach cfg root s0 pw n s)
    (hA : AlignedAt n s) {w t : St} (hst : SRel w t) :
    Corr (if (!isRecursive n) = true then (w, .ok ())
        else walkChildren cfg f pw n s (childList n s) { past := past } w)
      (descend cfg (walkT cfg fn g) pt n s t) := by
  unfold descend
  cases hrec : isRecursive n
  · exact corr_ok hst
  · rw [if_pos rfl, iterateNode_eq]
    exact corr_mapT
      (sim_loop hs IH g hp hr (alignedAt_iff.1 hA) f hf _ w t (fun x hx => hx) hst)

include hs hfn hal in
theorem sim_all (f : Nat) : ∀ past g pw pt n s w t, SRel w t → pathText pw = pathText pt →
    Reach cfg root s0 pw n s → Corr (walkAdv cfg f past pw n s w) (walkT cfg fn g pt n s t) := by
  induction f using Nat.strongRecOn with
  | _ f IH =>
    intro past g pw pt n s w t hst hp hr
    cases f with
    | zero => rw [walkAdv_zero]; exact Or.inl rfl
    | succ f =>
      cases g with
      | zero => rw [walkT_zero]; exact Or.inr (Or.inl rfl)
      | succ g =>
        obtain ⟨hA, hM⟩ := hal pw n s hr
        rw [walkAdv_succ, walkT_succ]
        rcases checkNode_rel hst with ⟨e, h1, h2⟩ | ⟨w1, t1, h1, h2, hst1⟩
        · rw [h1, h2]; exact corr_err hst
        · rw [h1, h2]
          simp only
          rw [tBody_eq]
          by_cases hi : needsAdl s = true
          · rw [if_pos hi, if_pos hi]; exact corr_err hst1
          · rw [if_neg hi, if_neg hi, visitSt_noStart cfg hs, hfn pt n]
            -- the callback answers `same`: whether or not it is called, `descend` follows
            show Corr _ (if decideNode s n = true then descend cfg _ pt n s (callSt pt n t1) else _)
            rw [← apply_ite (descend cfg (walkT cfg fn g) pt n s)]
            exact sim_descend hs IH f (Nat.lt_succ_self f) past g hp hr hA (visit_rel hst1 hp hM)

end Sim

/-- a projection of the log that does not look at candidate visits, and at paths only through their text,
    is the same for logs that are observed alike -/
theorem filterMap_of_observedLog {β : Type} {g : Event → Option β} (hg : ∀ e, (observedEvent e).bind g = g e)
    {et ew : List Event} (h : observedLog et = observedLog ew) : et.filterMap g = ew.filterMap g := by
  have key : ∀ es, (observedLog es).filterMap g = es.filterMap g := fun es => by
    unfold observedLog
    rw [List.filterMap_filterMap]
    exact congrArg (List.filterMap · es) (funext hg)
  rw [← key, h, key]

theorem observedLog_projections {et ew : List Event} (h : observedLog et = observedLog ew) :
    callTexts (matchesOf et) = callTexts (matchesOf ew) ∧ loadsOf et = loadsOf ew := by
  refine ⟨?_, filterMap_of_observedLog (fun e => by cases e with | load c => rfl | visit p n r => cases r <;> rfl) h⟩
  unfold callTexts matchesOf
  rw [List.map_filterMap, List.map_filterMap]
  refine filterMap_of_observedLog (fun e => ?_) h
  cases e with
  | load c => rfl
  | visit p n r =>
    cases r with
    | candidate => rfl
    | matched =>
      refine congrArg (fun t => some (t, n)) ?_
      unfold pathText
      rw [List.map_map]
      exact List.map_id'' (fun _ => rfl) _

theorem run_corr {cfg : Cfg} (hs : cfg.startAt = []) {fn : TFn} (hfn : ∀ p d, fn p d = .same) {root : DM} {s : S}
    (hal : ∀ path n s', Reach cfg root s path n s' → AlignedAt n s' ∧ PlainMatch s' n)
    {f g : Nat} {nb lb : Option Int}
    (hf : (walk cfg f nb lb root s).outcome ≠ .error .fuel)
    (hg : (run cfg fn g nb lb root s).outcome ≠ .error (.walk .fuel)) :
    observedLog (run cfg fn g nb lb root s).events = observedLog (walk cfg f nb lb root s).events ∧
      SRel (walk cfg f nb lb root s).st (run cfg fn g nb lb root s).st ∧
      OutRel (walk cfg f nb lb root s).outcome (run cfg fn g nb lb root s).outcome := by
  have h := sim_all hs hfn hal f false g [] [] root s
    { nodeBudget := nb, linkBudget := lb } { nodeBudget := nb, linkBudget := lb } ⟨rfl, rfl, rfl, rfl⟩ rfl Reach.root
  rcases h with h | h | ⟨hsr, ho⟩
  · exact absurd h hf
  · exact absurd h hg
  · refine ⟨?_, hsr, ho⟩
    show List.filterMap _ (List.reverse _) = List.filterMap _ (List.reverse _)
    rw [List.filterMap_reverse, List.filterMap_reverse]
    exact congrArg List.reverse hsr.log.symm

end WalkT
end Ipld

/-
  Induction for facts about all the builders at once, over the input and over the type: one motive per
  inductive type of the mutual family; a fact about several functions on the same argument is a
  conjunction.
-/
import IpldModel.Model.Schema
namespace Ipld
namespace Schema

theorem DM.pair_cases (x : DM) :
    x = .list .nil ∨ (∃ k, x = .list (.cons (.str k) .nil)) ∨
    (∃ k v rest, x = .list (.cons (.str k) (.cons v rest))) ∨
    ∀ e fs st ps, buildPairs e fs st (.cons x ps) = .reject := by
  cases x <;> try exact .inr (.inr (.inr fun _ _ _ _ => rfl))
  rename_i ys
  rcases ys with _ | ⟨y, ys⟩
  · exact .inl rfl
  cases y <;> try exact .inr (.inr (.inr fun _ _ _ _ => rfl))
  rename_i k
  rcases ys with _ | ⟨v, rest⟩
  · exact .inr (.inl ⟨k, rfl⟩)
  · exact .inr (.inr (.inl ⟨k, v, rest, rfl⟩))

/-- `cons` also gets the fact for the elements of `x` where `x` is a list: `buildPairs` builds from the
    second element of a pair. -/
theorem DM.builder_induct {P : DM → Prop} {Q : DMs → Prop} {R : DMKVs → Prop}
    (null : P .null) (scalar : ∀ d, isScalar d = true → d ≠ .null → P d)
    (list : ∀ xs, Q xs → P (.list xs)) (map : ∀ es, R es → P (.map es))
    (nil : Q .nil)
    (cons : ∀ x xs, P x → (∀ ys, x = .list ys → ∀ y ∈ ys.toList, P y) → Q xs → Q (.cons x xs))
    (mnil : R .nil) (mcons : ∀ k v es, P v → R es → R (.cons k v es)) :
    (∀ d, P d) ∧ (∀ xs, Q xs) ∧ (∀ es, R es) := by
  have sc (d : DM) (hs : isScalar d = true) (hn : d ≠ .null) :
      P d ∧ (∀ ys, d = .list ys → Q ys ∧ ∀ y ∈ ys.toList, P y) ∧ ∀ es, d = .map es → R es :=
    ⟨scalar d hs hn, fun _ hd => (by subst hd; cases hs), fun _ hd => (by subst hd; cases hs)⟩
  -- the whole proof: the recursor's motive for lists is strengthened to carry `P` of every element
  have key (d : DM) : P d ∧ (∀ ys, d = .list ys → Q ys ∧ ∀ y ∈ ys.toList, P y) ∧ ∀ es, d = .map es → R es :=
    DM.rec (motive_2 := fun xs => Q xs ∧ ∀ y ∈ xs.toList, P y) (motive_3 := R)
      ⟨null, nofun, nofun⟩ (fun _ => sc _ rfl nofun) (fun _ => sc _ rfl nofun) (fun _ => sc _ rfl nofun)
      (fun _ => sc _ rfl nofun) (fun _ => sc _ rfl nofun) (fun _ => sc _ rfl nofun)
      (fun xs ih => ⟨list xs ih.1, fun _ hd => (by cases hd; exact ih), nofun⟩)
      (fun es ih => ⟨map es ih, nofun, fun _ hd => (by cases hd; exact ih)⟩)
      ⟨nil, fun _ hy => (List.not_mem_nil hy).elim⟩
      (fun x xs ihx ihs => ⟨cons x xs ihx.1 (fun ys hd => (ihx.2.1 ys hd).2) ihs.1,
        List.forall_mem_cons.2 ⟨ihx.1, ihs.2⟩⟩)
      mnil (fun k v es ihv ihs => mcons k v es ihv.1 ihs) d
  exact ⟨fun d => (key d).1, fun xs => ((key (.list xs)).2.1 xs rfl).1, fun es => (key (.map es)).2.2 es rfl⟩

theorem Ty.builder_induct {P : Ty → Prop} {F : Fields → Prop} {M : Members → Prop}
    (bool : P .bool) (int : P .int) (float : P .float) (str : P .str) (bytes : P .bytes) (link : P .link)
    (any : P .any) (list : ∀ t n, P (.list t n)) (map : ∀ t n, P (.map t n))
    (struct : ∀ fs r, F fs → P (.struct fs r)) (union : ∀ ms r, M ms → P (.union ms r))
    (enum : ∀ ms r, P (.enum ms r))
    (fnil : F .nil) (fcons : ∀ n rn o nu t rest, P t → F rest → F (.cons n rn o nu t rest))
    (mnil : M .nil) (mcons : ∀ n d k t rest, P t → M rest → M (.cons n d k t rest)) :
    (∀ t, P t) ∧ (∀ fs, F fs) ∧ (∀ ms, M ms) :=
  ⟨fun t => Ty.rec (motive_1 := P) (motive_2 := F) (motive_3 := M) bool int float str bytes link any
      (fun t n _ => list t n) (fun t n _ => map t n) struct union enum fnil fcons mnil mcons t,
    fun fs => Fields.rec (motive_1 := P) (motive_2 := F) (motive_3 := M) bool int float str bytes link any
      (fun t n _ => list t n) (fun t n _ => map t n) struct union enum fnil fcons mnil mcons fs,
    fun ms => Members.rec (motive_1 := P) (motive_2 := F) (motive_3 := M) bool int float str bytes link any
      (fun t n _ => list t n) (fun t n _ => map t n) struct union enum fnil fcons mnil mcons ms⟩

/-- Induction for the kinded dispatch (`resolveKinded`, `resolveMembers`), which descends only through
    kinded unions. -/
theorem Ty.kinded_induct {P : Ty → Prop} {M : Members → Prop}
    (other : ∀ t, (∀ ms, t ≠ .union ms .kinded) → P t) (kinded : ∀ ms, M ms → P (.union ms .kinded))
    (mnil : M .nil) (mcons : ∀ n d k t rest, P t → M rest → M (.cons n d k t rest)) :
    (∀ t, P t) ∧ ∀ ms, M ms :=
  have h := Ty.builder_induct (P := P) (F := fun _ => True) (M := M) (other _ nofun) (other _ nofun)
    (other _ nofun) (other _ nofun) (other _ nofun) (other _ nofun) (other _ nofun)
    (fun _ _ => other _ nofun) (fun _ _ => other _ nofun) (fun _ _ _ => other _ nofun)
    (fun ms r hm => by cases r <;> first | exact kinded ms hm | exact other _ nofun)
    (fun _ _ => other _ nofun) trivial (fun _ _ _ _ _ _ _ _ => trivial) mnil mcons
  ⟨h.1, h.2.2⟩

end Schema
end Ipld

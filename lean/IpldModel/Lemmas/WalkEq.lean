/-
  The pieces of the model's `walkAdv` / `walkChildren` / `exploreChild` that are not recursive calls, under names
  (`visitSt`, `childList`, `loopStep`, `linkStep`, `enterChild`, `enterNode`): the model writes them inline; the
  equations `walkAdv_succ` / `walkAdv_enter`, `walkChildren_cons`, `exploreChild_succ` are the tie, and proofs
  case-split on the pieces.
-/
import IpldModel.Spec.SelectorDenote
import IpldModel.Lemmas.BytesEq
namespace Ipld
namespace Walk
open Sel Spec

/-- `Spec.visitOf` as an event (`visitEvent_eq_visitOf`); the model builds the event inline, and `walkAdv_succ` has to
    meet that text -/
def visitEvent (path : Path) (n : DM) (s : S) : Event :=
  match matchNode s n with
  | some m => .visit path m .matched
  | none => .visit path n .candidate

theorem visitEvent_is_visit (path : Path) (n : DM) (s : S) : ∃ m r, visitEvent path n s = .visit path m r := by
  unfold visitEvent; split <;> exact ⟨_, _, rfl⟩

theorem visitsOf_visitEvent (path : Path) (n : DM) (s : S) (es : List Event) :
    visitsOf (visitEvent path n s :: es) = visitOf path n s :: visitsOf es := by
  unfold visitEvent visitOf
  cases matchNode s n <;> rfl

def visitSt (cfg : Cfg) (past : Bool) (path : Path) (n : DM) (s : S) (st1 : St) : St :=
  if !past && path.length < cfg.startAt.length then st1
  else { st1 with events := visitEvent path n s :: st1.events }

def childList (n : DM) (s : S) : List (Seg × DM) :=
  match interests s with
  | none => children n
  | some segs => segs.filterMap fun ps => (lookupBySegment n ps).map fun v => (ps, v)

def loopStep (cfg : Cfg) (path : Path) (lp : Loop) (ps : Seg) : Bool × Loop :=
  if cfg.startAt.length > 0 then
    if lp.reached then (false, { lp with past := true })
    else if !lp.past && path.length < cfg.startAt.length then
      if ps.equals (cfg.startAt.getD path.length (.str [])) then (false, { lp with reached := true })
      else (true, lp)
    else (false, lp)
  else (false, lp)

theorem visitSt_noStart (cfg : Cfg) (h : cfg.startAt = []) (past : Bool) (path : Path) (n : DM) (s : S) (st : St) :
    visitSt cfg past path n s st = { st with events := visitEvent path n s :: st.events } := by
  simp [visitSt, h]

theorem loopStep_noStart (cfg : Cfg) (h : cfg.startAt = []) (path : Path) (lp : Loop) (ps : Seg) :
    loopStep cfg path lp ps = (false, lp) := by
  simp [loopStep, h]

/-- the link-loading part of `exploreChild`: new state, and an error, or `none` (do not descend) or the block.
    It is written as `exploreChild` has it, so that `exploreChild_succ` holds by unfolding; `linkStep_eq` restates it
    through `markSeen` and `fetch`. -/
def linkStep (cfg : Cfg) (c : Bytes) (st : St) : St × Except Err (Option DM) :=
  if cfg.linkOnce && st.seen.contains c then (st, .ok none) else
  let st1 := if cfg.linkOnce then { st with seen := c :: st.seen } else st
  match checkLink st1 with
  | .error e => (st1, .error e)
  | .ok st2 =>
    let st3 := { st2 with events := .load c :: st2.events }
    if cfg.skip.contains c then (st3, .ok none) else
    match storeGet cfg.store c with
    | none => (st3, .error .load)
    | some blk => (st3, .ok (some blk))

/-- `LinkVisitOnlyOnce`: the link is recorded before the budget is checked -/
def markSeen (cfg : Cfg) (c : Bytes) (st : St) : St :=
  if cfg.linkOnce then { st with seen := c :: st.seen } else st

/-- what the loader answers for `c`: `SkipMe`, not found, or the block -/
def fetch (cfg : Cfg) (c : Bytes) : Except Err (Option DM) :=
  if cfg.skip.contains c then .ok none else
  match storeGet cfg.store c with
  | none => .error .load
  | some blk => .ok (some blk)

theorem fetch_error {cfg : Cfg} {c : Bytes} {e : Err} (h : fetch cfg c = .error e) : e = .load := by
  unfold fetch at h
  split at h
  · cases h
  · split at h <;> cases h
    rfl

theorem fetch_some {cfg : Cfg} {c : Bytes} {blk : DM} (h : fetch cfg c = .ok (some blk)) :
    storeGet cfg.store c = some blk ∧ cfg.skip.contains c = false := by
  unfold fetch at h
  split at h
  · cases h
  · rename_i hk
    split at h <;> cases h
    exact ⟨by assumption, by simpa using hk⟩

theorem linkStep_eq (cfg : Cfg) (c : Bytes) (st : St) :
    linkStep cfg c st =
      if cfg.linkOnce && st.seen.contains c then (st, .ok none) else
      match checkLink (markSeen cfg c st) with
      | .error e => (markSeen cfg c st, .error e)
      | .ok st2 => ({ st2 with events := .load c :: st2.events }, fetch cfg c) := by
  unfold linkStep fetch markSeen
  split
  · rfl
  · dsimp only
    cases checkLink (if cfg.linkOnce = true then { st with seen := c :: st.seen } else st) with
    | error e => rfl
    | ok st2 =>
      dsimp only
      split
      · rfl
      · split <;> rfl

def enterChild (cfg : Cfg) (fuel : Nat) (past : Bool) (path' : Path) (v : DM) (sNext : S) (st : St) : WR :=
  match v with
  | .link c =>
    match linkStep cfg c st with
    | (st', .error e) => (st', .error e)
    | (st', .ok none) => (st', .ok ())
    | (st', .ok (some blk)) => walkAdv cfg fuel past path' blk sNext st'
  | _ => walkAdv cfg fuel past path' v sNext st

theorem enterChild_nonlink {cfg : Cfg} {fuel : Nat} {past : Bool} {path' : Path} {v : DM} (h : ∀ c, v ≠ .link c)
    {sNext : S} {st : St} : enterChild cfg fuel past path' v sNext st = walkAdv cfg fuel past path' v sNext st := by
  cases v <;> first | rfl | exact absurd rfl (h _)

def andThen (r : WR) (f : St → WR) : WR :=
  match r with
  | (st', .error e) => (st', .error e)
  | (st', .ok ()) => f st'

@[simp] theorem andThen_error (st : St) (e : Err) (f : St → WR) : andThen (st, .error e) f = (st, .error e) := rfl
@[simp] theorem andThen_ok (st : St) (f : St → WR) : andThen (st, .ok ()) f = f st := rfl

theorem walkAdv_zero (cfg : Cfg) (past : Bool) (path : Path) (n : DM) (s : S) (st : St) :
    walkAdv cfg 0 past path n s st = (st, .error .fuel) := by rw [walkAdv]

theorem walkAdv_succ (cfg : Cfg) (fuel : Nat) (past : Bool) (path : Path) (n : DM) (s : S) (st : St) :
    walkAdv cfg (fuel + 1) past path n s st =
      match checkNode st with
      | .error e => (st, .error e)
      | .ok st1 =>
        if needsAdl s then (st1, .error .reify) else
        if !isRecursive n then (visitSt cfg past path n s st1, .ok ()) else
        walkChildren cfg fuel path n s (childList n s) { past := past } (visitSt cfg past path n s st1) := by
  rw [walkAdv]
  cases checkNode st with
  | error e => rfl
  | ok st1 =>
    simp only
    by_cases hi : needsAdl s = true
    · cases s <;> simp [needsAdl] at hi
      simp [needsAdl]
    · -- `simp only` needs `hs` in the context to take the second arm of the match on `s`
      have hs : ∀ a b, s ≠ .interpretAs a b := by
        intro a b h; subst h; simp [needsAdl] at hi
      rw [if_neg hi]
      simp only [visitSt, visitEvent, childList]
      cases matchNode s n <;> cases interests s <;> cases (!isRecursive n) <;>
        cases (!past && decide (path.length < cfg.startAt.length)) <;> rfl

def enterNode (cfg : Cfg) (past : Bool) (path : Path) (n : DM) (s : S) (st : St) : WR :=
  match checkNode st with
  | .error e => (st, .error e)
  | .ok st1 => if needsAdl s then (st1, .error .reify) else (visitSt cfg past path n s st1, .ok ())

theorem walkAdv_enter (cfg : Cfg) (fuel : Nat) (past : Bool) (path : Path) (n : DM) (s : S) (st : St) :
    walkAdv cfg (fuel + 1) past path n s st = andThen (enterNode cfg past path n s st) fun st2 =>
      if !isRecursive n then (st2, .ok ()) else walkChildren cfg fuel path n s (childList n s) { past := past } st2 := by
  rw [walkAdv_succ, enterNode]
  cases checkNode st with
  | error e => rfl
  | ok st1 => dsimp only; split <;> rfl

theorem walkChildren_zero (cfg : Cfg) (path : Path) (n : DM) (s : S) (l : List (Seg × DM)) (lp : Loop)
    (st : St) : walkChildren cfg 0 path n s l lp st = (st, .error .fuel) := by rw [walkChildren]

theorem walkChildren_nil (cfg : Cfg) (fuel : Nat) (path : Path) (n : DM) (s : S) (lp : Loop)
    (st : St) : walkChildren cfg (fuel + 1) path n s [] lp st = (st, .ok ()) := by rw [walkChildren]

theorem walkChildren_cons (cfg : Cfg) (fuel : Nat) (path : Path) (n : DM) (s : S) (ps : Seg) (v : DM)
    (rest : List (Seg × DM)) (lp : Loop) (st : St) :
    walkChildren cfg (fuel + 1) path n s ((ps, v) :: rest) lp st =
      if (loopStep cfg path lp ps).1 then walkChildren cfg fuel path n s rest (loopStep cfg path lp ps).2 st
      else andThen (exploreChild cfg fuel (loopStep cfg path lp ps).2.past path n s ps v st)
        fun st' => walkChildren cfg fuel path n s rest (loopStep cfg path lp ps).2 st' := by
  rw [walkChildren]
  rfl

theorem exploreChild_zero (cfg : Cfg) (past : Bool) (path : Path) (n : DM) (s : S) (ps : Seg) (v : DM)
    (st : St) : exploreChild cfg 0 past path n s ps v st = (st, .error .fuel) := by rw [exploreChild]

theorem exploreChild_succ (cfg : Cfg) (fuel : Nat) (past : Bool) (path : Path) (n : DM) (s : S) (ps : Seg)
    (v : DM) (st : St) :
    exploreChild cfg (fuel + 1) past path n s ps v st =
      match explore s n ps with
      | .error .panic => (st, .error .panic)
      | .error .error => (st, .error .selector)
      | .ok none => (st, .ok ())
      | .ok (some sNext) => enterChild cfg fuel past (path ++ [ps]) v sNext st := by
  rw [exploreChild]
  cases explore s n ps with
  | error e => cases e <;> rfl
  | ok o =>
    cases o with
    | none => rfl
    | some sNext =>
      cases v with
      | link c =>
        unfold enterChild
        unfold linkStep
        dsimp only
        split
        · rfl
        · cases checkLink (if cfg.linkOnce = true then { st with seen := c :: st.seen } else st) with
          | error e => rfl
          | ok st2 =>
            dsimp only
            split
            · rfl
            · cases storeGet cfg.store c <;> rfl
      | _ => rfl

theorem walk_events (cfg : Cfg) (fuel : Nat) (nb lb : Option Int) (root : DM) (s : S) :
    (walk cfg fuel nb lb root s).events =
      (walkAdv cfg fuel false [] root s { nodeBudget := nb, linkBudget := lb }).1.events.reverse := rfl

theorem walk_outcome (cfg : Cfg) (fuel : Nat) (nb lb : Option Int) (root : DM) (s : S) :
    (walk cfg fuel nb lb root s).outcome =
      (walkAdv cfg fuel false [] root s { nodeBudget := nb, linkBudget := lb }).2 := rfl

theorem visitsOf_reverse (es : List Event) : visitsOf es.reverse = (visitsOf es).reverse := by
  simp [visitsOf, List.filterMap_reverse]

theorem visitsOf_append (a b : List Event) : visitsOf (a ++ b) = visitsOf a ++ visitsOf b := by
  simp [visitsOf]

theorem visitsOf_cons_visit (p : Path) (m : DM) (r : Reason) (es : List Event) :
    visitsOf (.visit p m r :: es) = (p, m, r) :: visitsOf es := rfl

theorem loadsOf_append (a b : List Event) : loadsOf (a ++ b) = loadsOf a ++ loadsOf b := by
  simp [loadsOf]

theorem loadsOf_reverse (es : List Event) : loadsOf es.reverse = (loadsOf es).reverse := by
  simp [loadsOf, List.filterMap_reverse]

theorem loadsOf_cons_load (c : Bytes) (es : List Event) : loadsOf (.load c :: es) = c :: loadsOf es := rfl

theorem visitsOf_snoc_load (es : List Event) (c : Bytes) : visitsOf (es ++ [.load c]) = visitsOf es := by
  rw [visitsOf_append]; simp [visitsOf]

theorem mem_visitsOf (es : List Event) (x : Path × DM × Reason) :
    x ∈ visitsOf es ↔ .visit x.1 x.2.1 x.2.2 ∈ es := by
  unfold visitsOf
  rw [List.mem_filterMap]
  constructor
  · rintro ⟨e, he, h⟩
    cases e with
    | load c => cases h
    | visit p m r => simp only [Option.some.injEq] at h; subst h; exact he
  · intro h; exact ⟨_, h, rfl⟩

theorem mem_loadsOf {es : List Event} {c : Bytes} : c ∈ loadsOf es ↔ Event.load c ∈ es := by
  unfold loadsOf
  rw [List.mem_filterMap]
  constructor
  · rintro ⟨e, he, hx⟩
    cases e with
    | load c' => cases hx; exact he
    | visit p n r => cases hx
  · exact fun h => ⟨_, h, rfl⟩

theorem mem_matchesOf {es : List Event} {p : Path} {m : DM} : (p, m) ∈ matchesOf es ↔ Event.visit p m .matched ∈ es := by
  unfold matchesOf
  rw [List.mem_filterMap]
  constructor
  · rintro ⟨e, he, hx⟩
    cases e with
    | load c => cases hx
    | visit q n r => cases r <;> cases hx; exact he
  · exact fun h => ⟨_, h, rfl⟩

end Walk
end Ipld

/-
  Representation-level assemblers: erasing the refused calls from a history - the machine of Model/ReprAssembler.lean as
  an instance of Lemmas/EraseHistory.lean.
-/
import IpldModel.Lemmas.ReprAssembler
namespace Ipld
namespace RAsm
open Ipld.Asm (Op Out ErrClass)
open Ipld.TAsm (Call)

/-- `eraseFrom e s pend h`: the accepted calls of `h` (run from `s`).  Every call that is refused is dropped.  An
    accepted `AssembleKey` is held back in `pend` until the key assembler it returned has either accepted a key (then it
    is emitted, followed by that call) or ended by refusing one (a repeated key; a key that cannot get a value under
    `unknownAtKey`) - then it is dropped too, because the map / struct assembler is back where it was before the
    `AssembleKey`.  Wrong-kind refusals by the key assembler leave it waiting. -/
def eraseFrom (e : Engine) (s : St) (pend : List Op) : List Op → List Op
  | [] => pend
  | op :: ops =>
    match step e s op with
    | (s', .ok) =>
        if op = .assembleKey then pend ++ eraseFrom e s' [op] ops
        else pend ++ op :: eraseFrom e s' [] ops
    | (s', .err _) =>
        if inKey s && !inKey s' then eraseFrom e s' [] ops else eraseFrom e s' pend ops
    | (s', .panic) => eraseFrom e s' pend ops

/-- the history with every refused call (and every `AssembleKey` whose key assembler ended by a refusal) erased -/
def erase (e : Engine) (s : St) (h : List Op) : List Op := eraseFrom e s [] h

theorem eraseFrom_eq_hist (e : Engine) : eraseFrom e = Hist.eraseFrom (step e) inKey := by
  funext s pend h
  induction h generalizing s pend with
  | nil => rfl
  | cons op ops ih =>
    simp only [eraseFrom, Hist.eraseFrom, ih]
    rcases step e s op with ⟨s', _ | _ | _⟩ <;> rfl

end RAsm
end Ipld

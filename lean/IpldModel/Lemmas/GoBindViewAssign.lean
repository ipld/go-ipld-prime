/-
  A well-typed Go value of a compatible type can be read in full, and what it shows conforms to
  the schema type, is its own normal form and is rebuilt into the normalised Go value (`view_sound`, by mutual
  structural recursion on the Go value).
-/
import IpldModel.Lemmas.GoBindCases
import IpldModel.Lemmas.SchemaNorm
namespace Ipld
namespace GoBind
open Schema

theorem toDMs_ofDMs : (xs : DMs) → TLs.toDMs? (TLs.ofDMs xs) = some xs := Schema.toDMs_ofDMs
theorem toDMKVs_ofDMKVs : (es : DMKVs) → TLKVs.toDMKVs? (TLKVs.ofDMKVs es) = some es := Schema.toDMKVs_ofDMKVs

/-- one pointer more on a slot that is not nullable: the same base type, one fresh pointer more around what is stored -/
theorem assignC_ptr {g1 : GoTy} {t : Ty} (nul : Bool) {v : TL} {a : GoVal} (hc : compatible g1 t false = true)
    (h : assignC g1 t false v = some a) : assignC (.ptr g1) t nul v = some (.ptr a) := by
  obtain ⟨g0, x, hu, hs, rfl⟩ := assignC_stored h fun hn => by subst hn; cases h
  obtain ⟨hu', hw⟩ : unptr nul (.ptr g1) = some g0 ∧ wrapFor (.ptr g1) x = .ptr (wrapFor g1 x) := by
    rcases notPtr_cases g1 with ⟨b, rfl⟩ | hg
    · rw [compatible_ptr_eq, Bool.and_eq_true] at hc
      rw [unptr_ptr false hc.1] at hu
      exact ⟨hu, by rw [wrapFor_ptr x hc.1]; rfl⟩
    · rw [unptr_of_notPtr false hg] at hu
      exact ⟨(unptr_ptr nul hg).trans hu, by rw [wrapFor_ptr x hg, wrapFor_notPtr x hg]⟩
  exact hw ▸ hs.assignC hu'

theorem norm_nilPtrs : (n : Nat) → (nilPtrs n).norm = nilPtrs n
  | 0 => rfl
  | n + 1 => by simp [nilPtrs, GoVals.norm, GoVal.norm, norm_nilPtrs n]

theorem allNil_eq : (gfs : GoFields) → (ms : List Member) → (xs : GoVals) → allNil gfs ms xs = true →
    xs = nilPtrs gfs.length
  | .nil, [], .nil, _ => rfl
  | .cons _ g gfs, _ :: ms, .cons x xs, h => by
    cases g <;> first | cases h | skip
    cases x <;> first | cases h | skip
    exact congrArg (GoVals.cons .nilPtr) (allNil_eq gfs ms xs h)
  | .nil, [], .cons _ _, h | .nil, _ :: _, _, h | .cons _ _ _, [], _, h | .cons _ _ _, _ :: _, .nil, h => by cases h

theorem lookup_norm : (vals : GoKVs) → (k : Bytes) → vals.norm.lookup k = (vals.lookup k).map GoVal.norm
  | .nil, _ => rfl
  | .cons k0 v es, k => by
    simp only [GoKVs.norm, GoKVs.lookup]
    split
    · rfl
    · exact lookup_norm es k

theorem normalizeMap_ofList (vt : Ty) (es : List (Bytes × TL)) (h : ∀ e ∈ es, normalize vt e.2 = e.2) :
    normalizeMap vt (TLKVs.ofList es) = TLKVs.ofList es := by
  rw [normalizeMap_map, map_eq_self fun e he => by rw [h e he]]

theorem assignKVs_ofList (g : GoTy) (t : Ty) (nul : Bool) (vals : GoKVs) : (es : List (Bytes × TL)) →
    (∀ e ∈ es, ∃ x, vals.lookup e.1 = some x ∧ assignC g t nul e.2 = some x.norm) →
    assignKVs g t nul (TLKVs.ofList es) =
      some (GoKVs.ofList ((es.map (·.1)).filterMap fun k => (vals.norm.lookup k).map fun v => (k, v)))
  | [], _ => rfl
  | (k, v) :: es, h => by
    obtain ⟨x, hx, hax⟩ := h (k, v) List.mem_cons_self
    have ih := assignKVs_ofList g t nul vals es (fun e he => h e (List.mem_cons_of_mem _ he))
    simp only [TLKVs.ofList_cons, assignKVs, hax, ih, zipSome_some, List.map_cons, List.filterMap_cons,
      lookup_norm, hx, Option.map_some, GoKVs.ofList]

def normOK : List Field → List (Bytes × TL) → Prop
  | [], [] => True
  | f :: fs, e :: es => normalize f.ty e.2 = e.2 ∧ normOK fs es
  | _, _ => False

theorem normalizeStruct_self (F : List Field) (hnd : (F.map (·.name)).Nodup) : (suf : List Field) →
    (es : List (Bytes × TL)) → (∀ f ∈ suf, f ∈ F) → entriesOK suf es → normOK suf es →
    normalizeStruct F (TLKVs.ofList es) = TLKVs.ofList es
  | [], [], _, _, _ => rfl
  | [], _ :: _, _, h, _ | _ :: _, [], _, h, _ => h.elim
  | f :: suf, (k, v) :: es, hsub, hE, hN => by
    simp only [entriesOK] at hE
    simp only [normOK] at hN
    obtain ⟨hk, _, hE'⟩ := hE
    have hk' : k = f.name := hk
    subst hk'
    have hfind := find?_key_of_mem (·.name) hnd f (hsub f List.mem_cons_self)
    simp only [TLKVs.ofList_cons, normalizeStruct, hfind, hN.1,
      normalizeStruct_self F hnd suf es (fun f' hf' => hsub f' (List.mem_cons_of_mem _ hf')) hE' hN.2]

theorem normalize_struct_self (fs : Fields) (sr : StructRepr) (hnd : (fs.toList.map (·.name)).Nodup)
    (ws : TLKVs) (hE : entriesOK fs.toList ws.toList) (hN : normOK fs.toList ws.toList) :
    normalize (.struct fs sr) (.map ws) = .map ws := by
  have h1 := normalizeStruct_self fs.toList hnd fs.toList ws.toList (fun _ h => h) hE hN
  rw [TLKVs.ofList_toList] at h1
  have h2 := canonFields_self fs.toList ws.toList (entriesOK_keys _ _ hE) hnd
  simp only [normalize, h1, h2, TLKVs.ofList_toList]

theorem findIdx_name {ms : List Member} (hnd : (ms.map (·.name)).Nodup) {i : Nat} {m : Member} (h : ms[i]? = some m) :
    ms.find? (fun m' => m'.name == m.name) = some m ∧ findIdx (fun m' => m'.name == m.name) ms = some (i, m) := by
  have hfind := find?_key_of_mem (·.name) hnd m (List.mem_of_getElem? h)
  obtain ⟨i', hfi, hi'⟩ := findIdx_of_find? hfind
  have hlt : i' < (ms.map (·.name)).length := by
    rw [List.length_map]; exact (List.getElem?_eq_some_iff.1 hi').1
  have : i' = i := (List.getElem?_inj hlt hnd).1 (by rw [List.getElem?_map, List.getElem?_map, hi', h])
  exact ⟨hfind, this ▸ hfi⟩

/-- nil, a scalar, a `Node` -/
def leaf : GoVal → Bool
  | .ptr _ | .slice _ | .struct _ | .omap _ _ _ => false
  | _ => true

theorem view_leaf {g : GoTy} {t : Ty} {nul : Bool} {x : GoVal} (hwt : wt g t nul x = true) (hx : leaf x = true) :
    ∃ v, view g t nul x = some v ∧
      (t.wf = true → conforms t nul v = true ∧ normalize t v = v ∧ assignC g t nul v = some x.norm) := by
  cases x with
  | ptr _ | slice _ | struct _ | omap _ _ _ => cases hx
  | nilPtr =>
    unfold wt at hwt
    rw [Bool.and_eq_true] at hwt
    obtain ⟨rfl, h⟩ := hwt
    split at h
    · exact ⟨.null, rfl, fun _ => ⟨rfl, rfl, rfl⟩⟩
    · cases h
  | nilBare =>
    unfold wt at hwt
    rw [Bool.and_eq_true] at hwt
    obtain ⟨rfl, hb⟩ := hwt
    exact ⟨.null, view_nilBare hb, fun _ => ⟨rfl, rfl, assignC_null_bare hb⟩⟩
  | bool _ | float _ | nilSlice =>
    unfold wt at hwt
    simp only [Bool.and_eq_true, Bool.not_eq_true'] at hwt
    obtain ⟨rfl, h⟩ := hwt
    split at h
    · exact ⟨_, rfl, fun _ => ⟨rfl, rfl, rfl⟩⟩
    · cases h
  | bytes b =>
    unfold wt at hwt
    rw [Bool.and_eq_true] at hwt
    obtain ⟨_, h⟩ := hwt
    split at h
    · exact ⟨.bytes b, by cases nul <;> rfl, fun _ => ⟨rfl, rfl, by cases nul <;> rfl⟩⟩
    · cases h
  | node d =>
    unfold wt at hwt
    rw [Bool.and_eq_true] at hwt
    obtain ⟨_, h⟩ := hwt
    split at h
    · exact ⟨TL.ofDM d, by cases nul <;> rfl, fun _ => ⟨conforms_mono_nul h, normalize_any _,
        (Stored.node (toDM_ofDM d) (fun hn => by rw [hn] at h; cases h)).assignC (unptr_bare nul rfl)⟩⟩
    · cases h
  | link c =>
    unfold wt at hwt
    rw [Bool.and_eq_true] at hwt
    obtain ⟨hn, h⟩ := hwt
    split at h
    · rename_i f
      exact ⟨.link c, (by cases nul <;> cases f <;> first | rfl | cases hn),
        fun _ => ⟨rfl, rfl, by cases nul <;> cases f <;> first | rfl | cases hn⟩⟩
    · cases h
  | str s =>
    unfold wt at hwt
    simp only [Bool.and_eq_true, Bool.not_eq_true'] at hwt
    obtain ⟨rfl, h⟩ := hwt
    split at h
    · exact ⟨_, rfl, fun _ => ⟨rfl, rfl, rfl⟩⟩
    · exact ⟨_, rfl, fun _ => ⟨h, rfl, (Stored.enumStr h).assignC rfl⟩⟩
    · cases h
  | int i =>
    unfold wt at hwt
    simp only [Bool.and_eq_true, Bool.not_eq_true'] at hwt
    obtain ⟨rfl, h⟩ := hwt
    split at h
    · exact ⟨_, rfl, fun _ => ⟨rfl, rfl, (Stored.int h).assignC rfl⟩⟩
    · -- an enum held as its representation int: shown as the first member with that int, which has the name stored
      rename_i k ms
      rw [Bool.and_eq_true] at h
      obtain ⟨m, hm⟩ := Option.isSome_iff_exists.1 (List.find?_isSome.2 (List.any_eq_true.1 h.2))
      refine ⟨.str m.name, by rw [view_enum_int, hm]; rfl, fun hwf => ?_⟩
      obtain ⟨hmem, hri⟩ := find?_mem_key hm
      refine ⟨List.any_eq_true.2 ⟨m, hmem, beq_self_eq_true _⟩, rfl, ?_⟩
      cases (show m.rint = i from hri)
      exact (Stored.enumInt (find?_key_of_mem (·.name) (wf_enum hwf) m hmem) h.1).assignC rfl
    · cases h

mutual
theorem view_sound : (gv : GoVal) → (g : GoTy) → (t : Ty) → (nul : Bool) → compatible g t nul = true →
    wt g t nul gv = true → ∃ v, view g t nul gv = some v ∧
      (t.wf = true → conforms t nul v = true ∧ normalize t v = v ∧ assignC g t nul v = some gv.norm)
  | .nilPtr, g, t, nul, _, hwt | .nilBare, g, t, nul, _, hwt | .nilSlice, g, t, nul, _, hwt
  | .bool _, g, t, nul, _, hwt | .int _, g, t, nul, _, hwt | .float _, g, t, nul, _, hwt | .str _, g, t, nul, _, hwt
  | .bytes _, g, t, nul, _, hwt | .link _, g, t, nul, _, hwt | .node _, g, t, nul, _, hwt => view_leaf hwt rfl
  | .ptr x, g, t, nul, hc, hwt => by
    obtain ⟨g1, rfl, hx⟩ := wt_ptr hwt
    have hc1 := compatible_ptr hc
    obtain ⟨v, hv, h⟩ := view_sound x g1 t false hc1 hx
    refine ⟨v, hv, fun hwf => ?_⟩
    obtain ⟨h1, h2, h3⟩ := h hwf
    exact ⟨conforms_mono_nul h1, h2, assignC_ptr nul hc1 h3⟩
  | .slice xs, g, t, nul, hc, hwt => by
    obtain ⟨ge, et, enul, rfl, rfl, hxs⟩ := wt_slice hwt
    rw [compatible_slice] at hc
    obtain ⟨ws, hws, h⟩ := viewList_sound xs ge et enul hc hxs
    refine ⟨.list ws, by rw [view_slice, hws]; rfl, fun hwf => ?_⟩
    obtain ⟨h1, h2, h3⟩ := h hwf
    refine ⟨(conforms_list_list et enul nul ws).trans h1, by simp only [normalize, h2], ?_⟩
    exact (Stored.list h3).assignC (unptr_bare nul rfl)
  | .struct vs, g, t, nul, hc, hwt => by
    obtain ⟨rfl, gfs, rfl, ⟨fs, sr, rfl, hvs⟩ | ⟨ms, ur, rfl, hvs⟩⟩ := wt_struct hwt
    · rw [compatible_struct] at hc
      obtain ⟨ws, hws, h⟩ := viewFields_sound vs gfs fs.toList hc hvs
      refine ⟨.map ws, by rw [view_struct, hws]; rfl, fun hwf => ?_⟩
      have hw3 := wf_struct hwf
      obtain ⟨hE, hN, hA⟩ := h hw3.1
      refine ⟨?_, normalize_struct_self fs sr hw3.2.1 ws hE hN, ?_⟩
      · have := conforms_struct_of_entriesOK fs sr false hw3.2.1 ws.toList hE
        rwa [TLKVs.ofList_toList] at this
      · exact (Stored.struct hA).assignC rfl
    · rw [compatible_union] at hc
      obtain ⟨v, hv, h⟩ := viewUnion_sound vs gfs ms.toList hc hvs
      refine ⟨v, hv, fun hwf => ?_⟩
      have hw3 := wf_union hwf
      obtain ⟨i, g1, m, a, x, hg1, hmi, rfl, h1, h2, h3, h4⟩ := h hw3.1
      obtain ⟨hfind, hfi⟩ := findIdx_name hw3.2 hmi
      refine ⟨?_, ?_, ?_⟩
      · rw [conforms_union_map, hfind]; exact h1
      · simp only [normalize, hfind, h2]
      · exact ((Stored.union hfi hg1 h3).assignC rfl).trans (congrArg (some ∘ GoVal.struct) h4.symm)
  | .omap keys vnil vals, g, t, nul, hc, hwt => by
    obtain ⟨rfl, gv0, vt, vnul, rfl, rfl, hnk, hsub, hwk⟩ := wt_omap hwt
    rw [compatible_omap] at hc
    obtain ⟨tvs, h3, hkeys, hall⟩ := viewKVs_sound vals gv0 vt vnul hc hwk
    obtain ⟨es, hes⟩ := lookupAll_total tvs (keys.getD []) (hkeys ▸ hsub)
    refine ⟨_, by rw [view_omap, h3, Option.bind_some, hes]; rfl, fun hwf => ?_⟩
    replace hall := hall hwf
    obtain ⟨hesk, hesl⟩ := lookupAll_spec tvs _ es hes
    have hnd : (es.map (·.1)).Nodup := by rw [hesk]; exact nodupBytes_iff.1 hnk
    refine ⟨?_, ?_, ?_⟩
    · exact conforms_map_ofList vt vnul es hnd fun e he => (hall e.1 e.2 (hesl e he)).1
    · simp only [normalize, normalizeMap_ofList vt es (fun e he => (hall e.1 e.2 (hesl e he)).2.1)]
    · have := assignKVs_ofList gv0 vt vnul vals es (fun e he => (hall e.1 e.2 (hesl e he)).2.2)
      rw [(Stored.omap this).assignC rfl, keysOf_ofList, hesk]
      rfl
theorem viewList_sound : (xs : GoVals) → (g : GoTy) → (t : Ty) → (nul : Bool) → compatible g t nul = true →
    wtList g t nul xs = true → ∃ ws, viewList g t nul xs = some ws ∧
      (t.wf = true → conformsList t nul ws = true ∧ normalizeList t ws = ws ∧ assignList g t nul ws = some xs.norm)
  | .nil, g, t, nul, _, _ => ⟨.nil, rfl, fun _ => ⟨rfl, rfl, rfl⟩⟩
  | .cons x xs, g, t, nul, hc, hwt => by
    rw [wtList_cons, Bool.and_eq_true] at hwt
    obtain ⟨a, ha, h⟩ := view_sound x g t nul hc hwt.1
    obtain ⟨r, hr, h'⟩ := viewList_sound xs g t nul hc hwt.2
    refine ⟨.cons a r, by rw [viewList_cons, ha, hr]; rfl, fun hwf => ?_⟩
    obtain ⟨h1, h2, h3⟩ := h hwf
    obtain ⟨h4, h5, h6⟩ := h' hwf
    exact ⟨by rw [conformsList, h1, h4]; rfl, by rw [normalizeList, h2, h5], by rw [assignList_cons, h3, h6]; rfl⟩
theorem viewKVs_sound : (vals : GoKVs) → (g : GoTy) → (t : Ty) → (nul : Bool) → compatible g t nul = true →
    wtKVs g t nul vals = true → ∃ tvs, viewKVs g t nul vals = some tvs ∧ tvs.map (·.1) = vals.keys ∧
      (t.wf = true → ∀ k tv, tvs.lookup k = some tv → conforms t nul tv = true ∧ normalize t tv = tv ∧
        ∃ x, vals.lookup k = some x ∧ assignC g t nul tv = some x.norm)
  | .nil, g, t, nul, _, _ => ⟨[], rfl, rfl, fun _ _ _ hl => by cases hl⟩
  | .cons k0 x es, g, t, nul, hc, hwt => by
    rw [wtKVs_cons, Bool.and_eq_true] at hwt
    obtain ⟨a, ha, h⟩ := view_sound x g t nul hc hwt.1
    obtain ⟨r, hr, hk, h'⟩ := viewKVs_sound es g t nul hc hwt.2
    refine ⟨(k0, a) :: r, by rw [viewKVs_cons, ha, hr]; rfl, congrArg (k0 :: ·) hk, fun hwf k tv hl => ?_⟩
    by_cases hk : k = k0
    · subst hk
      simp only [List.lookup, beq_self_eq_true, Option.some.injEq] at hl
      subst hl
      obtain ⟨h1, h2, h3⟩ := h hwf
      exact ⟨h1, h2, x, by simp only [GoKVs.lookup, beq_self_eq_true, if_true], h3⟩
    · have h1 : (k == k0) = false := beq_false_of_ne hk
      have h2 : (k0 == k) = false := beq_false_of_ne fun e => hk e.symm
      simp only [List.lookup, h1] at hl
      obtain ⟨h3, h4, y, hy, h5⟩ := h' hwf k tv hl
      exact ⟨h3, h4, y, by simp only [GoKVs.lookup, h2, Bool.false_eq_true, if_false, hy], h5⟩
theorem viewFields_sound : (vs : GoVals) → (gfs : GoFields) → (fs : List Field) → compatFields gfs fs = true →
    wtFields gfs fs vs = true → ∃ ws, viewFields gfs fs vs = some ws ∧
      ((∀ f ∈ fs, f.ty.wf = true) →
        entriesOK fs ws.toList ∧ normOK fs ws.toList ∧ assignFields gfs fs ws = some vs.norm)
  | .nil, .nil, [], _, _ => ⟨.nil, rfl, fun _ => ⟨trivial, trivial, rfl⟩⟩
  | .nil, .nil, _ :: _, _, hwt | .nil, .cons _ _ _, [], _, hwt | .nil, .cons _ _ _, _ :: _, _, hwt
  | .cons _ _, .nil, [], _, hwt | .cons _ _, .nil, _ :: _, _, hwt | .cons _ _, .cons _ _ _, [], _, hwt => by cases hwt
  | .cons x xs, .cons n g gfs, f :: fs, hc, hwt => by
    rw [wtFields_cons, Bool.and_eq_true] at hwt
    obtain ⟨hx, hxs⟩ := hwt
    rw [compatFields_cons, Bool.and_eq_true, Bool.and_eq_true] at hc
    obtain ⟨r, hr, h'⟩ := viewFields_sound xs gfs fs hc.2 hxs
    suffices ∃ a, viewField g f x = some a ∧
        (f.ty.wf = true → fieldValOK f a = true ∧ normalize f.ty a = a ∧ assignField g f a = some x.norm) by
      obtain ⟨a, ha, h⟩ := this
      refine ⟨.cons f.name a r, by rw [viewFields_cons, ha, hr]; rfl, fun hwf => ?_⟩
      obtain ⟨k1, k2, k3⟩ := h (hwf f List.mem_cons_self)
      obtain ⟨h4, h5, h6⟩ := h' fun f' hf' => hwf f' (List.mem_cons_of_mem _ hf')
      exact ⟨⟨rfl, k1, h4⟩, ⟨k2, h5⟩,
        by rw [assignFields_cons, k3, h6]; simp only [bne_self_eq_false, Bool.false_eq_true, if_false]; rfl⟩
    rcases compatField_cases hc.1.2 with ⟨hs, _, hcg⟩ | ⟨g1, hs, rfl, ho, hcg⟩ | ⟨hs, ho, hn, _, hcg⟩ <;>
      simp only [wtField, viewField, assignField, hs] at hx ⊢
    · obtain ⟨a, ha, h⟩ := view_sound x g f.ty f.nullable hcg hx
      exact ⟨a, ha, fun hwf => ⟨fieldValOK_of_conforms (h hwf).1, (h hwf).2⟩⟩
    · cases x with
      | nilPtr => exact ⟨.absent, rfl, fun _ => ⟨ho, rfl, rfl⟩⟩
      | ptr v =>
        obtain ⟨a, ha, h⟩ := view_sound v g1 f.ty f.nullable hcg hx
        refine ⟨a, ha, fun hwf => ?_⟩
        obtain ⟨h1, h2, h3⟩ := h hwf
        exact ⟨fieldValOK_of_conforms h1, h2, by rw [if_neg (conforms_ne_absent h1), h3]; rfl⟩
      | _ => cases hx
    · by_cases hnb : x = .nilBare
      · subst hnb
        exact ⟨.absent, rfl, fun _ => ⟨ho, rfl, rfl⟩⟩
      · rw [if_neg hnb]
        simp only [hnb, decide_false, Bool.false_or, Bool.and_eq_true] at hx
        obtain ⟨a, ha, h⟩ := view_sound x g f.ty false hcg hx.2
        refine ⟨a, ha, fun hwf => ?_⟩
        obtain ⟨h1, h2, h3⟩ := h hwf
        exact ⟨fieldValOK_of_conforms (hn ▸ h1), h2, by rw [if_neg (conforms_ne_absent h1), h3]⟩
theorem viewUnion_sound : (vs : GoVals) → (gfs : GoFields) → (ms : List Member) → compatMembers gfs ms = true →
    wtUnion gfs ms vs = true → ∃ v, viewUnion gfs ms vs = some v ∧
      ((∀ m ∈ ms, m.ty.wf = true) →
        ∃ i g1 m a x, gfs.get? i = some (.ptr g1) ∧ ms[i]? = some m ∧ v = .map (.cons m.name a .nil) ∧
          conforms m.ty false a = true ∧ normalize m.ty a = a ∧ assignC g1 m.ty false a = some x ∧
          vs.norm = unionVals gfs.length i x)
  | .nil, .nil, [], _, hwt | .nil, .nil, _ :: _, _, hwt | .nil, .cons _ _ _, [], _, hwt
  | .nil, .cons _ _ _, _ :: _, _, hwt | .cons _ _, .nil, [], _, hwt | .cons _ _, .nil, _ :: _, _, hwt
  | .cons _ _, .cons _ _ _, [], _, hwt => by cases hwt
  | .cons x xs, .cons n g gfs, m :: ms, hc, hwt => by
    obtain ⟨g1, rfl, hc1, hcr⟩ := compatMembers_cons_inv hc
    cases x with
    | nilPtr =>
      obtain ⟨v, hv, h⟩ := viewUnion_sound xs gfs ms hcr hwt
      refine ⟨v, hv, fun hwf => ?_⟩
      obtain ⟨i, g1, m', a, y, hg1, hmi, rfl, h1, h2, h3, h4⟩ := h fun m' hm' => hwf m' (List.mem_cons_of_mem _ hm')
      exact ⟨i + 1, g1, m', a, y, hg1, hmi, rfl, h1, h2, h3, congrArg (GoVals.cons .nilPtr) h4⟩
    | ptr w =>
      rw [wtUnion_cons_ptr, Bool.and_eq_true] at hwt
      obtain ⟨a, ha, h⟩ := view_sound w g1 m.ty false hc1 hwt.1
      refine ⟨_, congrArg (Option.map _) ha, fun hwf => ?_⟩
      obtain ⟨h1, h2, h3⟩ := h (hwf m List.mem_cons_self)
      refine ⟨0, g1, m, a, w.norm, rfl, rfl, rfl, h1, h2, h3, ?_⟩
      rw [GoVals.norm, GoVal.norm, allNil_eq gfs ms xs hwt.2, norm_nilPtrs]
      rfl
    | _ => cases hwt
end

theorem view_good (gv : GoVal) (g : GoTy) (t : Ty) (nul : Bool) (hwf : t.wf = true) (hc : compatible g t nul = true)
    (hwt : wt g t nul gv = true) (v : TL) (hv : view g t nul gv = some v) :
    conforms t nul v = true ∧ normalize t v = v ∧ assignC g t nul v = some gv.norm := by
  obtain ⟨v', hv', h⟩ := view_sound gv g t nul hc hwt
  cases hv'.symm.trans hv
  exact h hwf

theorem viewList_isSome : (xs : GoVals) → (g : GoTy) → (t : Ty) → (nul : Bool) →
    compatible g t nul = true → wtList g t nul xs = true → ∃ ws, viewList g t nul xs = some ws :=
  fun xs g t nul hc hwt => (viewList_sound xs g t nul hc hwt).imp fun _ h => h.1

theorem viewKVs_isSome : (vals : GoKVs) → (g : GoTy) → (t : Ty) → (nul : Bool) →
    compatible g t nul = true → wtKVs g t nul vals = true →
    ∃ tvs, viewKVs g t nul vals = some tvs ∧ tvs.map (·.1) = vals.keys :=
  fun vals g t nul hc hwt => (viewKVs_sound vals g t nul hc hwt).imp fun _ h => ⟨h.1, h.2.1⟩

theorem viewFields_isSome : (vs : GoVals) → (gfs : GoFields) → (fs : List Field) →
    compatFields gfs fs = true → wtFields gfs fs vs = true → ∃ ws, viewFields gfs fs vs = some ws :=
  fun vs gfs fs hc hwt => (viewFields_sound vs gfs fs hc hwt).imp fun _ h => h.1

theorem viewUnion_isSome : (vs : GoVals) → (gfs : GoFields) → (ms : List Member) →
    compatMembers gfs ms = true → wtUnion gfs ms vs = true → ∃ v, viewUnion gfs ms vs = some v :=
  fun vs gfs ms hc hwt => (viewUnion_sound vs gfs ms hc hwt).imp fun _ h => h.1

theorem viewKVs_good : (vals : GoKVs) → (g : GoTy) → (t : Ty) → (nul : Bool) → t.wf = true →
    compatible g t nul = true → wtKVs g t nul vals = true → ∀ tvs, viewKVs g t nul vals = some tvs →
    ∀ k tv, tvs.lookup k = some tv →
      conforms t nul tv = true ∧ normalize t tv = tv ∧ ∃ x, vals.lookup k = some x ∧ assignC g t nul tv = some x.norm :=
  fun vals g t nul hwf hc hwt tvs hv => by
    obtain ⟨tvs', hv', _, h⟩ := viewKVs_sound vals g t nul hc hwt
    cases hv'.symm.trans hv
    exact h hwf

theorem viewFields_good : (vs : GoVals) → (gfs : GoFields) → (fs : List Field) →
    (∀ f ∈ fs, f.ty.wf = true) → compatFields gfs fs = true → wtFields gfs fs vs = true →
    ∀ ws, viewFields gfs fs vs = some ws →
    entriesOK fs ws.toList ∧ normOK fs ws.toList ∧ assignFields gfs fs ws = some vs.norm :=
  fun vs gfs fs hwf hc hwt ws hv => by
    obtain ⟨ws', hv', h⟩ := viewFields_sound vs gfs fs hc hwt
    cases hv'.symm.trans hv
    exact h hwf

theorem viewUnion_good : (vs : GoVals) → (gfs : GoFields) → (ms : List Member) →
    (∀ m ∈ ms, m.ty.wf = true) → compatMembers gfs ms = true → wtUnion gfs ms vs = true →
    ∀ v, viewUnion gfs ms vs = some v →
    ∃ i g1 m a x, gfs.get? i = some (.ptr g1) ∧ ms[i]? = some m ∧ v = .map (.cons m.name a .nil) ∧
      conforms m.ty false a = true ∧ normalize m.ty a = a ∧ assignC g1 m.ty false a = some x ∧
      vs.norm = unionVals gfs.length i x :=
  fun vs gfs ms hwf hc hwt v hv => by
    obtain ⟨v', hv', h⟩ := viewUnion_sound vs gfs ms hc hwt
    cases hv'.symm.trans hv
    exact h hwf

end GoBind
end Ipld

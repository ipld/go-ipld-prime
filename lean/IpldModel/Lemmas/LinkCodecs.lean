/-
  Codecs and hash functions to run the link system on: the DAG-CBOR and DAG-JSON models as `Codec`s, the `raw` codec,
  and toy hashes under which collisions are easy to exhibit (the examples of Props/C05 and Props/C06).
-/
import IpldModel.Model.Link
import IpldModel.Model.Cbor
import IpldModel.Model.JsonTok
namespace Ipld

def Props.C05.dagcborCodec : Link.Codec := { encode := Cbor.encode Cbor.dagcborEnc, decode := fun b => (Cbor.decode Cbor.dagcborDec b).toOption }

namespace Link

/-- The DAG-JSON model as a `Codec`.  The model of the encoder goes all the way to bytes
    (`Json.encodeJson`: marshal to tokens, refmt's state machine to text, compact layout); the model of
    the decoder starts at tokens (`Json.decodeToksWin`, the code's token window).  The step in between —
    refmt's JSON tokenizer, bytes to tokens — is not modelled and enters as the parameter `lex`; the float
    formatter (strconv) is the parameter `fmtF` as everywhere in the JSON model. -/
def dagjsonCodec (fmtF : UInt64 → Option Bytes) (lex : Bytes → Option (List Json.JTok)) : Codec :=
  { encode := Json.encodeJson Json.dagjsonEnc Json.compact fmtF
    decode := fun b => (lex b).bind fun ts => (Json.decodeToksWin Json.dagjsonDec ts).toOption }

/-- a toy hash: length and first byte (so collisions are easy to exhibit) -/
def toyHash : Nat → Bytes → Bytes := fun _ b => [UInt8.ofNat b.length, b.headD 0]

/-- a degenerate hash with one value: everything collides -/
def constHash : Nat → Bytes → Bytes := fun _ _ => [0]

/-- the `raw` codec (0x55): byte strings only, written as they are -/
def rawCodec : Codec :=
  { encode := fun v => match v with | .bytes b => some b | _ => none
    decode := fun b => some (.bytes b) }

def toyCodecs : Nat → Option Codec := fun n => if n = 0x55 then some rawCodec else none

/-- CIDv1, raw, sha2-256 code, whole digest -/
def toyP : Proto := ⟨1, 0x55, 0x12, -1⟩

end Link
end Ipld

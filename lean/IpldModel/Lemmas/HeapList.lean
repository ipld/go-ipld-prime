/-
  Small list facts used by the heap-model proofs (`setAt`, `getD`, `take`, `filter`).
-/
import IpldModel.Model.Heap
import IpldModel.Lemmas.BytesEq
import IpldModel.Lemmas.ListMore
namespace Ipld
namespace Heap

theorem setAt_eq_set (l : List α) (i : Nat) (x : α) : setAt l i x = l.set i x := by
  apply List.ext_getElem?
  intro j
  simp only [setAt, List.getElem?_mapIdx, List.getElem?_set]
  by_cases h : i = j
  · subst h; by_cases h2 : i < l.length <;> simp [h2]
  · have h' : ¬ j = i := fun e => h e.symm
    simp [h, h']

@[simp] theorem length_setAt (l : List α) (i : Nat) (x : α) : (setAt l i x).length = l.length := by
  rw [setAt_eq_set, List.length_set]

theorem getElem?_setAt (l : List α) (i j : Nat) (x : α) :
    (setAt l i x)[j]? = if j = i ∧ i < l.length then some x else l[j]? := by
  rw [setAt_eq_set, List.getElem?_set]
  by_cases h : i = j
  · subst h
    by_cases h2 : i < l.length
    · simp [h2]
    · simp [h2]
  · have h' : ¬ j = i := fun e => h e.symm
    simp [h, h']

theorem getD_setAt (l : List α) (i j : Nat) (x d : α) :
    (setAt l i x).getD j d = if j = i ∧ i < l.length then x else l.getD j d := by
  simp only [List.getD_eq_getElem?_getD, getElem?_setAt]
  split <;> simp

theorem getD_setAt_ne {l : List α} {i j : Nat} {x d : α} (h : j ≠ i) :
    (setAt l i x).getD j d = l.getD j d := by
  rw [getD_setAt, if_neg (fun hh => h hh.1)]

theorem getD_setAt_self (l : List α) {i : Nat} (x d : α) (h : i < l.length) :
    (setAt l i x).getD i d = x := by
  rw [getD_setAt, if_pos ⟨rfl, h⟩]

theorem setAt_of_le (l : List α) {i : Nat} (x : α) (h : l.length ≤ i) : setAt l i x = l := by
  rw [setAt_eq_set, List.set_eq_of_length_le h]

theorem take_setAt_le (l : List α) {i n : Nat} (x : α) (h : n ≤ i) :
    (setAt l i x).take n = l.take n := by
  rw [setAt_eq_set, List.take_set_of_le h]

theorem take_succ_setAt (l : List α) {i : Nat} (x : α) (h : i < l.length) :
    (setAt l i x).take (i + 1) = l.take i ++ [x] := by
  have hl : (l.take i).length = i := by rw [List.length_take]; omega
  rw [setAt_eq_set, List.take_set, List.take_add_one, List.getElem?_eq_getElem h, List.set_append,
    if_neg (by omega), hl, Nat.sub_self]
  rfl

theorem getD_append_lt {l r : List α} {i : Nat} {d : α} (h : i < l.length) :
    (l ++ r).getD i d = l.getD i d := by
  simp [List.getElem?_append_left h]

theorem getD_append_len {l : List α} {x d : α} : (l ++ [x]).getD l.length d = x := by
  simp

theorem setAt_append_len (l : List α) (y x : α) : setAt (l ++ [y]) l.length x = l ++ [x] := by
  rw [setAt_eq_set, List.set_append, if_neg (Nat.lt_irrefl _), Nat.sub_self]; rfl

theorem getD_of_le (l : List α) {i : Nat} (d : α) (h : l.length ≤ i) : l.getD i d = d := by
  simp [List.getElem?_eq_none h]

theorem mem_take_getD {l : List Cell} {n : Nat} {c : Cell} (h : c ∈ l.take n) :
    ∃ j, j < n ∧ j < l.length ∧ l.getD j .empty = c := by
  rw [List.mem_take_iff_getElem] at h
  obtain ⟨j, hj, rfl⟩ := h
  refine ⟨j, by omega, by omega, ?_⟩
  have : j < l.length := by omega
  simp [List.getElem?_eq_getElem this]

theorem lt_of_getElem?_some {l : List α} {i : Nat} {x : α} (h : l[i]? = some x) : i < l.length :=
  let ⟨hi, _⟩ := List.getElem?_eq_some_iff.1 h; hi

theorem split_at {l : List α} {i : Nat} {x : α} (h : l[i]? = some x) :
    l = l.take i ++ x :: l.drop (i + 1) := by
  obtain ⟨hi, hx⟩ := List.getElem?_eq_some_iff.1 h
  rw [← hx, ← List.drop_eq_getElem_cons hi, List.take_append_drop]

theorem setAt_split {l : List α} {i : Nat} {x : α} (y : α) (h : l[i]? = some x) :
    setAt l i y = l.take i ++ y :: l.drop (i + 1) := by
  rw [setAt_eq_set, List.set_eq_take_append_cons_drop, if_pos (lt_of_getElem?_some h)]

theorem filter_ne_of_not_any {g : List (Bytes × NRef)} {k : Bytes}
    (h : (g.any fun e => e.1 = k) = false) : (g.filter fun e => e.1 ≠ k) = g := by
  rw [List.filter_eq_self]
  intro e he
  have := (List.any_eq_false.1 h) e he
  simpa using this

end Heap
end Ipld

/-
  Which type a kinded union hands a list or map on to: the relation `Addr` says it without the dispatch function,
  its engine flags and its outcomes; a fact about the type addressed is an induction over it.
-/
import IpldModel.Lemmas.SchemaEqns
import IpldModel.Lemmas.SchemaInduct
namespace Ipld
namespace Schema

/-- `ty'` is `ty`, or a member (of a member ...) of the kinded union `ty`; `path` names the members passed,
    outermost first.  Which kind selected a member is not recorded: no fact about the type addressed needs it. -/
inductive Addr : Ty → Ty → List Bytes → Prop
  | self (t : Ty) : Addr t t []
  | member {ms : Members} {m : Member} {t' : Ty} {p : List Bytes} :
    m ∈ ms.toList → Addr m.ty t' p → Addr (.union ms .kinded) t' (m.name :: p)

theorem resolves_addr (e : Engine) :
    (∀ ty nul k ty' path, resolveKinded e nul k ty = .ok (ty', path) → Addr ty ty' path) ∧
    ∀ ms nul k ty' path, resolveMembers e nul k ms = .ok (ty', path) →
      ∃ m ∈ ms.toList, ∃ rest, path = m.name :: rest ∧ Addr m.ty ty' rest := by
  refine Ty.kinded_induct ?_ ?_ ?_ ?_
  · intro t ht nul k ty' path h
    cases (resolveKinded_of_not_kinded e nul k ht).symm.trans h
    exact .self t
  · intro ms ih nul k ty' path h
    obtain ⟨m, hm, rest, rfl, ha⟩ := ih nul k ty' path h
    exact .member hm ha
  · intro _ _ _ _ h; cases h
  · intro n dc k' t rest ht hr nul k ty' path h
    rw [resolveMembers_cons] at h
    split at h
    · split at h
      · cases h
      · obtain ⟨⟨t', p'⟩, hq, hr⟩ := Outcome.map_eq_ok.1 h
        cases hr
        exact ⟨⟨n, dc, k', t⟩, List.mem_cons_self, p', rfl, ht false k t' p' hq⟩
    · obtain ⟨m, hm, r, hp, ha⟩ := hr nul k ty' path h
      exact ⟨m, List.mem_cons_of_mem _ hm, r, hp, ha⟩

theorem resolveKinded_addr {e : Engine} {nul : Bool} {k : Kind} {ty ty' : Ty} {path : List Bytes}
    (h : resolveKinded e nul k ty = .ok (ty', path)) : Addr ty ty' path :=
  (resolves_addr e).1 ty nul k ty' path h

theorem resolveMembers_addr {e : Engine} {nul : Bool} {k : Kind} {ms : Members} {ty' : Ty} {path : List Bytes}
    (h : resolveMembers e nul k ms = .ok (ty', path)) :
    ∃ m ∈ ms.toList, ∃ rest, path = m.name :: rest ∧ Addr m.ty ty' rest :=
  (resolves_addr e).2 ms nul k ty' path h

theorem dispatch_addr {e : Engine} {lvl : Level} {nul : Bool} {k : Kind} {ty ty' : Ty} {path : List Bytes}
    (h : dispatch e lvl nul k ty = .ok (ty', path)) : Addr ty ty' path := by
  cases lvl
  · cases h; exact .self ty
  · exact resolveKinded_addr h

end Schema
end Ipld

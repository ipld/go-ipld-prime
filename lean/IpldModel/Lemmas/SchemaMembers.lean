/-
  The ideal engine's member walks as list lookups (`firstMember`), and the kinded union's builder as a lookup by the
  kind of the input (`build_kinded_eq`).
-/
import IpldModel.Lemmas.SchemaValues
namespace Ipld
namespace Schema

theorem firstMember {α : Type} {B : Members → Outcome α} {p : Member → Bool} {S : Member → Outcome α}
    (hnil : B .nil = .reject)
    (hcons : ∀ n dc k t rest, B (.cons n dc k t rest) = if p ⟨n, dc, k, t⟩ then S ⟨n, dc, k, t⟩ else B rest) :
    (ms : Members) → B ms = match ms.toList.find? p with
      | none => .reject
      | some m => S m
  | .nil => hnil
  | .cons n dc k t rest => by
    rw [hcons, Members.toList, List.find?_cons]
    cases p ⟨n, dc, k, t⟩
    · exact firstMember hnil hcons rest
    · rfl

theorem buildKinded_find (nul : Bool) (d : DM) : (ms : Members) →
    buildKinded Engine.ideal nul d ms =
      match ms.toList.find? (fun m => m.kind == d.kind) with
      | none => .reject
      | some m => (buildScalar Engine.ideal .repr false d m.ty).map (wrapMember m.name) :=
  firstMember rfl fun _ _ _ _ _ => by cases nul <;> rfl

theorem buildPrefix_find (nul : Bool) (p r : Bytes) : (ms : Members) →
    buildPrefix Engine.ideal nul p r ms =
      match ms.toList.find? (fun m => m.disc == p) with
      | none => .reject
      | some m => (buildScalar Engine.ideal .repr false (.str r) m.ty).map (wrapMember m.name) :=
  firstMember rfl fun _ _ _ _ _ => by cases nul <;> rfl

theorem buildPrefixNoDelim_find (nul : Bool) (s : Bytes) : (ms : Members) →
    buildPrefixNoDelim Engine.ideal nul s ms =
      match ms.toList.find? (fun m => isPrefix m.disc s) with
      | none => .reject
      | some m =>
        (buildScalar Engine.ideal .repr false (.str (s.drop m.disc.length)) m.ty).map (wrapMember m.name) :=
  firstMember rfl fun _ _ _ _ _ => by cases nul <;> rfl

theorem resolveMembers_find (nul : Bool) (k : Kind) : (ms : Members) →
    resolveMembers Engine.ideal nul k ms =
      match ms.toList.find? (fun m => m.kind == k) with
      | none => .reject
      | some m =>
        match resolveKinded Engine.ideal false k m.ty with
        | .ok (t', path) => .ok (t', m.name :: path)
        | .reject => .reject
        | .panic => .panic :=
  firstMember rfl fun _ _ _ _ _ => by cases nul <;> rfl

theorem dispatch_kinded (ms : Members) (nul : Bool) (k : Kind) (body : Ty → Outcome TL) :
    ((dispatch Engine.ideal .repr nul k (.union ms .kinded)).bind fun r => (body r.1).map (wrapPath r.2)) =
      match ms.toList.find? (fun m => m.kind == k) with
      | none => .reject
      | some m =>
        ((dispatch Engine.ideal .repr false k m.ty).bind fun r =>
          (body r.1).map (wrapPath r.2)).map (wrapMember m.name) := by
  show ((resolveMembers Engine.ideal nul k ms).bind _) = _
  rw [resolveMembers_find]
  cases ms.toList.find? (fun m => m.kind == k) with
  | none => rfl
  | some m =>
    show ((match resolveKinded Engine.ideal false k m.ty with
      | .ok (t', path) => Outcome.ok (t', m.name :: path)
      | .reject => .reject
      | .panic => .panic).bind _) = ((resolveKinded Engine.ideal false k m.ty).bind _).map _
    cases resolveKinded Engine.ideal false k m.ty with
    | ok r => simp only [Outcome.bind_ok, Outcome.map_map]; rfl
    | reject => rfl
    | panic => rfl

theorem build_kinded_eq {ms : Members} {nul : Bool} {d : DM} (hd : d ≠ .null) :
    build Engine.ideal .repr (.union ms .kinded) nul none d =
      match ms.toList.find? (fun m => m.kind == d.kind) with
      | none => .reject
      | some m => (build Engine.ideal .repr m.ty false none d).map (wrapMember m.name) := by
  cases hs : isScalar d with
  | true =>
    simp only [build_of_isScalar hs hd]
    exact buildKinded_find nul d ms
  | false =>
    cases d with
    | list xs =>
      simp only [build_list_none]
      exact dispatch_kinded ms nul .list fun t => listBody Engine.ideal .repr t none xs
    | map es =>
      simp only [build_map_none ideal_nodeOff]
      exact dispatch_kinded ms nul .map fun t => mapBody Engine.ideal .repr t none es
    | _ => cases hs

end Schema
end Ipld

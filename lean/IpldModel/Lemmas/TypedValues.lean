/-
  Typed values as lists: what `normalizeStruct` (by `fieldOf`), `int64s` and `TAsm.NoDup` do entry by entry (`toList`)
  over the nested list types, each by one induction; `hasKey`, `canonFields`, `PendFresh` on the entries a frame holds;
  a conforming value repeats no map key (`conforms_noDup`).  (`TL.ofDM`, `Schema.normalize` on lists and maps,
  `Schema.conforms` entry by entry: Lemmas/SchemaValues.lean.)
-/
import IpldModel.Model.TypedAssembler
import IpldModel.Lemmas.SchemaValues
namespace Ipld
namespace TAsm
open Ipld.Schema (Ty Field TL TLs TLKVs normalize normalizeList normalizeMap normalizeStruct)

theorem normalize_ofDM_scalar {ty : Ty} {d : DM} (hs : Asm.isScalar d = true) :
    Schema.normalize ty (TL.ofDM d) = TL.ofDM d := by
  cases d <;> first | rfl | cases hs

theorem normalizeStruct_toList (fs : List Field) : (es : TLKVs) →
    (normalizeStruct fs es).toList = es.toList.map fun p =>
      (p.1, match fieldOf fs p.1 with
            | some f => normalize f.ty p.2
            | none => p.2)
  | .nil => rfl
  | .cons k v es => by
    simp only [normalizeStruct, TLKVs.toList, List.map_cons, normalizeStruct_toList fs es]
    rfl

/-- a struct entry as the typed machine holds it -/
def nfield (fs : List Field) (p : Bytes × DM) : Bytes × TL :=
  (p.1, match fs.find? (fun f => f.name == p.1) with
        | some f => normalize f.ty (TL.ofDM p.2)
        | none => TL.ofDM p.2)

theorem normalizeStruct_map (fs : List Field) (l : List (Bytes × DM)) :
    normalizeStruct fs (TLKVs.ofList (l.map fun p => (p.1, TL.ofDM p.2))) = TLKVs.ofList (l.map (nfield fs)) :=
  Schema.tlkvs_eq_ofList (by rw [normalizeStruct_toList, Schema.TLKVs.toList_ofList, List.map_map]; rfl)

theorem normalizeList_ofDMs (ety : Ty) (ys : DMs) :
    (normalizeList ety (TLs.ofDMs ys)).toList = ys.toList.map fun y => normalize ety (TL.ofDM y) := by
  rw [Schema.normalizeList_toList, Schema.ofDMs_toList, List.map_map]; rfl

theorem normalizeMap_ofDMKVs (vty : Ty) (kvs : DMKVs) :
    (normalizeMap vty (TLKVs.ofDMKVs kvs)).toList = kvs.toList.map fun p => (p.1, normalize vty (TL.ofDM p.2)) := by
  rw [Schema.normalizeMap_toList, Schema.ofDMKVs_toList, List.map_map]; rfl

theorem normalizeStruct_ofDMKVs (F : List Field) (kvs : DMKVs) :
    (normalizeStruct F (TLKVs.ofDMKVs kvs)).toList = kvs.toList.map (nfield F) := by
  rw [normalizeStruct_toList, Schema.ofDMKVs_toList, List.map_map]; rfl

theorem int64sL_toList : (xs : DMs) → int64sL xs = xs.toList.all int64s
  | .nil => rfl
  | .cons x xs => by simp only [int64sL, DMs.toList, List.all_cons, int64sL_toList xs]

theorem int64sM_toList : (es : DMKVs) → int64sM es = es.toList.all fun p => int64s p.2
  | .nil => rfl
  | .cons k v es => by simp only [int64sM, DMKVs.toList, List.all_cons, int64sM_toList es]

theorem noDups_toList : (xs : TLs) → (NoDups xs ↔ ∀ x ∈ xs.toList, NoDup x)
  | .nil => by simp [NoDups, TLs.toList]
  | .cons x xs => by simp only [NoDups, TLs.toList, List.forall_mem_cons, noDups_toList xs]

theorem noDupVals_toList : (es : TLKVs) → (NoDupVals es ↔ ∀ p ∈ es.toList, NoDup p.2)
  | .nil => by simp [NoDupVals, TLKVs.toList]
  | .cons k v es => by simp only [NoDupVals, TLKVs.toList, List.forall_mem_cons, noDupVals_toList es]

open Ipld.Schema (conforms anyOK canonFields)

theorem hasKey_iff {es : List (Bytes × TL)} {k : Bytes} : hasKey es k = true ↔ k ∈ es.map (·.1) := by
  simp only [hasKey, List.any_eq_true, beq_iff_eq, List.mem_map]

theorem hasKey_false_iff {es : List (Bytes × TL)} {k : Bytes} : hasKey es k = false ↔ k ∉ es.map (·.1) := by
  rw [← hasKey_iff]; simp

theorem hasKey_append (es : List (Bytes × TL)) (k : Bytes) (v : TL) (k' : Bytes) :
    hasKey (es ++ [(k, v)]) k' = (decide (k = k') || hasKey es k') := by
  simp only [hasKey, List.any_append, List.any_cons, List.any_nil, Bool.or_false]
  rw [Bool.or_comm]
  congr 1
  by_cases h : k = k' <;> simp [h]

theorem canonFields_keys (fs : List Field) (es : List (Bytes × TL)) :
    (canonFields fs es).map (·.1) = fs.map (·.name) := by
  unfold canonFields
  rw [List.map_map]
  apply List.map_congr_left
  intro f _
  simp only [Function.comp]
  split <;> rfl

theorem canonFields_vals (fs : List Field) (es : List (Bytes × TL)) :
    ∀ p ∈ canonFields fs es, ∃ f ∈ fs, p.1 = f.name ∧ (p.2 = .absent ∨ (f.name, p.2) ∈ es) := by
  intro p hp
  unfold canonFields at hp
  obtain ⟨f, hf, rfl⟩ := List.mem_map.1 hp
  refine ⟨f, hf, ?_⟩
  split
  · rename_i k v hfind
    have hk : k = f.name := by simpa using List.find?_some hfind
    subst hk
    exact ⟨rfl, Or.inr (List.mem_of_find?_eq_some hfind)⟩
  · exact ⟨rfl, Or.inl rfl⟩

theorem fieldOf_self {fs : List Field} (hnd : (fs.map (·.name)).Nodup) {f : Field} (hf : f ∈ fs) :
    fieldOf fs f.name = some f := find?_key_of_mem (fun (x : Field) => x.name) hnd f hf

theorem nodup_keys_snoc {es : List (Bytes × TL)} {k : Bytes} {v : TL} (hnd : (es.map (·.1)).Nodup)
    (hk : hasKey es k = false) : ((es ++ [(k, v)]).map (·.1)).Nodup := by
  rw [List.map_append, List.nodup_append]
  refine ⟨hnd, by simp, fun a ha b hb hab => ?_⟩
  rw [List.mem_singleton.1 hb] at hab
  subst hab
  exact hasKey_false_iff.1 hk ha

def PendFresh (es : List (Bytes × TL)) : Phase → Prop
  | .expectValue k => hasKey es k = false
  | .midValue k => hasKey es k = false
  | _ => True


/-- the values of a struct's entries: an unset optional field, or a value that conforms to its field's type -/
theorem struct_vals_noDup {fs : List Field} {es : TLKVs}
    (ih : ∀ p ∈ es.toList, ∀ ty nul, conforms ty nul p.2 = true → NoDup p.2)
    (hent : ∀ p ∈ es.toList, ∃ f, fs.find? (fun f => f.name == p.1) = some f ∧ Schema.fieldValOK f p.2 = true) :
    NoDupVals es :=
  (noDupVals_toList es).2 fun p hp => by
    obtain ⟨f, _, hok⟩ := hent p hp
    by_cases ha : p.2 = .absent
    · rw [ha]; trivial
    · exact ih p hp f.ty f.nullable ((Schema.fieldValOK_ne_absent f ha) ▸ hok)

/-- A value that conforms to a type, or is admissible for `any`, carries no key twice.  By induction on the value: a
    conforming list is a typed list or an `any` list, a conforming map a typed map, a struct, a union's one entry or an
    `any` map, and each of their checks says so entry by entry. -/
theorem noDup_of_ok : ∀ v, (∀ ty nul, conforms ty nul v = true → NoDup v) ∧ (anyOK v = true → NoDup v) := by
  refine Schema.TL.mem_induct (fun v h1 h2 => ?_) (fun xs ih => ?_) (fun es ih => ?_)
  · have : NoDup v := by cases v <;> first | trivial | exact absurd rfl (h1 _) | exact absurd rfl (h2 _)
    exact ⟨fun _ _ _ => this, fun _ => this⟩
  · have hany : anyOK (.list xs) = true → NoDup (.list xs) := fun ha =>
      (noDups_toList xs).2 fun x hx => (ih x hx).2 (Schema.anyOKs_iff.1 ha x hx)
    refine ⟨fun ty nul h => ?_, hany⟩
    rcases Schema.conforms_list_cases h with ⟨ety, enul, rfl, hc⟩ | ⟨rfl, ha⟩
    · exact (noDups_toList xs).2 fun x hx => (ih x hx).1 ety enul (Schema.conformsList_iff.1 hc x hx)
    · exact hany ha
  · have hany : anyOK (.map es) = true → NoDup (.map es) := fun ha =>
      have h := Schema.anyOKkv_iff.1 ha
      ⟨h.1, (noDupVals_toList es).2 fun p hp => (ih p hp).2 (h.2.2 p hp)⟩
    refine ⟨fun ty nul h => ?_, hany⟩
    rcases Schema.conforms_map_cases h with ⟨vty, vnul, rfl, hc⟩ | ⟨fs, sr, rfl, hc⟩ |
      ⟨ms, ur, k, v, m, rfl, rfl, _, hc⟩ | ⟨rfl, ha⟩
    · have h := Schema.conformsMap_iff.1 hc
      exact ⟨h.1, (noDupVals_toList es).2 fun p hp => (ih p hp).1 vty vnul (h.2.2 p hp)⟩
    · have h := Schema.conformsStruct_iff.1 hc
      exact ⟨h.1, struct_vals_noDup (fun p hp => (ih p hp).1) h.2.2.1⟩
    · exact ⟨List.nodup_cons.2 ⟨List.not_mem_nil, List.nodup_nil⟩, (ih (k, v) List.mem_cons_self).1 m.ty false hc, trivial⟩
    · exact hany ha

theorem conforms_noDup (v : TL) (ty : Ty) (nul : Bool) (h : conforms ty nul v = true) : NoDup v :=
  (noDup_of_ok v).1 ty nul h

end TAsm
end Ipld

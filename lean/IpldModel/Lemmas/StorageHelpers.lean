/-
  Lemmas about the storage helpers' model: what a run of writes leaves in the stream, and `PutVec` on the two
  synthesised routes in closed form.
-/
import IpldModel.Model.StorageHelpers
namespace Ipld
namespace StoreHelp
open Ipld.Store

theorem write_ok {st : Impl} {w : Stream} (b : Bytes) (h : w.own = false ∨ st.failWrite ≠ some w.nwrites) :
    w.write st b = ({ w with buf := w.buf ++ b, nwrites := w.nwrites + 1 }, true) := by
  unfold Stream.write
  rw [if_neg]
  rcases h with h | h <;> simp [h]

theorem writeAll_ok (st : Impl) : ∀ (pieces : List Bytes) (w w' : Stream), writeAll st w pieces = (w', true) →
    w'.buf = w.buf ++ pieces.flatten ∧ w'.own = w.own ∧ w'.used = w.used
  | [], w, w', h => by cases h; simp
  | b :: bs, w, w', h => by
    rw [writeAll] at h
    by_cases hf : (w.own && st.failWrite == some w.nwrites) = true
    · simp [Stream.write, hf] at h
    · simp only [Stream.write, hf, Bool.false_eq_true, if_false] at h
      obtain ⟨h1, h2, h3⟩ := writeAll_ok st bs _ w' h
      exact ⟨by rw [h1, List.flatten_cons, List.append_assoc], h2, h3⟩

/-- the store's own stream with a failing k-th write, k within the pieces: the loop stops with an error -/
theorem writeAll_fails (st : Impl) (k : Nat) (hk : st.failWrite = some k) : ∀ (pieces : List Bytes) (w : Stream),
    w.own = true → w.nwrites ≤ k → k < w.nwrites + pieces.length → (writeAll st w pieces).2 = false
  | [], w, _, h1, h2 => absurd h2 (Nat.not_lt_of_le h1)
  | b :: bs, w, ho, h1, h2 => by
    rw [writeAll]
    by_cases he : w.nwrites = k
    · simp [Stream.write, ho, hk, he]
    · rw [write_ok b (Or.inr (by rw [hk]; exact fun e => he (Option.some.inj e).symm))]
      exact writeAll_fails st k hk bs _ ho (Nat.lt_of_le_of_ne h1 he)
        (by rwa [List.length_cons, ← Nat.add_assoc, Nat.add_right_comm] at h2)

theorem writeAll_takes_all (st : Impl) : ∀ (pieces : List Bytes) (w : Stream),
    (w.own = false ∨ ∀ i, w.nwrites ≤ i → st.failWrite ≠ some i) → (writeAll st w pieces).2 = true
  | [], _, _ => rfl
  | b :: bs, w, h => by
    rw [writeAll, write_ok b (h.imp id fun h => h _ (Nat.le_refl _))]
    exact writeAll_takes_all st bs _ (h.imp id fun h i hi => h i (Nat.le_of_succ_le hi))

theorem putStream_fresh {st : Impl} {w : Stream} (h : putStream st = some w) : w.buf = [] ∧ w.used = false ∧ w.nwrites = 0 ∧ w.own = st.ownStream := by
  unfold putStream at h
  split at h
  · next ho => split at h <;> simp at h; rw [← h]; simp [ho]
  · next ho => simp at h; rw [← h]; simp at ho; simp [ho]

theorem commit_unused (st : Impl) (s : Kv) (w : Stream) (key : Bytes) (h : w.used = false) :
    (w.commit st s key).1 = put st s key w.buf := by
  simp [Stream.commit, h]

theorem put_cases (st : Impl) (s : Kv) (k v : Bytes) : put st s k v = (s, false) ∨ put st s k v = (s.put k v, true) := by
  unfold put; split <;> simp

/-- the first commit of a stream that `PutStream` handed out and that took all the pieces is one `Put` of their
    concatenation -/
theorem commit_after_writeAll {st : Impl} {w w' : Stream} (ho : putStream st = some w) {pieces : List Bytes}
    (hw : writeAll st w pieces = (w', true)) (s : Kv) (key : Bytes) :
    (w'.commit st s key).1 = put st s key pieces.flatten := by
  obtain ⟨hb, hu, _, _⟩ := putStream_fresh ho
  obtain ⟨hb', _, hu'⟩ := writeAll_ok st pieces w w' hw
  rw [commit_unused st s w' key (by rw [hu', hu]), hb', hb, List.nil_append]

/-- `PutVec` without the store's own `PutVec`: open a stream, write every piece, then one `Put` of the whole -/
theorem putVec_synth {st : Impl} (hf : st.ownPutVec = none) (s : Kv) (key : Bytes) (pieces : List Bytes) :
    putVec st s key pieces =
      match putStream st with
      | none => (s, false)
      | some w => if (writeAll st w pieces).2 = true then put st s key pieces.flatten else (s, false) := by
  simp only [putVec, hf]
  cases ho : putStream st with
  | none => rfl
  | some w =>
    simp only
    cases hw : writeAll st w pieces with
    | mk w' ok =>
      cases ok with
      | false => simp
      | true =>
        simp only [if_true]
        exact commit_after_writeAll ho hw s key

theorem putVec_cases (st : Impl) (hv : st.VecAtomic) (s : Kv) (key : Bytes) (pieces : List Bytes) :
    putVec st s key pieces = (s, false) ∨ putVec st s key pieces = (s.put key pieces.flatten, true) := by
  cases hf : st.ownPutVec with
  | some f => rw [putVec, hf]; exact hv f hf s key pieces
  | none =>
    rw [putVec_synth hf]
    cases putStream st with
    | none => exact .inl rfl
    | some w =>
      simp only
      split
      · exact put_cases st s key _
      · exact .inl rfl

end StoreHelp
end Ipld

/-
  A predicate on the shared state that the three primitive updates keep (budget decrement, logging a call, the link
  step) is kept by `walkT`, whatever the outcome, at positions inherited downwards (`Inherits`, `walkT_inv`).
-/
import IpldModel.Lemmas.WalkTransform
import IpldModel.Lemmas.WalkGet
import IpldModel.Lemmas.WalkLinkOnce
namespace Ipld
namespace WalkT
open Sel Walk Spec

/-- positions and container entries below a position are reached the way the transform (and `Spec.Rewrites`)
    descends: into a child that is not a link, and into the block of a link that is loaded -/
structure Inherits (cfg : Cfg) (Pos : Path → DM → Prop) (Ent : Path → Seg × DM → Prop) : Prop where
  entry : ∀ {path n x}, Pos path n → x ∈ children n → Ent path x
  child : ∀ {path ps v}, Ent path (ps, v) → (∀ c, v ≠ .link c) → Pos (path ++ [ps]) v
  link : ∀ {path ps c blk}, Ent path (ps, .link c) → storeGet cfg.store c = some blk →
    cfg.skip.contains c = false → Pos (path ++ [ps]) blk

theorem inherits_true (cfg : Cfg) : Inherits cfg (fun _ _ => True) (fun _ _ => True) :=
  ⟨fun _ _ => trivial, fun _ _ => trivial, fun _ _ _ => trivial⟩

theorem iterate_inv {Q : St → Prop} {step : Seg → DM → St → TR} (l : List (Seg × DM)) :
    ∀ (st : St), (∀ x ∈ l, ∀ st, Q st → Q (step x.1 x.2 st).1) → Q st → Q (iterate step l st).1 := by
  induction l with
  | nil => exact fun _ _ hq => hq
  | cons x rest ih =>
    intro st hstep hq
    rw [iterate_cons]
    refine bindT_fst (hstep _ (List.mem_cons_self ..) st hq) fun st' v' h => ?_
    rw [mapT_fst]
    exact ih st' (fun x hx => hstep x (List.mem_cons_of_mem _ hx)) h

section
variable {cfg : Cfg} {Pos : Path → DM → Prop} {Ent : Path → Seg × DM → Prop} (inh : Inherits cfg Pos Ent)
  {Q : St → Prop}
  (q_node : ∀ {st st1}, checkNode st = .ok st1 → Q st → Q st1)
  (q_call : ∀ {path n st}, Pos path n → Q st → Q (callSt path n st))
  (q_link : ∀ {path ps c st}, Ent path (ps, .link c) → Q st → Q (linkStep cfg c st).1)

/-- what `walkT_inv` shows of the walk at every fuel and, in its step, assumes of the recursive call: started at a `Pos`
    position it keeps `Q` -/
def Keeps (Pos : Path → DM → Prop) (Q : St → Prop) (rec : Path → DM → S → St → TR) : Prop :=
  ∀ path n s st, Pos path n → Q st → Q (rec path n s st).1

include inh q_link in
theorem tChild_inv {rec : Path → DM → S → St → TR} (hrec : Keeps Pos Q rec) (path : Path) (n : DM) (s : S)
    (attn : Option (List Seg)) (ps : Seg) (v : DM) (he : Ent path (ps, v)) (st : St) (hq : Q st) :
    Q (tChild cfg rec path n s attn ps v st).1 := by
  rcases tChild_cases cfg rec path n s attn ps v st with h | ⟨e, _, h⟩ | ⟨sNext, c, rfl, h⟩ | ⟨sNext, hnl, h⟩
  · rw [h]; exact hq
  · rw [h]; exact hq
  · rw [h]
    have hq' := q_link he hq
    have hsome := @linkStep_some cfg c st
    generalize linkStep cfg c st = ls at hq' hsome
    obtain ⟨st', e | _ | blk⟩ := ls
    · exact hq'
    · exact hq'
    · obtain ⟨h1, h2, _⟩ := hsome rfl
      exact hrec _ _ _ _ (inh.link he h1 h2) hq'
  · rw [h]; exact hrec _ _ _ _ (inh.child he hnl) hq

include inh q_link in
theorem descend_inv {rec : Path → DM → S → St → TR} (hrec : Keeps Pos Q rec) {path : Path} {n : DM} {s : S}
    {st : St} (hp : Pos path n) (hq : Q st) : Q (descend cfg rec path n s st).1 := by
  unfold descend
  split
  · rw [iterateNode_eq, mapT_fst]
    exact iterate_inv (children n) st
      (fun x hx => tChild_inv inh q_link hrec path n s (interests s) x.1 x.2 (inh.entry hp hx)) hq
  · exact hq

include inh q_node q_call q_link in
theorem walkT_inv (fn : TFn) (fuel : Nat) : Keeps Pos Q (walkT cfg fn fuel) := by
  induction fuel with
  | zero => exact fun _ _ _ _ _ hq => hq
  | succ fuel ih =>
    intro path n s st hp hq
    rw [walkT_succ]
    cases h : checkNode st with
    | error e => exact hq
    | ok st1 =>
      have hq1 := q_node h hq
      simp only
      have hq2 := q_call (st := st1) hp hq1
      rcases tBody_cases cfg fn (walkT cfg fn fuel) path n s st1 with h' | ⟨d, _, h'⟩ | h' | ⟨_, h'⟩ | h'
      · rw [h']; exact hq1
      · rw [h']; exact hq2
      · rw [h']; exact hq2
      · rw [h']; exact descend_inv inh q_link ih hp hq2
      · rw [h']; exact descend_inv inh q_link ih hp hq1

end

theorem walkT_events_extend (cfg : Cfg) (fn : TFn) (fuel : Nat) (path : Path) (n : DM) (s : S) (st : St) :
    ∃ new, (walkT cfg fn fuel path n s st).1.events = new ++ st.events := by
  refine walkT_inv (Q := EventsExtend st) (inherits_true cfg) ?_ ?_ ?_ fn fuel path n s st trivial ⟨[], rfl⟩
  · intro a b h ⟨new, hn⟩
    exact ⟨new, by rw [checkNode_events h, hn]⟩
  · intro p m a _ ⟨new, hn⟩
    exact ⟨callEvent p m :: new, by rw [callSt, hn]; rfl⟩
  · intro _ _ c a _ ⟨new, hn⟩
    obtain ⟨new', hn'⟩ := linkStep_events cfg c a
    exact ⟨new' ++ new, by rw [hn', hn, List.append_assoc]⟩

/-- `get` arrives at `n` along `p`; `n` is duplicate-free, so that a segment names one child -/
def GetsTo (store : List (Bytes × DM)) (F : Nat) (root : DM) (p : Path) (n : DM) : Prop :=
  get store (F + 2) root p = .ok n ∧ n.NoDup

theorem getsTo_inherits (cfg : Cfg) (F : Nat) (root : DM) (hstore : StoreOk cfg.store) :
    Inherits cfg (GetsTo cfg.store F root) (fun p x => ∃ n, GetsTo cfg.store F root p n ∧ x ∈ children n) where
  entry hp hx := ⟨_, hp, hx⟩
  child := fun ⟨n, hp, hm⟩ hnl => by
    refine ⟨?_, children_noDup hp.2 hm⟩
    rw [get_snoc hp.1, children_getStep hp.2 hm]
    exact followLinks_nonlink hnl
  link := fun ⟨n, hp, hm⟩ hs _ => by
    obtain ⟨hb1, hb2⟩ := hstore _ _ hs
    refine ⟨?_, hb1⟩
    rw [get_snoc hp.1, children_getStep hp.2 hm]
    exact followLinks_link hs hb2

def CallResolves (store : List (Bytes × DM)) (F : Nat) (root : DM) : Event → Prop
  | .visit p m rs => rs = .matched ∧ get store (F + 2) root p = .ok m
  | .load _ => True

theorem callResolves_call {store : List (Bytes × DM)} {F : Nat} {root : DM} {p : Path} {m : DM}
    (h : GetsTo store F root p m) : CallResolves store F root (callEvent p m) :=
  ⟨rfl, h.1⟩

theorem callResolves_load {store : List (Bytes × DM)} {F : Nat} {root : DM} {c : Bytes} :
    CallResolves store F root (.load c) :=
  trivial

theorem run_calls_resolve_anyOutcome {cfg : Cfg} {fn : TFn} {F : Nat} {root : DM} (hroot : root.NoDup)
    (hstore : StoreOk cfg.store) {fuel : Nat} {nb lb : Option Int} {s : S} {p : Path} {m : DM}
    (hc : (p, m) ∈ callsOf (run cfg fn fuel nb lb root s).events) :
    get cfg.store (F + 2) root p = .ok m := by
  have h := walkT_inv (Q := fun st => ∀ e ∈ st.events, CallResolves cfg.store F root e)
    (getsTo_inherits cfg F root hstore)
    (fun h hq => by rw [checkNode_events h]; exact hq)
    (fun hp hq => List.forall_mem_cons.2 ⟨callResolves_call hp, hq⟩)
    (fun {_ _ c st} _ hq => by
      rcases linkStep_events_cases cfg c st with h | h <;> rw [h]
      · exact hq
      · exact List.forall_mem_cons.2 ⟨callResolves_load, hq⟩)
    fn fuel [] root s { nodeBudget := nb, linkBudget := lb } ⟨rfl, hroot⟩ (fun _ he => nomatch he)
  unfold callsOf at hc
  exact (h _ (List.mem_reverse.1 (mem_matchesOf.1 hc))).2

theorem walkT_onceInv (cfg : Cfg) (hl : cfg.linkOnce = true) (fn : TFn) (fuel : Nat) (path : Path) (n : DM)
    (s : S) (st : St) (h : OnceInv st) : OnceInv (walkT cfg fn fuel path n s st).1 :=
  walkT_inv (Q := OnceInv) (inherits_true cfg)
    checkNode_onceInv (fun _ h => h) (fun _ => linkStep_onceInv hl) fn fuel path n s st trivial h

end WalkT
end Ipld

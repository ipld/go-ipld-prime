/-
  The invariant `Inv` of the typed machine, the `Good` values it holds, and its preservation by every call.
-/
import IpldModel.Lemmas.TypedAssembler
import IpldModel.Lemmas.SchemaNorm
import IpldModel.Lemmas.TypedValues
namespace Ipld
namespace TAsm
open Ipld.Asm (Op Out ErrClass)
open Ipld.Schema (Ty Fields Field TL TLs TLKVs canonFields conforms conformsList conformsMap conformsStruct)

/-- conforms to the type (in a slot that is nullable or not), carries no key twice, and is in canonical form (its own
    `Schema.normalize`: every struct lists all its fields in declaration order) -/
structure Good (ty : Ty) (nul : Bool) (v : TL) : Prop where
  conf : conforms ty nul v = true
  nodup : NoDup v
  canon : Schema.normalize ty v = v

theorem Good.of_conf {ty : Ty} {nul : Bool} {v : TL} (hc : conforms ty nul v = true) (hn : Schema.normalize ty v = v) :
    Good ty nul v := ⟨hc, conforms_noDup v ty nul hc, hn⟩

theorem good_scalar {ty : Ty} {nul : Bool} {d : DM} (h : scalarOut ty nul d = .ok) : Good ty nul (TL.ofDM d) := by
  obtain ⟨hs, hc, _⟩ := scalarOut_ok h
  exact .of_conf hc (normalize_ofDM_scalar hs)

theorem good_list {ety : Ty} {enul : Bool} (nul : Bool) {xs : List TL} (h : ∀ x ∈ xs, Good ety enul x) :
    Good (.list ety enul) nul (.list (TLs.ofList xs)) := by
  refine .of_conf ?_ ?_
  · exact Schema.conforms_list_ofList ety enul xs (fun y hy => (h y hy).conf)
  · simp only [Schema.normalize, Schema.normalizeList_map, map_eq_self fun y hy => (h y hy).canon]

theorem good_map {vty : Ty} {vnul : Bool} (nul : Bool) {es : List (Bytes × TL)} (hnd : (es.map (·.1)).Nodup)
    (h : ∀ p ∈ es, Good vty vnul p.2) : Good (.map vty vnul) nul (.map (TLKVs.ofList es)) := by
  refine .of_conf ?_ ?_
  · exact Schema.conforms_map_ofList vty vnul es hnd (fun p hp => (h p hp).conf)
  · simp only [Schema.normalize, Schema.normalizeMap_map]
    rw [map_eq_self fun p hp => by rw [(h p hp).canon]]

def EntriesOK (fs : List Field) (es : List (Bytes × TL)) : Prop :=
  ∀ p ∈ es, ∃ f, fieldOf fs p.1 = some f ∧ Good f.ty f.nullable p.2

theorem good_struct {F : Fields} (r : Schema.StructRepr) (nul : Bool) {es : List (Bytes × TL)}
    (hnd : (F.toList.map (·.name)).Nodup)
    (hes : EntriesOK F.toList es)
    (hreq : F.toList.all (fun f => f.opt || hasKey es f.name) = true) :
    Good (.struct F r) nul (.map (TLKVs.ofList (canonFields F.toList es))) := by
  have hC : ∀ p ∈ canonFields F.toList es, ∃ f, fieldOf F.toList p.1 = some f ∧
      (p.2 = .absent ∨ Good f.ty f.nullable p.2) := by
    intro p hp
    obtain ⟨f, hf, hk, hv⟩ := canonFields_vals F.toList es p hp
    refine ⟨f, hk ▸ fieldOf_self hnd hf, ?_⟩
    rcases hv with hv | hv
    · exact Or.inl hv
    · obtain ⟨f', hf', hg⟩ := hes _ hv
      simp only [fieldOf_self hnd hf, Option.some.injEq] at hf'
      subst hf'
      exact Or.inr hg
  refine .of_conf ?_ ?_
  · apply Schema.conformsStruct_canonFields F.toList hnd es
    · intro p hp
      obtain ⟨f, hf, hg⟩ := hes p hp
      exact ⟨f, hf, Schema.fieldValOK_of_conforms hg.conf⟩
    · intro f hf
      have := (List.all_eq_true.1 hreq) f hf
      simp only [Bool.or_eq_true] at this
      rcases this with h | h
      · exact Or.inl h
      · exact Or.inr (hasKey_iff.1 h)
  · have h1 : (Schema.normalizeStruct F.toList (TLKVs.ofList (canonFields F.toList es))).toList =
        canonFields F.toList es := by
      rw [normalizeStruct_toList, Schema.TLKVs.toList_ofList]
      refine map_eq_self fun p hp => ?_
      obtain ⟨f, hf, hv⟩ := hC p hp
      rw [hf]
      rcases hv with hv | hv
      · exact Prod.ext rfl (by rw [hv]; rfl)
      · exact Prod.ext rfl hv.canon
    have h2 := Schema.canonFields_self F.toList (canonFields F.toList es) (canonFields_keys _ _) hnd
    simp only [Schema.normalize, h1, h2]

theorem good_struct_shape {F : Fields} {r : Schema.StructRepr} {nul : Bool} {v : TL}
    (h : Good (.struct F r) nul v) (hv : v ≠ .null) :
    ∃ es, v = .map es ∧ keysOf es = F.toList.map (·.name) ∧
      ∀ p ∈ es.toList, ∃ f, fieldOf F.toList p.1 = some f ∧ (p.2 = .absent → f.opt = true) := by
  have hc := h.conf
  cases v with
  | map es =>
    refine ⟨es, rfl, ?_, ?_⟩
    · have hn := h.canon
      simp only [Schema.normalize, TL.map.injEq] at hn
      have := congrArg keysOf hn
      rw [← this]
      simp only [keysOf, Schema.TLKVs.toList_ofList, canonFields_keys]
    · intro p hp
      obtain ⟨f, hf, hv⟩ := (Schema.conformsStruct_iff.1 hc).2.2.1 p hp
      exact ⟨f, hf, fun ha => by rw [ha] at hv; exact hv⟩
  | null => exact absurd rfl hv
  | _ => simp [conforms] at hc

/-- a type the machine models, well-formed in C08's sense (distinct field names) -/
def TyOK (t : Ty) : Prop := t.wf = true ∧ plain t = true

theorem plainFields_mem : (F : Fields) → plainFields F = true → ∀ f ∈ F.toList, plain f.ty = true
  | .nil, _, f, hf => by simp [Fields.toList] at hf
  | .cons n rn o nu t rest, h, f, hf => by
    simp only [plainFields, Bool.and_eq_true] at h
    simp only [Fields.toList, List.mem_cons] at hf
    rcases hf with rfl | hf
    · exact h.1
    · exact plainFields_mem rest h.2 f hf

def FrameOK : Frame → Prop
  | .list ety enul xs _ => TyOK ety ∧ ∀ x ∈ xs, Good ety enul x
  | .map vty vnul es ph =>
    TyOK vty ∧ (es.map (·.1)).Nodup ∧ (∀ p ∈ es, Good vty vnul p.2) ∧ PendFresh es ph
  | .struct fs es ph =>
    (∀ f ∈ fs, TyOK f.ty) ∧ (fs.map (·.name)).Nodup ∧ (es.map (·.1)).Nodup ∧
    (∀ p ∈ es, ∃ f, fieldOf fs p.1 = some f ∧ Good f.ty f.nullable p.2) ∧ PendFresh es ph

/-- the frame is what `BeginMap` / `BeginList` opens at a position of type `ty` -/
def FrameFor : Frame → Ty → Prop
  | .list ety enul _ _, ty => ty = .list ety enul
  | .map vty vnul _ _, ty => ty = .map vty vnul
  | .struct fs _ _, ty => ∃ F r, ty = .struct F r ∧ fs = F.toList

def Chain (t : Ty) (r : Option TL) : List Frame → Prop
  | [] => True
  | f :: rest => (∃ ty nul, posOf t r rest = .value ty nul ∧ FrameFor f ty) ∧ Chain t r rest

/-- The invariant of the typed machine: every value it holds is `Good` for the position it was delivered to, the keys of a
    frame are distinct with a pending key not among them (`FrameOK`), and every frame was begun at a value position of its
    own type (`Chain`). -/
structure Inv (s : St) : Prop where
  /-- `TyOK` asks for `plain` as well as well-formedness: outside the plain fragment the machine is no model of the code,
      and `AssignNode` is the whole-value builder only on it (`step_assignNode_spec`), which the refinement uses at every
      value position (`Inv.pos_wf`) -/
  wf : TyOK s.ty
  frames : ∀ f ∈ s.frames, FrameOK f
  chain : Chain s.ty s.root s.frames
  root : ∀ v, s.root = some v → Good s.ty false v

theorem init_inv {ty : Ty} (h : ty.wf = true) (hp : plain ty = true) : Inv (init ty) :=
  ⟨⟨h, hp⟩, (by intro f hf; cases hf), trivial, (by intro v hv; cases hv)⟩

theorem chain_root_none {t : Ty} {r : Option TL} : {fr : List Frame} → fr ≠ [] → Chain t r fr → r = none
  | [f], _, h => by
    obtain ⟨⟨ty, nul, hp, _⟩, _⟩ := h
    cases r with
    | none => rfl
    | some v => simp [posOf] at hp
  | f :: g :: rest, _, h => chain_root_none (fr := g :: rest) (by simp) h.2

theorem Inv.pos_wf {s : St} (h : Inv s) {ty : Ty} {nul : Bool} (hp : pos s = .value ty nul) : TyOK ty := by
  cases shape_of_pos hp with
  | root => exact h.wf
  | elem => exact (h.frames _ (.head _)).1
  | mapValue => exact (h.frames _ (.head _)).1
  | field _ _ hf => exact (h.frames _ (.head _)).1 _ (List.mem_of_find?_eq_some hf)

theorem Inv.parent {t : Ty} {f : Frame} {rest : List Frame} {r : Option TL} {tt : Bool}
    (h : Inv ⟨t, f :: rest, r, tt⟩) :
    ∃ ty nul, pos ⟨t, rest, r, tt⟩ = .value ty nul ∧ FrameFor f ty := h.chain.1

section
variable {t : Ty} {f : Frame} {rest : List Frame} {r : Option TL} {tt : Bool}

/-- the innermost frame is replaced by one of the same container (same type: `FrameFor` reads nothing else; where the new
    frame differs from the old in entries or phase only, the third argument is found by itself) -/
theorem Inv.replaceTop {g : Frame} (h : Inv ⟨t, f :: rest, r, tt⟩) (hg : FrameOK g)
    (hfor : ∀ ty, FrameFor f ty → FrameFor g ty := by exact fun _ hx => hx) : Inv ⟨t, g :: rest, r, tt⟩ := by
  refine ⟨h.wf, ?_, ⟨?_, h.chain.2⟩, h.root⟩
  · intro x hx
    simp only [List.mem_cons] at hx
    rcases hx with rfl | hx
    · exact hg
    · exact h.frames x (by simp [hx])
  · obtain ⟨ty, nul, hp, hf⟩ := h.chain.1
    exact ⟨ty, nul, hp, hfor ty hf⟩

theorem Inv.top (h : Inv ⟨t, f :: rest, r, tt⟩) : FrameOK f := h.frames f (.head _)

theorem Inv.mapPhase {vty : Ty} {vnul : Bool} {es : List (Bytes × TL)} {ph : Phase}
    (h : Inv ⟨t, .map vty vnul es ph :: rest, r, tt⟩) {ph' : Phase}
    (hfresh : PendFresh es ph') : Inv ⟨t, .map vty vnul es ph' :: rest, r, tt⟩ := by
  obtain ⟨hty, hnd, hgood, _⟩ := h.top
  exact h.replaceTop ⟨hty, hnd, hgood, hfresh⟩

theorem Inv.structPhase {fs : List Field} {es : List (Bytes × TL)} {ph : Phase}
    (h : Inv ⟨t, .struct fs es ph :: rest, r, tt⟩) {ph' : Phase}
    (hfresh : PendFresh es ph') : Inv ⟨t, .struct fs es ph' :: rest, r, tt⟩ := by
  obtain ⟨htys, hfnd, hnd, hes, _⟩ := h.top
  exact h.replaceTop ⟨htys, hfnd, hnd, hes, hfresh⟩

end

theorem deliver_inv {s : St} {v : TL} (h : Inv s) (hv : ∃ ty nul, pos s = .value ty nul ∧ Good ty nul v) :
    Inv (deliver s v).1 := by
  obtain ⟨ty, nul, hp, hg⟩ := hv
  cases shape_of_pos hp with
  | root => exact ⟨h.wf, h.frames, trivial, fun w hw => by cases hw; exact hg⟩
  | elem =>
    obtain ⟨hty, hgood⟩ := h.top
    exact h.replaceTop ⟨hty, forall_mem_snoc hgood hg⟩
  | mapValue =>
    obtain ⟨hty, hnd, hgood, hfresh⟩ := h.top
    exact h.replaceTop ⟨hty, nodup_keys_snoc hnd hfresh, forall_mem_snoc hgood hg, trivial⟩
  | field _ _ hf =>
    obtain ⟨htys, hfnd, hnd, hes, hfresh⟩ := h.top
    rw [deliver_struct hf]
    exact h.replaceTop ⟨htys, hfnd, nodup_keys_snoc hnd hfresh, forall_mem_snoc hes ⟨_, hf, hg⟩, trivial⟩

theorem Inv.push {s : St} (h : Inv s) {g : Frame} (hg : FrameOK g) {ty : Ty} {nul : Bool}
    (hp : pos s = .value ty nul) (hfor : FrameFor g ty) : Inv { s with frames := g :: s.frames } := by
  refine ⟨h.wf, ?_, ⟨⟨ty, nul, hp, hfor⟩, h.chain⟩, h.root⟩
  intro x hx
  simp only [List.mem_cons] at hx
  rcases hx with rfl | hx
  · exact hg
  · exact h.frames x hx

theorem valuePrim_inv {s : St} {ty : Ty} {nul : Bool} {op : Op} (h : Inv s) (hp : pos s = .value ty nul) :
    Inv (valuePrim s ty nul op).1 := by
  have hwf := h.pos_wf hp
  rcases valuePrim_cases s ty nul op with ⟨v, _, hok, h1⟩ | ⟨g, hg, h1⟩ | ⟨o, _, h1⟩ <;> rw [h1]
  · exact deliver_inv h ⟨_, _, hp, good_scalar hok⟩
  · cases hg with
    | map vty vnul =>
      exact h.push (g := .map vty vnul [] .init)
        ⟨⟨hwf.1, by simpa [plain] using hwf.2⟩, by simp, by simp, trivial⟩ hp rfl
    | struct fs r =>
      obtain ⟨h1, h2, _⟩ := Schema.wf_struct hwf.1
      have h3 := plainFields_mem fs (by simpa [plain] using hwf.2)
      exact h.push (g := .struct fs.toList [] .init)
        ⟨fun f hf => ⟨h1 f hf, h3 f hf⟩, h2, by simp, by simp, trivial⟩ hp ⟨fs, r, rfl, rfl⟩
    | list ety enul =>
      exact h.push (g := .list ety enul [] false)
        ⟨⟨hwf.1, by simpa [plain] using hwf.2⟩, by simp⟩ hp rfl
  · exact h

theorem fieldOf_of_hasKey {fs : List Field} {es : List (Bytes × TL)} {k : Bytes}
    (hes : EntriesOK fs es) (hk : hasKey es k = true) :
    ∃ f, fieldOf fs k = some f := by
  obtain ⟨p, hp, hpk⟩ := List.mem_map.1 (hasKey_iff.1 hk)
  obtain ⟨f, hf, _⟩ := hes p hp
  exact ⟨f, hpk ▸ hf⟩

theorem hasKey_of_no_field {fs : List Field} {es : List (Bytes × TL)} {k : Bytes}
    (hes : EntriesOK fs es) (hk : fieldOf fs k = none) :
    hasKey es k = false :=
  Bool.eq_false_iff.2 fun h => by
    obtain ⟨f, hf⟩ := fieldOf_of_hasKey hes h
    rw [hk] at hf; cases hf

theorem Inv.top_struct_field {t : Ty} {fs : List Field} {es : List (Bytes × TL)} {ph : Phase} {rest : List Frame}
    {r : Option TL} {tt : Bool} (h : Inv ⟨t, .struct fs es ph :: rest, r, tt⟩) {k : Bytes}
    (hk : k ∈ es.map (·.1)) : ∃ f, fieldOf fs k = some f := by
  obtain ⟨_, _, _, hes, _⟩ := h.top
  exact fieldOf_of_hasKey hes (hasKey_iff.2 hk)

theorem supplyKey_inv {e : Engine} {s : St} (k : Bytes) (he : e.keyAsmDupMapKey = false) (h : Inv s) :
    Inv (supplyKey e s k).1 := by
  have hsh := shape s
  generalize pos s = q at hsh
  cases hsh with
  | mapKey =>
    simp only [supplyKey]
    split
    · exact h.mapPhase trivial
    · rename_i hc
      simp only [he, Bool.not_false, Bool.and_true, Bool.not_eq_true] at hc
      exact h.mapPhase hc
  | structKey =>
    obtain ⟨_, _, _, hes, _⟩ := h.top
    simp only [supplyKey]
    split
    · rename_i hnone
      split
      · exact h.structPhase trivial
      · exact h.structPhase (hasKey_of_no_field hes hnone)
    · split
      · exact h.structPhase trivial
      · rename_i hc
        exact h.structPhase (Bool.eq_false_iff.2 hc)
  | _ => exact h

theorem Inv.finish {T : Ty} {f : Frame} {rest : List Frame} {r : Option TL} {tt : Bool} {v : TL}
    (h : Inv ⟨T, f :: rest, r, tt⟩) (hv : ∀ ty nul, FrameFor f ty → Good ty nul v) :
    Inv (deliver ⟨T, rest, r, tt⟩ v).1 := by
  obtain ⟨ty, nul, hp, hfor⟩ := h.parent
  exact deliver_inv ⟨h.wf, fun g hg => h.frames g (List.mem_cons_of_mem _ hg), h.chain.2, h.root⟩
    ⟨ty, nul, hp, hv _ _ hfor⟩

theorem stepPrim_inv {e : Engine} (he : e.keyAsmDupMapKey = false) (s : St) (op : Op) (h : Inv s) :
    Inv (stepPrim e s op).1 := by
  cases hpos : pos s with
  | value t nul => rw [stepPrim_at_value hpos]; exact valuePrim_inv h hpos
  | key =>
    rw [stepPrim_at_key hpos]
    unfold keyPrim
    split
    · exact supplyKey_inv _ he h
    all_goals exact h
  | errAsm => rw [stepPrim_at_errAsm hpos, errPrim_state]; exact h
  | other =>
    cases shape_of_pos hpos with
    | built => exact h
    | list =>
      obtain ⟨hty, hgood⟩ := h.top
      simp only [stepPrim]
      split
      · exact h.replaceTop ⟨hty, hgood⟩
      · exact h.finish fun ty nul hfor => by cases hfor; exact good_list nul hgood
      · exact h
    | mapInit =>
      obtain ⟨_, hnd, hgood, _⟩ := h.top
      simp only [stepPrim]
      split
      · exact h.mapPhase trivial
      · split
        · exact h
        · rename_i hc
          exact h.mapPhase (Bool.eq_false_iff.2 hc)
      · exact h.finish fun ty nul hfor => by cases hfor; exact good_map nul hnd hgood
      · exact h
    | mapExpect =>
      obtain ⟨_, _, _, hfresh⟩ := h.top
      simp only [stepPrim]
      split
      · exact h.mapPhase hfresh
      · exact h
    | structInit =>
      obtain ⟨_, hfnd, _, hes, _⟩ := h.top
      simp only [stepPrim]
      split
      · exact h.structPhase trivial
      · split
        · rename_i hnone
          split
          · exact h
          · exact h.structPhase (hasKey_of_no_field hes hnone)
        · split
          · exact h
          · rename_i hc
            exact h.structPhase (Bool.eq_false_iff.2 hc)
      · split
        · rename_i hreq
          exact h.finish fun ty nul hfor => by
            obtain ⟨F, rr, rfl, rfl⟩ := hfor
            exact good_struct rr nul hfnd hes hreq
        · exact h
      · exact h
    | structExpect =>
      obtain ⟨_, _, _, _, hfresh⟩ := h.top
      simp only [stepPrim]
      split
      · exact h.structPhase hfresh
      · exact h

theorem putList_inv {e : Engine} (he : e.keyAsmDupMapKey = false) : (xs : DMs) → (s : St) → Inv s → Inv (putList e s xs).1 :=
  fun xs s h => putList_eq e xs s ▸ Mach.putList_state (mach e) (stepPrim_inv he) xs s h

theorem putKVs_inv {e : Engine} (he : e.keyAsmDupMapKey = false) : (es : DMKVs) → (s : St) → Inv s → Inv (putKVs e s es).1 :=
  fun es s h => putKVs_eq e es s ▸ Mach.putKVs_state (mach e) (stepPrim_inv he) es s h

theorem step_inv {e : Engine} (he : e.keyAsmDupMapKey = false) (s : St) (op : Op) (h : Inv s) :
    Inv (step e s op).1 := by
  rw [step_eq]
  exact Mach.step_state (mach e) (stepPrim_inv he)
    (fun _ h => ⟨h.wf, h.frames, h.chain, h.root⟩) s op h

theorem run_inv {e : Engine} {s : St} (ops : List Op) (he : e.keyAsmDupMapKey = false) (h : Inv s) :
    Inv (run e s ops).1 :=
  run_eq_hist e ▸ Hist.run_state (step_inv he) ops s h

theorem build_good {s : St} {v : TL} (h : Inv s) (hb : build s = some v) : Good s.ty false v := by
  unfold build at hb
  split at hb
  · exact h.root v hb
  · cases hb

end TAsm
end Ipld

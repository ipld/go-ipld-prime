/-
  A well-typed Go value fixes the Go type and the schema type of its slot (one lemma per constructor,
  so that the recursions compute on constructors afterwards); what `assignC` stores is listed once, as the relation `Stored`
  (`assignC_eq_some`), read from a success and used to produce one.
-/
import IpldModel.Lemmas.GoBindBasic
namespace Ipld
namespace GoBind
open Schema

section
variable {g : GoTy} {t : Ty} {nul : Bool}

theorem wt_ptr {v : GoVal} (h : wt g t nul (.ptr v) = true) : ∃ g1, g = .ptr g1 ∧ wt g1 t false v = true := by
  unfold wt at h
  split at h
  · exact ⟨_, rfl, h⟩
  · cases h

theorem wt_slice {xs : GoVals} (h : wt g t nul (.slice xs) = true) :
    ∃ ge et enul, g = .slice ge ∧ t = .list et enul ∧ wtList ge et enul xs = true := by
  unfold wt at h
  simp only [Bool.and_eq_true] at h
  obtain ⟨-, h⟩ := h
  split at h
  · exact ⟨_, _, _, rfl, rfl, h⟩
  · cases h

theorem wt_struct {vs : GoVals} (h : wt g t nul (.struct vs) = true) :
    nul = false ∧ ∃ gfs, g = .struct gfs ∧
      ((∃ fs sr, t = .struct fs sr ∧ wtFields gfs fs.toList vs = true) ∨
       (∃ ms ur, t = .union ms ur ∧ wtUnion gfs ms.toList vs = true)) := by
  unfold wt at h
  simp only [Bool.and_eq_true, Bool.not_eq_true'] at h
  obtain ⟨hn, h⟩ := h
  split at h
  · exact ⟨hn, _, rfl, .inl ⟨_, _, rfl, h⟩⟩
  · exact ⟨hn, _, rfl, .inr ⟨_, _, rfl, h⟩⟩
  · cases h

theorem wt_omap {keys : Option (List Bytes)} {vnil : Bool} {vals : GoKVs} (h : wt g t nul (.omap keys vnil vals) = true) :
    nul = false ∧ ∃ gv vt vnul, g = .omap gv ∧ t = .map vt vnul ∧
      nodupBytes (keys.getD []) = true ∧ (∀ k ∈ keys.getD [], k ∈ vals.keys) ∧ wtKVs gv vt vnul vals = true := by
  unfold wt at h
  simp only [Bool.and_eq_true, Bool.not_eq_true'] at h
  obtain ⟨hn, h⟩ := h
  split at h
  · simp only [Bool.and_eq_true, List.all_eq_true, List.contains_eq_mem, decide_eq_true_eq] at h
    exact ⟨hn, _, _, _, rfl, rfl, h.1.1.1.1.1, h.1.1.1.2, h.2⟩
  · cases h

theorem view_nilBare {g : GoTy} {t : Ty} (hb : isBare g = true) : view g t true .nilBare = some .null :=
  if_pos hb

theorem view_enum_int (k : IntKind) (ms : List EnumMember) (i : Int) :
    view (.int k) (.enum ms .int) false (.int i) = (ms.find? (fun m => m.rint == i)).map fun m => .str m.name := rfl

theorem view_struct (gfs : GoFields) (fs : Fields) (sr : StructRepr) (vs : GoVals) :
    view (.struct gfs) (.struct fs sr) false (.struct vs) = (viewFields gfs fs.toList vs).map .map := rfl

theorem view_omap (gv : GoTy) (vt : Ty) (vnul : Bool) (keys : Option (List Bytes)) (vnil : Bool) (vals : GoKVs) :
    view (.omap gv) (.map vt vnul) false (.omap keys vnil vals) =
      (viewKVs gv vt vnul vals).bind fun tvs =>
        (lookupAll tvs (keys.getD [])).map fun es => .map (TLKVs.ofList es) := by
  show (match viewKVs gv vt vnul vals with | some tvs => _ | none => none) = _
  cases viewKVs gv vt vnul vals <;> rfl

theorem view_slice (ge : GoTy) (et : Ty) (enul nul : Bool) (xs : GoVals) :
    view (.slice ge) (.list et enul) nul (.slice xs) = (viewList ge et enul xs).map .list := by
  cases nul <;> rfl

end

section
variable {g : GoTy} {t : Ty} {nul : Bool} {gv : GoVal}

theorem assignC_any (hu : unptr nul g = some .node) {v : TL} (hv : v ≠ .null) :
    assignC g .any nul v = (TL.toDM? v).map fun d => wrapFor g (.node d) := by
  cases v with
  | null => exact absurd rfl hv
  | absent => rfl
  | list xs => unfold assignC; rw [hu, Option.map_map]; rfl
  | map es => unfold assignC; rw [hu, Option.map_map]; rfl
  | _ => unfold assignC; rw [hu]; rfl

end

/-- What is stored for a value that is not null in a slot of base type `g0` (the type behind the pointers of the slot):
    one constructor per way a Go type is bound to a schema type.  The parts are stored by the functions themselves. -/
inductive Stored : GoTy → Ty → TL → GoVal → Prop
  | bool {b} : Stored .bool .bool (.bool b) (.bool b)
  | int {k i} : Bind.fits k.width i = true → Stored (.int k) .int (.int i) (.int i)
  | float {f} : Stored .float .float (.float f) (.float f)
  | str {s} : Stored .str .str (.str s) (.str s)
  | enumStr {ms s r} : ms.any (fun m => m.name == s) = true → Stored .str (.enum ms r) (.str s) (.str s)
  | enumInt {k ms s m} : ms.find? (fun m => m.name == s) = some m → Bind.fits k.width m.rint = true →
      Stored (.int k) (.enum ms .int) (.str s) (.int m.rint)
  | bytes {b} : Stored .bytes .bytes (.bytes b) (.bytes b)
  | link {f c} : Stored (.link f) .link (.link c) (.link c)
  | node {v d} : TL.toDM? v = some d → v ≠ .null → Stored .node .any v (.node d)
  | list {ge et enul xs ys} : assignList ge et enul xs = some ys → Stored (.slice ge) (.list et enul) (.list xs) (.slice ys)
  | omap {gv vt vnul es kvs} : assignKVs gv vt vnul es = some kvs →
      Stored (.omap gv) (.map vt vnul) (.map es) (.omap (keysOf es) false kvs)
  | struct {gfs fs es vs sr} : assignFields gfs fs.toList es = some vs →
      Stored (.struct gfs) (.struct fs sr) (.map es) (.struct vs)
  | union {gfs ms k v i m g1 a ur} : findIdx (fun m => m.name == k) ms.toList = some (i, m) →
      gfs.get? i = some (.ptr g1) → assignC g1 m.ty false v = some a →
      Stored (.struct gfs) (.union ms ur) (.map (.cons k v .nil)) (.struct (unionVals gfs.length i a))

theorem assignC_eq_some {g : GoTy} {t : Ty} {nul : Bool} {v : TL} {gv : GoVal} (hv : v ≠ .null) :
    assignC g t nul v = some gv ↔ ∃ g0 x, unptr nul g = some g0 ∧ Stored g0 t v x ∧ gv = wrapFor g x := by
  constructor
  · intro h
    cases v with
    | null => exact absurd rfl hv
    | absent => cases h
    | bool _ | float _ | bytes _ | link _ =>
      unfold assignC at h
      rw [Option.map_eq_some_iff] at h
      obtain ⟨x, h, rfl⟩ := h
      split at h <;> cases h
      · exact ⟨_, _, ‹_›, by constructor, rfl⟩
      · exact ⟨_, _, ‹_›, .node rfl nofun, rfl⟩
    | int i =>
      unfold assignC at h
      rw [Option.map_eq_some_iff] at h
      obtain ⟨x, h, rfl⟩ := h
      split at h
      · split at h <;> cases h
        exact ⟨_, _, ‹_›, .int ‹_›, rfl⟩
      · cases h; exact ⟨_, _, ‹_›, .node rfl nofun, rfl⟩
      · cases h
    | str s =>
      unfold assignC at h
      rw [Option.map_eq_some_iff] at h
      obtain ⟨x, h, rfl⟩ := h
      split at h
      · cases h; exact ⟨_, _, ‹_›, .str, rfl⟩
      · split at h <;> cases h
        exact ⟨_, _, ‹_›, .enumStr ‹_›, rfl⟩
      · split at h
        · rename_i m hm
          simp only [Option.map_eq_some_iff, enumStore_eq_some] at h
          obtain ⟨_, ⟨rfl, hf⟩, rfl⟩ := h
          exact ⟨_, _, ‹_›, .enumInt hm hf, rfl⟩
        · cases h
      · cases h; exact ⟨_, _, ‹_›, .node rfl nofun, rfl⟩
      · cases h
    | list xs =>
      unfold assignC at h
      rw [Option.map_eq_some_iff] at h
      obtain ⟨x, h, rfl⟩ := h
      split at h
      · rw [Option.map_eq_some_iff] at h
        obtain ⟨ys, hys, rfl⟩ := h
        exact ⟨_, _, ‹_›, .list hys, rfl⟩
      · rw [Option.map_eq_some_iff] at h
        obtain ⟨d, hd, rfl⟩ := h
        exact ⟨_, _, ‹_›, .node hd nofun, rfl⟩
      · cases h
    | map es =>
      unfold assignC at h
      rw [Option.map_eq_some_iff] at h
      obtain ⟨x, h, rfl⟩ := h
      split at h
      · rw [Option.map_eq_some_iff] at h
        obtain ⟨ys, hys, rfl⟩ := h
        exact ⟨_, _, ‹_›, .omap hys, rfl⟩
      · rw [Option.map_eq_some_iff] at h
        obtain ⟨ys, hys, rfl⟩ := h
        exact ⟨_, _, ‹_›, .struct hys, rfl⟩
      · split at h
        · split at h
          · split at h
            · rw [Option.map_eq_some_iff] at h
              obtain ⟨a, ha, rfl⟩ := h
              exact ⟨_, _, ‹_›, .union ‹_› ‹_› ha, rfl⟩
            · cases h
          · cases h
        · cases h
      · rw [Option.map_eq_some_iff] at h
        obtain ⟨d, hd, rfl⟩ := h
        exact ⟨_, _, ‹_›, .node hd nofun, rfl⟩
      · cases h
  · rintro ⟨g0, x, hu, hs, rfl⟩
    cases hs with
    | node hd hn => rw [assignC_any hu hn, hd]; rfl
    | _ => unfold assignC; simp only [*, if_true, Option.map_some, enumStore_fits]

theorem assignC_stored {g : GoTy} {t : Ty} {nul : Bool} {v : TL} {gv : GoVal} (ha : assignC g t nul v = some gv)
    (hv : v ≠ .null) : ∃ g0 x, unptr nul g = some g0 ∧ Stored g0 t v x ∧ gv = wrapFor g x :=
  (assignC_eq_some hv).1 ha

theorem Stored.assignC {g g0 : GoTy} {t : Ty} {nul : Bool} {v : TL} {x : GoVal} (hs : Stored g0 t v x)
    (hu : unptr nul g = some g0) : assignC g t nul v = some (wrapFor g x) :=
  (assignC_eq_some (by cases hs <;> first | assumption | nofun)).2 ⟨g0, x, hu, hs, rfl⟩

/-- what is stored is never a nil: a list that has been begun is a non-nil slice -/
theorem Stored.ne_nil {g0 : GoTy} {t : Ty} {v : TL} {x : GoVal} (h : Stored g0 t v x) : x ≠ .nilBare ∧ x ≠ .nilSlice := by
  cases h <;> exact ⟨nofun, nofun⟩

theorem assignC_bare_ne {g : GoTy} {t : Ty} {v : TL} {a : GoVal} (hb : isBare g = true)
    (ha : assignC g t false v = some a) : a ≠ .nilBare ∧ a ≠ .nilSlice := by
  obtain ⟨g0, x, _, hs, rfl⟩ := assignC_stored ha (fun h => by subst h; cases ha)
  rw [wrapFor_notPtr x (notPtr_of_isBare hb)]
  exact hs.ne_nil

end GoBind
end Ipld

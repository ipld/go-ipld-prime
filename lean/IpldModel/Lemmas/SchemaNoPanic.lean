/-
  The builders never panic, for every engine without the quirks that make one panic
  (`nullableUnionPanic`, `lpUnknownKeyPanic`, `assignNodeSkipsBegin` under `viaNode`) - in particular for
  `Engine.ideal`.
-/
import IpldModel.Lemmas.SchemaEqns
import IpldModel.Lemmas.SchemaInduct
namespace Ipld
namespace Schema

/-- An engine without the quirks that make a builder panic: the two panic quirks of the reflection binding,
    and `assignNodeSkipsBegin` of generated code where it can act (driving mode `viaNode`). -/
structure Engine.NoPanicFlags (e : Engine) : Prop where
  nup : e.nullableUnionPanic = false
  lpk : e.lpUnknownKeyPanic = false
  node : (e.viaNode && e.assignNodeSkipsBegin) = false

theorem Engine.ideal_noPanicFlags : Engine.ideal.NoPanicFlags := ⟨rfl, rfl, rfl⟩

theorem scalars_noPanic (e : Engine) (h : e.NoPanicFlags) :
    (∀ ty lvl nul d, buildScalar e lvl nul d ty ≠ .panic) ∧ (∀ fs ps, buildJoin e fs ps ≠ .panic) ∧
    ∀ ms, (∀ nul d, buildKinded e nul d ms ≠ .panic) ∧ (∀ nul p r, buildPrefix e nul p r ms ≠ .panic) ∧
      ∀ nul s, buildPrefixNoDelim e nul s ms ≠ .panic := by
  apply Ty.builder_induct
  iterate 7 (intro lvl nul d; unfold buildScalar; split <;> nofun)
  · intros; nofun
  · intros; nofun
  · intro fs r hj lvl nul d
    rw [buildScalar_struct]
    split
    · split
      · nofun
      · exact Outcome.map_ne_panic (hj _)
    · nofun
  · intro ms r ⟨hk, hp, hn⟩ lvl nul d
    unfold buildScalar
    split
    · exact hk _ _
    · split
      · split
        · split
          · split
            · nofun
            · exact hp _ _ _
          · exact hn _ _
        · split
          · nofun
          · exact hp _ _ _
      · nofun
    · nofun
  · intro ms r lvl nul d
    unfold buildScalar
    split
    · split <;> nofun
    · split
      · split
        · nofun
        · split
          · split <;> nofun
          · nofun
      · nofun
    · split
      · split <;> nofun
      · nofun
    · nofun
  · intro ps; cases ps <;> nofun
  · intro n rn o nu t rest ht hj ps
    rcases ps with _ | ⟨p, ps⟩
    · nofun
    rw [buildJoin_cons]
    exact Outcome.bind_ne_panic (ht _ _ _) fun _ => Outcome.map_ne_panic (hj ps)
  · exact ⟨nofun, nofun, nofun⟩
  · intro n dc k t rest ht ⟨hk, hp, hn⟩
    refine ⟨fun nul d => ?_, fun nul p r => ?_, fun nul s => ?_⟩
    · rw [buildKinded_cons, memberStep_off h.nup]
      split
      · exact Outcome.map_ne_panic (ht _ _ _)
      · exact hk _ _
    · rw [buildPrefix_cons, memberStep_off h.nup]
      split
      · exact Outcome.map_ne_panic (ht _ _ _)
      · exact hp _ _ _
    · rw [buildPrefixNoDelim_cons, memberStep_off h.nup]
      split
      · exact Outcome.map_ne_panic (ht _ _ _)
      · exact hn _ _

theorem buildScalar_noPanic (e : Engine) (h : e.NoPanicFlags) (lvl : Level) (nul : Bool) (d : DM) :
    (ty : Ty) → buildScalar e lvl nul d ty ≠ .panic :=
  fun ty => (scalars_noPanic e h).1 ty lvl nul d
theorem buildJoin_noPanic (e : Engine) (h : e.NoPanicFlags) :
    (fs : Fields) → (ps : List Bytes) → buildJoin e fs ps ≠ .panic :=
  (scalars_noPanic e h).2.1
theorem buildKinded_noPanic (e : Engine) (h : e.NoPanicFlags) (nul : Bool) (d : DM) :
    (ms : Members) → buildKinded e nul d ms ≠ .panic :=
  fun ms => ((scalars_noPanic e h).2.2 ms).1 nul d
theorem buildPrefix_noPanic (e : Engine) (h : e.NoPanicFlags) (nul : Bool) (p r : Bytes) :
    (ms : Members) → buildPrefix e nul p r ms ≠ .panic :=
  fun ms => ((scalars_noPanic e h).2.2 ms).2.1 nul p r
theorem buildPrefixNoDelim_noPanic (e : Engine) (h : e.NoPanicFlags) (nul : Bool) (s : Bytes) :
    (ms : Members) → buildPrefixNoDelim e nul s ms ≠ .panic :=
  fun ms => ((scalars_noPanic e h).2.2 ms).2.2 nul s

theorem resolves_noPanic (e : Engine) (h : e.NoPanicFlags) :
    (∀ ty nul k, resolveKinded e nul k ty ≠ .panic) ∧ ∀ ms nul k, resolveMembers e nul k ms ≠ .panic := by
  apply Ty.kinded_induct
  · intro t ht nul k
    rw [resolveKinded_of_not_kinded e nul k ht]
    nofun
  · intro ms ih nul k
    unfold resolveKinded
    exact ih nul k
  · intros; simp [resolveMembers]
  · intro n _ k' t rest ht hr nul k
    rw [resolveMembers_cons, memberStep_off h.nup]
    split
    · exact Outcome.map_ne_panic (ht false k)
    · exact hr nul k

theorem resolveKinded_noPanic (e : Engine) (h : e.NoPanicFlags) (nul : Bool) (k : Kind) :
    (ty : Ty) → resolveKinded e nul k ty ≠ .panic :=
  fun ty => (resolves_noPanic e h).1 ty nul k
theorem resolveMembers_noPanic (e : Engine) (h : e.NoPanicFlags) (nul : Bool) (k : Kind) :
    (ms : Members) → resolveMembers e nul k ms ≠ .panic :=
  fun ms => (resolves_noPanic e h).2 ms nul k

theorem dispatch_noPanic (e : Engine) (h : e.NoPanicFlags) (lvl : Level) (nul : Bool) (k : Kind) (ty : Ty) :
    dispatch e lvl nul k ty ≠ .panic := by
  cases lvl
  · nofun
  · exact resolveKinded_noPanic e h nul k ty

theorem SSt.finish_ne_panic (fs : List Field) (st : SSt) : st.finish fs ≠ .panic := by
  unfold SSt.finish; split <;> nofun

theorem builders_noPanic (e : Engine) (h : e.NoPanicFlags) :
    (∀ d lvl ty nul cur, build e lvl ty nul cur d ≠ .panic) ∧
    (∀ xs, (∀ lvl ety enul acc, buildList e lvl ety enul acc xs ≠ .panic) ∧
      (∀ fs st i, buildTuple e fs st i xs ≠ .panic) ∧ ∀ fs st, buildPairs e fs st xs ≠ .panic) ∧
    ∀ es, (∀ lvl vty vnul acc, buildMap e lvl vty vnul acc es ≠ .panic) ∧
      (∀ lvl fs st, buildStruct e lvl fs st es ≠ .panic) ∧
      ∀ lvl ms cur n, buildUnion e lvl ms cur n es ≠ .panic := by
  apply DM.builder_induct
  · intro lvl ty nul cur
    unfold build; split <;> nofun
  · intro d hs hn lvl ty nul cur
    rw [build_of_isScalar hs hn]
    exact buildScalar_noPanic e h lvl nul d ty
  · intro xs ⟨hl, ht, hp⟩ lvl ty nul cur
    rw [build_list_eq]
    refine Outcome.bind_ne_panic (dispatch_noPanic e h lvl nul .list ty) fun r => Outcome.map_ne_panic ?_
    unfold listBody
    split
    · exact Outcome.map_ne_panic (hl _ _ _ _)
    · split
      · exact ht _ _ _
      · exact hp _ _
      · nofun
    · split <;> nofun
    · nofun
  · intro es ⟨hm, hs, hu⟩ lvl ty nul cur
    rw [build_map_eq h.node]
    refine Outcome.bind_ne_panic (dispatch_noPanic e h lvl nul .map ty) fun r => Outcome.map_ne_panic ?_
    unfold mapBody
    split
    · exact Outcome.map_ne_panic (hm _ _ _ _)
    · split
      · exact hs _ _ _
      · exact hs _ _ _
      · nofun
    · split
      · exact hu _ _ _ _
      · exact hu _ _ _ _
      · nofun
    · split <;> nofun
    · nofun
  · refine ⟨fun _ _ _ _ => ?_, fun fs st i => ?_, fun fs st => ?_⟩
    · unfold buildList; nofun
    · unfold buildTuple
      split
      · unfold SSt.finishZero; nofun
      · exact SSt.finish_ne_panic fs st
    · unfold buildPairs; exact SSt.finish_ne_panic fs st
  · intro x xs hx hsub ⟨hl, ht, hp⟩
    refine ⟨fun lvl ety enul acc => ?_, fun fs st i => ?_, fun fs st => ?_⟩
    · rw [buildList_cons_off h.node]
      exact Outcome.bind_ne_panic (hx _ _ _ _) fun _ => hl _ _ _ _
    · rw [buildTuple_cons_off h.node]
      split
      · nofun
      · exact Outcome.bind_ne_panic (hx _ _ _ _) fun _ => ht _ _ _
    · rcases DM.pair_cases x with rfl | ⟨k, rfl⟩ | ⟨k, v, rest, rfl⟩ | hbad
      · rw [buildPairs]
        split
        · exact hp _ _
        · nofun
      · rw [buildPairs]
        split
        · exact hp _ _
        · nofun
      · rw [buildPairs_pair]
        split
        · rw [h.lpk]; nofun
        · split
          · nofun
          · refine Outcome.bind_ne_panic (hsub _ rfl v (by simp [DMs.toList]) _ _ _ _) fun _ => ?_
            split
            · exact hp _ _
            · nofun
      · rw [hbad]; nofun
  · refine ⟨fun _ _ _ _ => ?_, fun lvl fs st => ?_, fun _ _ cur _ => ?_⟩
    · unfold buildMap; nofun
    · unfold buildStruct; exact SSt.finish_ne_panic fs st
    · unfold buildUnion; split <;> nofun
  · intro k v es hv ⟨hm, hs, hu⟩
    refine ⟨fun lvl vty vnul acc => ?_, fun lvl fs st => ?_, fun lvl ms cur n => ?_⟩
    · rw [buildMap_cons_off h.node]
      split
      · nofun
      · exact Outcome.bind_ne_panic (hv _ _ _ _) fun _ => hm _ _ _ _
    · rw [buildStruct_cons_off h.node]
      split
      · nofun
      · split
        · nofun
        · exact Outcome.bind_ne_panic (hv _ _ _ _) fun _ => hs _ _ _
    · rw [buildUnion_cons]
      split
      · nofun
      · split
        · nofun
        · exact Outcome.bind_ne_panic (hv _ _ _ _) fun _ => hu _ _ _ _

theorem build_noPanic (e : Engine) (h : e.NoPanicFlags) (lvl : Level) (ty : Ty) (nul : Bool)
    (cur : Option TL) : (d : DM) → build e lvl ty nul cur d ≠ .panic :=
  fun d => (builders_noPanic e h).1 d lvl ty nul cur
theorem buildList_noPanic (e : Engine) (h : e.NoPanicFlags) (lvl : Level) (ety : Ty) (enul : Bool)
    (acc : List TL) : (xs : DMs) → buildList e lvl ety enul acc xs ≠ .panic :=
  fun xs => ((builders_noPanic e h).2.1 xs).1 lvl ety enul acc
theorem buildMap_noPanic (e : Engine) (h : e.NoPanicFlags) (lvl : Level) (vty : Ty) (vnul : Bool)
    (acc : List (Bytes × TL)) : (es : DMKVs) → buildMap e lvl vty vnul acc es ≠ .panic :=
  fun es => ((builders_noPanic e h).2.2 es).1 lvl vty vnul acc
theorem buildStruct_noPanic (e : Engine) (h : e.NoPanicFlags) (lvl : Level) (fs : List Field)
    (st : SSt) : (es : DMKVs) → buildStruct e lvl fs st es ≠ .panic :=
  fun es => ((builders_noPanic e h).2.2 es).2.1 lvl fs st
theorem buildTuple_noPanic (e : Engine) (h : e.NoPanicFlags) (fs : List Field)
    (st : SSt) (i : Nat) : (xs : DMs) → buildTuple e fs st i xs ≠ .panic :=
  fun xs => ((builders_noPanic e h).2.1 xs).2.1 fs st i
theorem buildPairs_noPanic (e : Engine) (h : e.NoPanicFlags) (fs : List Field)
    (st : SSt) : (xs : DMs) → buildPairs e fs st xs ≠ .panic :=
  fun xs => ((builders_noPanic e h).2.1 xs).2.2 fs st
theorem buildUnion_noPanic (e : Engine) (h : e.NoPanicFlags) (lvl : Level) (ms : List Member)
    (cur : Option TL) (n : Nat) : (es : DMKVs) → buildUnion e lvl ms cur n es ≠ .panic :=
  fun es => ((builders_noPanic e h).2.2 es).2.2 lvl ms cur n

end Schema
end Ipld

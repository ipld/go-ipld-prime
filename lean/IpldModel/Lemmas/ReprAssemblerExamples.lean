/-
  Representation-level assemblers: the example types and histories used by the non-vacuity examples of
  Props/C12repr.lean.
-/
import IpldModel.Lemmas.ReprAssemblerPlan
import IpldModel.Lemmas.ReprAssemblerReset
namespace Ipld
namespace RAsm
open Ipld.Asm (Op Out ErrClass)
open Ipld.Schema (Ty Fields Members Field Member TL TLs TLKVs)
open Ipld.TAsm (Call)

/-- `struct { a Int (rename "x"); b optional nullable [String] } representation map` -/
def exStructTy : Ty :=
  .struct (.cons [97] [120] false false .int (.cons [98] [98] true true (.list .str false) .nil)) .map

/-- `struct { p Int; q optional String; r optional Bool } representation tuple` -/
def exTupleTy : Ty :=
  .struct (.cons [112] [112] false false .int (.cons [113] [113] true false .str
    (.cons [114] [114] true false .bool .nil))) .tuple

/-- `struct { f String; g String } representation stringjoin ":"` -/
def exJoinTy : Ty :=
  .struct (.cons [102] [102] false false .str (.cons [103] [103] false false .str .nil)) (.stringjoin [58])

/-- `union { | Int "i" | exStructTy "s" } representation keyed` (member type names "I", "S") -/
def exKeyedTy : Ty :=
  .union (.cons [73] [105] .int .int (.cons [83] [115] .map exStructTy .nil)) .keyed

/-- `union { | Int int | exTupleTy list | exJoinTy string } representation kinded` (member type names "I", "T", "J") -/
def exKindedTy : Ty :=
  .union (.cons [73] [] .int .int (.cons [84] [] .list exTupleTy (.cons [74] [] .str exJoinTy .nil))) .kinded

/-- `{String : Int}` -/
def exMapTy : Ty := .map .int false

/-- the struct, map representation: builds `{a: 5, b: ["x"]}` from the representation `{"b": ["x"], "x": 5}` with six
    refused calls: `Finish` while `x` is missing, a string and `BeginMap` for `b`, the node `["x", 1]` for `b`,
    `AssembleEntry "x"` a second time, `"b"` through the key assembler a second time -/
def exStructHistory : List Op :=
  [.beginMap 0, .finish,
   .assembleEntry [98], .assign (.str [120]), .beginMap 0,
   .assignNode (.list (.cons (.str [120]) (.cons (.int 1) .nil))),
   .beginList 1, .assembleValue, .assign (.str [120]), .finish,
   .assembleEntry [120], .assign (.int 5),
   .assembleEntry [120],
   .assembleKey, .assign (.str [98]),
   .finish]

def exStructBuilt : TL :=
  .map (.cons [97] (.int 5) (.cons [98] (.list (.cons (.str [120]) .nil)) .nil))

/-- the original name of the renamed field, given as a key -/
def exStructUnknown : List Op := [.beginMap 0, .assembleEntry [97], .assign (.int 5)]

/-- the tuple: a string for the struct, `Finish` before the required field, a string for the Int field `p`, then
    `[7, "y"]` - the trailing optional field `r` is not supplied and shows as `absent` -/
def exTupleHistory : List Op :=
  [.assign (.str [120]), .beginList 2, .finish, .assembleValue, .assign (.str [120]), .assign (.int 7),
   .assembleValue, .assign (.str [121]), .finish]

def exTupleBuilt : TL := .map (.cons [112] (.int 7) (.cons [113] (.str [121]) (.cons [114] .absent .nil)))

/-- `BeginMap` on the tuple's representation builder, and what the map assembler it hands out (the reflection binding)
    answers -/
def exTupleBeginMap : List Op := [.beginMap 0, .finish, .assembleEntry [112], .assembleKey, .assign (.str [112])]

/-- the keyed union: `Finish` before any entry, the entry `"s"` with the struct built inside it -/
def exKeyedHistory : List Op :=
  [.beginMap 1, .finish, .assembleEntry [115], .beginMap 1, .assembleEntry [120], .assign (.int 5), .finish, .finish]

def exKeyedBuilt : TL := .map (.cons [83] (.map (.cons [97] (.int 5) (.cons [98] .absent .nil))) .nil)

/-- a second entry for the union that has its member -/
def exKeyedSecond : List Op :=
  [.beginMap 1, .assembleEntry [105], .assign (.int 1), .assembleEntry [105], .assign (.int 2)]

/-- the kinded union: a bool (no member of that kind), a string the stringjoin member cannot split - both refused, the
    union has no member -, then a list: the tuple member, built call by call -/
def exKindedHistory : List Op :=
  [.assign (.bool true), .assign (.str [120]), .beginList 1, .assembleValue, .assign (.int 7), .finish]

def exKindedBuilt : TL := .map (.cons [84] (.map (.cons [112] (.int 7) (.cons [113] .absent (.cons [114] .absent .nil)))) .nil)

/-- `{"a":1}` begun, `"a"` handed to the key assembler -/
def exDupViaKeyAsm : List Op :=
  [.beginMap 1, .assembleEntry [97], .assign (.int 1), .assembleKey, .assign (.str [97])]

/-- the struct is handed the node `{"x": 1, "b": 2}` (refused at `b`), then built call by call -/
def exRefusedNode : List Op :=
  [.assignNode (.map (.cons [120] (.int 1) (.cons [98] (.int 2) .nil))),
   .beginMap 1, .assembleEntry [120], .assign (.int 5), .finish]

end RAsm
end Ipld

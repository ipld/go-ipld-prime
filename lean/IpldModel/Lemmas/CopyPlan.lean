/-
  The plans of a node (`Asm.Plan`: any size hints, entries opened by `AssembleEntry` or through the key assembler, any
  subtree handed over with `AssignNode`) on a builder machine `Mach`: every plan ends where the accepted copy of the node
  ends, accepted call by call.
-/
import IpldModel.Lemmas.CopyMachine
import IpldModel.Lemmas.AsmPlanDefs
namespace Ipld
open Ipld.Asm (Op Out ErrClass Plan PlanList PlanKVs)
namespace Mach
variable {σ : Type} {M : Mach σ}

/-- What the plans of a node need of the calls: the mark stays, a size hint is not looked at, and `AssembleEntry(k)` is
    `AssembleKey().AssignString(k)` followed by `AssembleValue()`. -/
structure PlanCalls (M : Mach σ) : Prop where
  tainted_prim : ∀ s op, M.tainted (M.prim s op).1 = M.tainted s
  hint : ∀ s n m, M.prim s (.beginList n) = M.prim s (.beginList m) ∧ M.prim s (.beginMap n) = M.prim s (.beginMap m)
  entry : ∀ {s s1 s2 s3 k}, M.prim s .assembleKey = (s1, .ok) → M.prim s1 (.assign (.str k)) = (s2, .ok) →
    M.prim s2 .assembleValue = (s3, .ok) → M.prim s (.assembleEntry k) = (s3, .ok)

theorem PlanCalls.keeps (L : M.PlanCalls) {s s' : σ} {op : Op} {o : Out} (ht : M.tainted s = false)
    (h : M.prim s op = (s', o)) : M.tainted s' = false := by
  rw [← ht, ← L.tainted_prim s op, h]

theorem PlanCalls.putNode_keeps (L : M.PlanCalls) {s s' : σ} {v : DM} {o : Out} (ht : M.tainted s = false)
    (h : M.putNode s v = (s', o)) : M.tainted s' = false := by
  have := putNode_state M (P := fun x => M.tainted x = false) (fun s1 op h1 => (L.tainted_prim s1 op).trans h1) v s ht
  rwa [h] at this

theorem PlanCalls.putList_keeps (L : M.PlanCalls) {s s' : σ} {xs : DMs} {o : Out} (ht : M.tainted s = false)
    (h : M.putList s xs = (s', o)) : M.tainted s' = false := by
  have := putList_state M (P := fun x => M.tainted x = false) (fun s1 op h1 => (L.tainted_prim s1 op).trans h1) xs s ht
  rwa [h] at this

theorem PlanCalls.putKVs_keeps (L : M.PlanCalls) {s s' : σ} {es : DMKVs} {o : Out} (ht : M.tainted s = false)
    (h : M.putKVs s es = (s', o)) : M.tainted s' = false := by
  have := putKVs_state M (P := fun x => M.tainted x = false) (fun s1 op h1 => (L.tainted_prim s1 op).trans h1) es s ht
  rwa [h] at this

def RunsCopy (M : Mach σ) {α : Type} (put : σ → α → σ × Out) (x : α) (ops : List Op) : Prop :=
  ∀ s s', M.tainted s = false → put s x = (s', .ok) → Hist.Runs M.step s ops s'

theorem scalar_runs (d : DM) (hs : Asm.isScalar d = true) : RunsCopy M M.putNode d [.assign d] := fun s s' ht h => by
  rw [putNode_of_not_rec (by rw [TAsm.isRec_eq, hs]; rfl)] at h
  exact Hist.Runs.cons (step_prim ht h nofun) rfl

theorem node_runs (d : DM) : RunsCopy M M.putNode d [.assignNode d] := fun _ _ ht h =>
  Hist.Runs.cons (step_assignNode_ok ht h) rfl

theorem list_runs (L : M.PlanCalls) (n : Int) (xs : DMs) (ops : List Op) (body : RunsCopy M M.putList xs ops) :
    RunsCopy M M.putNode (.list xs) (.beginList n :: (ops ++ [.finish])) := fun s s' ht h => by
  simp only [putNode] at h
  obtain ⟨s1, h1, h⟩ := andThen_eq_ok h
  obtain ⟨s2, h2, h3⟩ := andThen_eq_ok h
  have ht1 := L.keeps ht h1
  rw [(L.hint s 0 n).1] at h1
  exact Hist.Runs.cons (step_prim ht h1 nofun) (Hist.Runs.append (body s1 s2 ht1 h2)
    (Hist.Runs.cons (step_prim (L.putList_keeps ht1 h2) h3 nofun) rfl))

theorem map_runs (L : M.PlanCalls) (n : Int) (es : DMKVs) (ops : List Op) (body : RunsCopy M M.putKVs es ops) :
    RunsCopy M M.putNode (.map es) (.beginMap n :: (ops ++ [.finish])) := fun s s' ht h => by
  simp only [putNode] at h
  obtain ⟨s1, h1, h⟩ := andThen_eq_ok h
  obtain ⟨s2, h2, h3⟩ := andThen_eq_ok h
  have ht1 := L.keeps ht h1
  rw [(L.hint s 0 n).2] at h1
  exact Hist.Runs.cons (step_prim ht h1 nofun) (Hist.Runs.append (body s1 s2 ht1 h2)
    (Hist.Runs.cons (step_prim (L.putKVs_keeps ht1 h2) h3 nofun) rfl))

theorem elem_runs (L : M.PlanCalls) (x : DM) (xs : DMs) (o1 o2 : List Op) (r1 : RunsCopy M M.putNode x o1)
    (r2 : RunsCopy M M.putList xs o2) : RunsCopy M M.putList (.cons x xs) (.assembleValue :: (o1 ++ o2)) :=
  fun s s' ht h => by
  simp only [putList] at h
  obtain ⟨s1, h1, h⟩ := andThen_eq_ok h
  obtain ⟨s2, h2, h3⟩ := andThen_eq_ok h
  have ht1 := L.keeps ht h1
  exact Hist.Runs.cons (step_prim ht h1 nofun)
    (Hist.Runs.append (r1 s1 s2 ht1 h2) (r2 s2 s' (L.putNode_keeps ht1 h2) h3))

theorem entry_runs (L : M.PlanCalls) {k : Bytes} {v : DM} {es : DMKVs} {pre o1 o2 : List Op}
    (hpre : ∀ {s s1 s2 s3}, M.tainted s = false → M.prim s .assembleKey = (s1, .ok) →
      M.prim s1 (.assign (.str k)) = (s2, .ok) → M.prim s2 .assembleValue = (s3, .ok) → Hist.Runs M.step s pre s3)
    (r1 : RunsCopy M M.putNode v o1) (r2 : RunsCopy M M.putKVs es o2) :
    RunsCopy M M.putKVs (.cons k v es) (pre ++ (o1 ++ o2)) := fun s s' ht h => by
  simp only [putKVs] at h
  obtain ⟨s1, h1, h⟩ := andThen_eq_ok h
  obtain ⟨s2, h2, h⟩ := andThen_eq_ok h
  obtain ⟨s3, h3, h⟩ := andThen_eq_ok h
  obtain ⟨s4, h4, h5⟩ := andThen_eq_ok h
  have ht3 := L.keeps (L.keeps (L.keeps ht h1) h2) h3
  exact Hist.Runs.append (hpre ht h1 h2 h3)
    (Hist.Runs.append (r1 s3 s4 ht3 h4) (r2 s4 s' (L.putNode_keeps ht3 h4) h5))

/-- an entry opened through the key assembler; `keyOp` hands it the key: `AssignString`, or `AssignNode` of a string node -/
theorem key_runs (L : M.PlanCalls) {k : Bytes} (keyOp : Op) (hk : ∀ s, M.tainted s = false →
    M.step s keyOp = M.prim s (.assign (.str k))) {s s1 s2 s3 : σ} (ht : M.tainted s = false)
    (h1 : M.prim s .assembleKey = (s1, .ok)) (h2 : M.prim s1 (.assign (.str k)) = (s2, .ok))
    (h3 : M.prim s2 .assembleValue = (s3, .ok)) : Hist.Runs M.step s [.assembleKey, keyOp, .assembleValue] s3 :=
  have ht1 := L.keeps ht h1
  Hist.Runs.cons (step_prim ht h1 nofun) (Hist.Runs.cons ((hk s1 ht1).trans h2)
    (Hist.Runs.cons (step_prim (L.keeps ht1 h2) h3 nofun) rfl))

theorem plan_runs_all (L : M.PlanCalls) :
    (∀ d ops, Plan d ops → RunsCopy M M.putNode d ops) ∧ (∀ xs ops, PlanList xs ops → RunsCopy M M.putList xs ops) ∧
      ∀ es ops, PlanKVs es ops → RunsCopy M M.putKVs es ops :=
  Asm.Plan.induct scalar_runs node_runs (list_runs L) (map_runs L)
    (fun s s' _ h => by cases h; rfl) (elem_runs L) (fun s s' _ h => by cases h; rfl)
    (fun k _ _ _ _ => entry_runs L (pre := [.assembleEntry k]) fun ht h1 h2 h3 =>
      Hist.Runs.cons (step_prim ht (L.entry h1 h2 h3) nofun) rfl)
    (fun k _ _ _ _ => entry_runs L (key_runs L (.assign (.str k)) fun _ ht => step_prim ht rfl nofun))
    (fun k _ _ _ _ =>
      entry_runs L (key_runs L (.assignNode (.str k)) fun _ ht => step_assignNode_scalar ht rfl))

theorem plan_runs (L : M.PlanCalls) {d : DM} {ops : List Op} (h : Plan d ops) : RunsCopy M M.putNode d ops :=
  (plan_runs_all L).1 d ops h

theorem planList_runs (L : M.PlanCalls) {xs : DMs} {ops : List Op} (h : PlanList xs ops) : RunsCopy M M.putList xs ops :=
  (plan_runs_all L).2.1 xs ops h

theorem planKVs_runs (L : M.PlanCalls) {es : DMKVs} {ops : List Op} (h : PlanKVs es ops) : RunsCopy M M.putKVs es ops :=
  (plan_runs_all L).2.2 es ops h

end Mach
end Ipld

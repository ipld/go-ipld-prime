/-
  The functions regenerated from `codec/dagcbor/marshal.go` (`uintLength_src`, the two `cborLess_src_*` comparators)
  are the model's.
-/
import IpldModel.Model.Cbor
import IpldModel.Generated.CborMarshal
namespace Ipld
namespace Cbor

open Generated in
theorem uintLength_src_eq (ii : Int) (h0 : 0 ≤ ii) :
    uintLength_src ii = (uintLength ii.toNat : Int) := by
  obtain ⟨n, rfl⟩ := Int.eq_ofNat_of_zero_le h0
  unfold uintLength_src uintLength
  -- the cast goes through the chain of thresholds, and a comparison of casts is the comparison
  simp only [decide_eq_true_eq, Int.toNat_natCast, apply_ite (Nat.cast (R := Int)), ← Int.ofNat_lt (n := n), ite_self]
  rfl

/-- Go's string `<` is the strict part of the model's bytewise order. -/
theorem strLt_eq_not_lexLE : (a b : Bytes) → strLt a b = !lexLE b a
  | [], [] => rfl
  | [], _ :: _ => rfl
  | _ :: _, [] => rfl
  | x :: xs, y :: ys => by
    simp only [strLt, lexLE]
    by_cases h1 : x.toNat < y.toNat
    · have : ¬ y.toNat < x.toNat := by omega
      simp [h1, this]
    · by_cases h2 : y.toNat < x.toNat
      · simp [h1, h2]
      · simp [h1, h2, strLt_eq_not_lexLE xs ys]

open Generated in
theorem cborLess_src_rfc7049_eq (a b : Bytes) :
    cborLess_src_MapSortMode_RFC7049 a b = !cborLE b a := by
  unfold cborLess_src_MapSortMode_RFC7049 cborLE goLen
  simp only [strLt_eq_not_lexLE]
  by_cases h : (a.length : Int) = b.length
  · have h' : a.length = b.length := by omega
    simp [h']
  · have h' : ¬ a.length = b.length := by omega
    simp only [beq_iff_eq, h, if_false]
    by_cases h1 : b.length < a.length
    · have : ¬ ((a.length : Int) < b.length) := by omega
      simp [h1, this]
    · have : (a.length : Int) < b.length := by omega
      have h2 : a.length < b.length := by omega
      simp [h1, this, h2]

open Generated in
theorem cborLess_src_lexical_eq (a b : Bytes) :
    cborLess_src_MapSortMode_Lexical a b = !lexLE b a := by
  unfold cborLess_src_MapSortMode_Lexical
  exact strLt_eq_not_lexLE a b

end Cbor
end Ipld

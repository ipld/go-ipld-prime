/-
  What the functions of the link system (Model/Link.lean) do, each brought to one normal form: `truncate` and `buildLink`
  (a link is rebuilt by its own prototype, hence `hashesTo`), `fill` / `loadRaw` / `load` on untrusted storage and
  `LoadPlusRaw` on top of `loadRaw` (transcribed here as `loadPlusRaw`; the model file has no such function), `store` over an
  encoder run.  Histories on one storage are in Lemmas/LinkHistory.lean.
-/
import IpldModel.Model.Link
namespace Ipld
namespace Link

theorem truncate_eq (p : Proto) (h : Bytes) :
    truncate p h = some (if p.mhType = identityCode ∨ p.mhLength < 0 ∨ (h.length : Int) < p.mhLength then h
      else h.take p.mhLength.toNat) := by
  unfold truncate
  by_cases hi : p.mhType = identityCode
  · rw [if_pos (Or.inl hi), if_pos (Or.inl hi)]
  · by_cases hl : p.mhLength = -1
    · rw [if_pos (Or.inr hl), if_pos (Or.inr (Or.inl (by omega)))]
    · rw [if_neg (fun x => x.elim hi hl)]
      by_cases c : p.mhLength < 0 ∨ (h.length : Int) < p.mhLength
      · rw [if_pos c, if_pos (Or.inr c)]
      · rw [if_neg c, if_neg (fun x => x.elim hi c)]

theorem truncate_identity (p : Proto) (h : Bytes) (hi : p.mhType = identityCode) : truncate p h = some h := by
  rw [truncate_eq, if_pos (Or.inl hi)]

theorem truncate_whole (p : Proto) (h : Bytes) (hl : p.mhLength = -1) : truncate p h = some h := by
  rw [truncate_eq, if_pos (Or.inr (Or.inl (by omega)))]

theorem truncate_unfit {p : Proto} {h : Bytes} (hun : p.mhLength < 0 ∨ (h.length : Int) < p.mhLength) :
    truncate p h = some h := by
  rw [truncate_eq, if_pos (Or.inr hun)]

theorem truncate_some_cut {p : Proto} {h d : Bytes} (ht : truncate p h = some d) (hi : p.mhType ≠ identityCode)
    (hfit : 0 ≤ p.mhLength ∧ p.mhLength ≤ (h.length : Int)) :
    (d.length : Int) = p.mhLength ∧ d = h.take p.mhLength.toNat := by
  rw [truncate_eq, if_neg (fun x => x.elim hi (by omega))] at ht
  cases ht
  rw [List.length_take]
  exact ⟨by omega, rfl⟩

theorem truncate_none_iff (p : Proto) (h : Bytes) : truncate p h = none ↔ False :=
  ⟨fun x => (by rw [truncate_eq] at x; cases x), False.elim⟩

theorem truncate_prefix {p : Proto} {h d : Bytes} (ht : truncate p h = some d) : d <+: h := by
  rw [truncate_eq] at ht
  cases ht
  split
  · exact List.prefix_refl _
  · exact List.take_prefix _ _

/-- Truncating again, under any prototype with the same hash code that asks for the length the digest has, gives the
    same digest: this is why a link's own prototype rebuilds the link. -/
theorem truncate_to_digest_length {p p' : Proto} {h d : Bytes} (ht : truncate p h = some d)
    (hm : p'.mhType = p.mhType) (hl : p'.mhLength = d.length) : truncate p' h = some d := by
  by_cases hi : p.mhType = identityCode
  · rw [truncate_identity p h hi] at ht
    rw [truncate_identity p' h (hm.trans hi), ht]
  · have hp := truncate_prefix ht
    have hle := hp.length_le
    rw [truncate_eq, if_neg (fun x => x.elim (fun a => hi (hm ▸ a)) (by omega)), hl, Int.toNat_natCast,
      ← List.prefix_iff_eq_take.mp hp]

theorem take_eq_imp (b b' : Bytes) (n : Nat) (h : b'.take n = b) : b <+: b' := by
  rw [← h]; exact List.take_prefix _ _

theorem mkLink_eq_some {p : Proto} {d : Bytes} {l : Lnk} :
    mkLink p d = some l ↔
      (p.version = 0 ∧ d.length = 32 ∧ l = ⟨0, 0x70, p.mhType, d⟩) ∨
      (p.version = 1 ∧ l = ⟨1, p.codec, p.mhType, d⟩) := by
  unfold mkLink
  by_cases v0 : p.version = 0
  · by_cases h32 : d.length = 32 <;> simp [v0, h32, eq_comm]
  · by_cases v1 : p.version = 1 <;> simp [v0, v1, eq_comm]

theorem v0ok_v0 {p : Proto} (hv : v0ok p = true) (h0 : p.version = 0) :
    p.mhType = sha256Code ∧ (p.mhLength = 32 ∨ p.mhLength = -1) := by
  unfold v0ok at hv
  simp only [h0, true_and, Bool.not_eq_true', decide_eq_false_iff_not] at hv
  constructor
  · apply Classical.byContradiction; intro x; exact hv (Or.inl x)
  · apply Classical.byContradiction; intro x
    exact hv (Or.inr ⟨fun a => x (Or.inl a), fun a => x (Or.inr a)⟩)

theorem buildLink_eq_some {p : Proto} {h : Bytes} {l : Lnk} :
    buildLink p h = some l ↔ v0ok p = true ∧ ∃ d, truncate p h = some d ∧ mkLink p d = some l := by
  unfold buildLink
  cases v0ok p <;> simp [Option.bind_eq_some_iff]

theorem buildLink_of {p : Proto} {h d : Bytes} (hv : v0ok p = true) (ht : truncate p h = some d) :
    buildLink p h = mkLink p d := by
  simp [buildLink, hv, ht]

theorem buildLink_congr {p : Proto} {h₁ h₂ : Bytes} (e : truncate p h₁ = truncate p h₂) :
    buildLink p h₁ = buildLink p h₂ := by
  simp [buildLink, e]

theorem buildLink_mhType {p : Proto} {h : Bytes} {l : Lnk} (hb : buildLink p h = some l) : l.mhType = p.mhType := by
  obtain ⟨_, d, _, hm⟩ := buildLink_eq_some.mp hb
  rcases mkLink_eq_some.mp hm with ⟨_, _, rfl⟩ | ⟨_, rfl⟩ <;> rfl

theorem buildLink_digest {p : Proto} {h : Bytes} {l : Lnk} (hb : buildLink p h = some l) :
    truncate p h = some l.digest := by
  obtain ⟨_, d, ht, hm⟩ := buildLink_eq_some.mp hb
  rcases mkLink_eq_some.mp hm with ⟨_, _, rfl⟩ | ⟨_, rfl⟩ <;> exact ht

/-- A link is rebuilt from the same hash by its own prototype (`Link.Prototype()`: same hash code, the digest's
    length, and for CIDv0 the fixed dag-pb / sha2-256 / 32 that pass the guard). -/
theorem buildLink_proto {p : Proto} {h : Bytes} {l : Lnk} (hb : buildLink p h = some l) :
    buildLink l.proto h = some l := by
  obtain ⟨hv, d, ht, hm⟩ := buildLink_eq_some.mp hb
  rcases mkLink_eq_some.mp hm with ⟨v0, h32, rfl⟩ | ⟨_, rfl⟩
  · have hv' : v0ok ⟨0, 0x70, p.mhType, d.length⟩ = true := by simp [v0ok, (v0ok_v0 hv v0).1, h32]
    have ht' : truncate ⟨0, 0x70, p.mhType, d.length⟩ h = some d := truncate_to_digest_length ht rfl rfl
    exact (buildLink_of hv' ht').trans (mkLink_eq_some.mpr (Or.inl ⟨rfl, h32, rfl⟩))
  · have ht' : truncate ⟨1, p.codec, p.mhType, d.length⟩ h = some d := truncate_to_digest_length ht rfl rfl
    exact (buildLink_of rfl ht').trans (mkLink_eq_some.mpr (Or.inr ⟨rfl, rfl⟩))

variable (H : Nat → Bytes → Bytes)

theorem hashesTo_iff {l : Lnk} {b : Bytes} : hashesTo H l b = true ↔ buildLink l.proto (H l.mhType b) = some l := by
  simp [hashesTo]

theorem buildLink_hashesTo {p : Proto} {b : Bytes} {l : Lnk} (hb : buildLink p (H p.mhType b) = some l) :
    hashesTo H l b = true := by
  rw [hashesTo_iff, buildLink_mhType hb]
  exact buildLink_proto hb

theorem hashesTo_identity {l : Lnk} {b : Bytes} (hi : l.mhType = identityCode) (h : hashesTo H l b = true) :
    H l.mhType b = l.digest :=
  Option.some.inj ((truncate_identity l.proto _ hi).symm.trans (buildLink_digest ((hashesTo_iff H).mp h)))

/-- `b` is the only block that hashes to `l`: the collision assumption, for one link -/
def NoCollision (l : Lnk) (b : Bytes) : Prop := ∀ b', hashesTo H l b' = true → b' = b

/-- `Fill` on untrusted storage: the I/O error first, the hash verdict second, the decoder's last. -/
theorem fill_untrusted (l : Lnk) (s : Stream) (d : DecRun) :
    fill H false l s d =
      match s.failAt with
      | some _ => .ioErr
      | none => if hashesTo H l s.data then (if d.failed then .decodeErr else .ok) else .hashMismatch := rfl

/-! The four verdicts: each is read off the eight cases (read error or not, hash or not, decoder failed or not) of
    `fill_untrusted`, by the same script. -/

theorem fill_ok_iff (l : Lnk) (s : Stream) (d : DecRun) :
    fill H false l s d = .ok ↔ d.failed = false ∧ s.failAt = none ∧ hashesTo H l s.data = true := by
  rw [fill_untrusted]
  cases s.failAt <;> cases hashesTo H l s.data <;> cases d.failed <;> simp

theorem fill_decodeErr_iff (l : Lnk) (s : Stream) (d : DecRun) :
    fill H false l s d = .decodeErr ↔ d.failed = true ∧ s.failAt = none ∧ hashesTo H l s.data = true := by
  rw [fill_untrusted]
  cases s.failAt <;> cases hashesTo H l s.data <;> cases d.failed <;> simp

theorem fill_ioErr_iff (l : Lnk) (s : Stream) (d : DecRun) :
    fill H false l s d = .ioErr ↔ ∃ f, s.failAt = some f := by
  rw [fill_untrusted]
  cases s.failAt <;> cases hashesTo H l s.data <;> cases d.failed <;> simp

theorem fill_hashMismatch_iff (l : Lnk) (s : Stream) (d : DecRun) :
    fill H false l s d = .hashMismatch ↔ s.failAt = none ∧ hashesTo H l s.data = false := by
  rw [fill_untrusted]
  cases s.failAt <;> cases hashesTo H l s.data <;> cases d.failed <;> simp

theorem hasherSaw_eq_data {s : Stream} (d : DecRun) (h : s.failAt = none) : hasherSaw s d = s.data := by
  simp [hasherSaw, Stream.deliverable, h]

theorem loadRaw_eq (l : Lnk) (s : Stream) :
    loadRaw H l s =
      (match s.failAt with
       | some _ => (.ioErr, none)
       | none => if hashesTo H l s.data then (.ok, some s.data) else (.hashMismatch, none)) := rfl

theorem load_ok_iff (trusted : Bool) (l : Lnk) (s : Stream) (d : DecRun) (reifyOk : Bool) :
    load H trusted l s d reifyOk = .res .ok ↔ fill H trusted l s d = .ok ∧ reifyOk = true := by
  unfold load
  cases fill H trusted l s d <;> cases reifyOk <;> simp

/-- `LinkSystem.LoadPlusRaw` (after the decoder chooser succeeded): the block comes from `LoadRaw`
    (so it is `none` on every `LoadRaw` error), the decoder runs on that buffer; on a decode error the Go
    code returns the (verified) block together with the error. -/
def loadPlusRaw (c : Codec) (l : Lnk) (s : Stream) : Res × Option DM × Option Bytes :=
  match loadRaw H l s with
  | (.ok, some b) =>
    (match c.decode b with
     | some v => (.ok, some v, some b)
     | none => (.decodeErr, none, some b))
  | (r, _) => (r, none, none)

theorem loadPlusRaw_eq (c : Codec) (l : Lnk) (s : Stream) :
    loadPlusRaw H c l s =
      match s.failAt with
      | some _ => (.ioErr, none, none)
      | none =>
        if hashesTo H l s.data then
          (match c.decode s.data with
           | some v => (.ok, some v, some s.data)
           | none => (.decodeErr, none, some s.data))
        else (.hashMismatch, none, none) := by
  rw [loadPlusRaw, loadRaw_eq]
  cases s.failAt with
  | some f => rfl
  | none => cases hashesTo H l s.data <;> rfl

/-- `Store` either fails — the encoder returned an error, or a storage write that was performed did — or commits
    what `BuildLink` makes of the hash of everything written. -/
theorem store_cases (p : Proto) (e : EncRun) :
    ((e.encFails = true ∨ ∃ j, e.writerFailsAt = some j ∧ j < e.writes.length) ∧ store H p e = .failed) ∨
    (e.encFails = false ∧ (∀ j, e.writerFailsAt = some j → e.writes.length ≤ j) ∧
      store H p e = match buildLink p (H p.mhType e.writes.flatten) with
        | some l => .committed l e.writes.flatten
        | none => .panicked) := by
  unfold store
  cases hf : e.encFails with
  | true => exact Or.inl ⟨Or.inl rfl, by cases e.writerFailsAt <;> simp⟩
  | false =>
    cases hw : e.writerFailsAt with
    | none => exact Or.inr ⟨rfl, nofun, rfl⟩
    | some j =>
      by_cases c : j < e.writes.length
      · exact Or.inl ⟨Or.inr ⟨j, rfl, c⟩, by simp [c]⟩
      · refine Or.inr ⟨rfl, fun j' hj' => by cases hj'; omega, ?_⟩
        simp only [c, Bool.false_eq_true, or_self, if_false]
        rfl

theorem store_failed_iff (p : Proto) (e : EncRun) :
    store H p e = .failed ↔ e.encFails = true ∨ ∃ j, e.writerFailsAt = some j ∧ j < e.writes.length := by
  rcases store_cases H p e with ⟨hf, hs⟩ | ⟨hf, hw, hs⟩
  · exact ⟨fun _ => hf, fun _ => hs⟩
  · have hne : store H p e ≠ .failed := by
      rw [hs]; cases buildLink p (H p.mhType e.writes.flatten) <;> nofun
    refine ⟨fun h => absurd h hne, ?_⟩
    rintro (h | ⟨j, hj, hlt⟩)
    · rw [hf] at h; cases h
    · have := hw j hj; omega

theorem store_committed_iff (p : Proto) (e : EncRun) (l : Lnk) (b : Bytes) :
    store H p e = .committed l b ↔
      e.encFails = false ∧ (∀ j, e.writerFailsAt = some j → e.writes.length ≤ j) ∧
      buildLink p (H p.mhType e.writes.flatten) = some l ∧ b = e.writes.flatten := by
  rcases store_cases H p e with ⟨hf, hs⟩ | ⟨hf, hw, hs⟩
  · rw [hs]
    refine ⟨nofun, ?_⟩
    rintro ⟨h1, h2, _⟩
    rcases hf with hf | ⟨j, hj, hlt⟩
    · rw [h1] at hf; cases hf
    · have := h2 j hj; omega
  · rw [hs]
    cases buildLink p (H p.mhType e.writes.flatten) with
    | none => exact ⟨nofun, fun h => nomatch h.2.2.1⟩
    | some l' =>
      constructor
      · intro h; cases h; exact ⟨hf, hw, rfl, rfl⟩
      · rintro ⟨_, _, h, rfl⟩; cases h; rfl

end Link
end Ipld

/-
  The inode-level model of concurrent atomic writes (C18): the invariant `Inv` (what every writer's staging name and
  inode look like in each phase; destination names refer to sealed complete blocks only), one generic preservation
  lemma `Inv.update`, one instance per file-system operation, and the relation `Step` of what a step may do; then
  what a reader sees, and that a fresh writer run undisturbed after any history makes its key readable.
-/
import IpldModel.Model.Store
import IpldModel.Lemmas.FirstOfKey
namespace Ipld.Store

/-- updating position `i` of a list, the way `setInode` and `setWriter` do it -/
theorem getElem?_mapIdx_at {α : Type} (l : List α) (i : Nat) (g : α → α) (j : Nat) :
    (l.mapIdx fun k x => if k = i then g x else x)[j]? = if j = i then (l[j]?).map g else l[j]? := by
  rw [List.getElem?_mapIdx]
  by_cases h : j = i
  · simp only [h, if_true]
  · simp only [h, if_false]; cases l[j]? <;> rfl

theorem setInode_getElem? (l : List Inode) (i : Nat) (f : Inode → Inode) (j : Nat) :
    (setInode l i f)[j]? = if j = i then (l[j]?).map f else l[j]? :=
  getElem?_mapIdx_at l i f j

theorem setInode_length (l : List Inode) (i : Nat) (f : Inode → Inode) : (setInode l i f).length = l.length := by
  unfold setInode; rw [List.length_mapIdx]

theorem setWriter_getElem? (l : List Writer) (i : Nat) (w : Writer) (j : Nat) :
    (setWriter l i w)[j]? = if j = i then (l[j]?).map (fun _ => w) else l[j]? :=
  getElem?_mapIdx_at l i (fun _ => w) j

theorem setWriter_self {l : List Writer} {i : Nat} {w : Writer} (w' : Writer) (h : l[i]? = some w) :
    (setWriter l i w')[i]? = some w' := by
  rw [setWriter_getElem?, h]; simp

theorem setWriter_other {l : List Writer} {i j : Nat} {w' : Writer} (h : j ≠ i) :
    (setWriter l i w')[j]? = l[j]? := by
  rw [setWriter_getElem?]; simp [h]

theorem setWriter_length (l : List Writer) (i : Nat) (w : Writer) : (setWriter l i w).length = l.length := by
  unfold setWriter; rw [List.length_mapIdx]

theorem setWriter_same {l : List Writer} {i : Nat} {w : Writer} (h : l[i]? = some w) : setWriter l i w = l := by
  apply List.ext_getElem?
  intro j
  rw [setWriter_getElem?]
  by_cases hj : j = i
  · subst hj; simp [h]
  · simp [hj]

/-- key and chunks of a writer: what it was asked to store; no step changes them -/
def kc (w : Writer) : Bytes × List Bytes := (w.key, w.chunks)

theorem map_kc_setWriter {l : List Writer} {i : Nat} {w w' : Writer} (h : l[i]? = some w)
    (hk : w'.key = w.key) (hc : w'.chunks = w.chunks) : (setWriter l i w').map kc = l.map kc := by
  apply List.ext_getElem?
  intro j
  rw [List.getElem?_map, List.getElem?_map, setWriter_getElem?]
  by_cases e : j = i
  · subst e; simp [h, kc, hk, hc]
  · simp [e]

theorem exists_of_kc {ws ws' : List Writer} (h : ws'.map kc = ws.map kc) {w : Writer} (hw : w ∈ ws') :
    ∃ v ∈ ws, v.key = w.key ∧ v.chunks = w.chunks := by
  have : kc w ∈ ws.map kc := by rw [← h]; exact List.mem_map_of_mem hw
  obtain ⟨v, hv, e⟩ := List.mem_map.mp this
  simp only [kc, Prod.mk.injEq] at e
  exact ⟨v, hv, e.1, e.2⟩

/-- `Fs.lookup` as a function of the list of directory entries, to induct on that list -/
def lookupL (names : List (Name × Nat)) (n : Name) : Option Nat :=
  match names.find? (fun e => e.1 = n) with
  | some e => some e.2
  | none => none

theorem lookup_eq (fs : Fs) (n : Name) : fs.lookup n = lookupL fs.names n := rfl

theorem lookupL_nil (n : Name) : lookupL [] n = none := rfl

theorem lookupL_cons (m : Name) (i : Nat) (r : List (Name × Nat)) (n : Name) :
    lookupL ((m, i) :: r) n = if m = n then some i else lookupL r n := by
  unfold lookupL
  by_cases h : m = n
  · simp [h]
  · simp [h]

theorem lookupL_mem {r : List (Name × Nat)} {n : Name} {i : Nat} (h : lookupL r n = some i) : (n, i) ∈ r := by
  unfold lookupL at h
  cases hf : r.find? (fun e => e.1 = n) with
  | none => simp [hf] at h
  | some e =>
    simp only [hf, Option.some.injEq] at h
    have hm := List.mem_of_find?_eq_some hf
    have hn : e.1 = n := by simpa using List.find?_some hf
    obtain ⟨a, b⟩ := e
    simp only at h hn
    subst h; subst hn
    exact hm

theorem lookup_unbind (fs : Fs) (m n : Name) :
    (fs.unbind m).lookup n = if n = m then none else fs.lookup n := by
  show lookupL (fs.names.filter (fun e => e.1 ≠ m)) n = if n = m then none else lookupL fs.names n
  generalize fs.names = r
  induction r with
  | nil => simp [lookupL_nil]
  | cons e r ih =>
    obtain ⟨a, i⟩ := e
    by_cases ha : a = m
    · have : List.filter (fun e => decide (e.1 ≠ m)) ((a, i) :: r) = List.filter (fun e => decide (e.1 ≠ m)) r := by
        simp [ha]
      rw [this, ih, lookupL_cons]
      by_cases hn : n = m
      · simp [hn]
      · have : ¬ a = n := fun x => hn (x.symm.trans ha)
        simp [hn, this]
    · have : List.filter (fun e => decide (e.1 ≠ m)) ((a, i) :: r) = (a, i) :: List.filter (fun e => decide (e.1 ≠ m)) r := by
        simp [ha]
      rw [this, lookupL_cons, lookupL_cons, ih]
      by_cases han : a = n
      · have : ¬ n = m := fun x => ha (han.trans x)
        simp [han, this]
      · simp [han]

theorem unbind_inodes (fs : Fs) (m : Name) : (fs.unbind m).inodes = fs.inodes := rfl
theorem unbind_dirs (fs : Fs) (m : Name) : (fs.unbind m).dirs = fs.dirs := rfl

theorem mem_unbind {fs : Fs} {m : Name} {e : Name × Nat} : e ∈ (fs.unbind m).names ↔ e ∈ fs.names ∧ e.1 ≠ m := by
  unfold Fs.unbind; simp

theorem rename_of_lookup {fs : Fs} {a b : Name} {i : Nat} (h : fs.lookup a = some i) :
    fs.rename a b = { fs with names := (b, i) :: ((fs.unbind a).unbind b).names } := by
  unfold Fs.rename; rw [h]; rfl

theorem rename_none {fs : Fs} {a b : Name} (h : fs.lookup a = none) : fs.rename a b = fs := by
  unfold Fs.rename; rw [h]


/-- the world after writer `wi` was killed or gave up on an error: only its phase changes, to `dead` -/
abbrev kill (wd : World) (wi : Nat) (w : Writer) : World :=
  { wd with writers := setWriter wd.writers wi { w with phase := .dead } }

/-- os.OpenFile(O_CREATE|O_EXCL) -/
abbrev opened (wd : World) (wi : Nat) (w : Writer) : World :=
  { fs := { wd.fs with inodes := wd.fs.inodes ++ [{}], names := (.staging wi, wd.fs.inodes.length) :: wd.fs.names },
    writers := setWriter wd.writers wi { w with inode := wd.fs.inodes.length, phase := .writing w.chunks } }

/-- wr.Write(chunk) -/
abbrev wrote (wd : World) (wi : Nat) (w : Writer) (c : Bytes) (rest : List Bytes) : World :=
  { fs := { wd.fs with inodes := setInode wd.fs.inodes w.inode fun n => { n with content := n.content ++ c } },
    writers := setWriter wd.writers wi { w with phase := .writing rest } }

/-- f.Close() after the last chunk -/
abbrev sealedUp (wd : World) (wi : Nat) (w : Writer) : World :=
  { fs := { wd.fs with inodes := setInode wd.fs.inodes w.inode fun n => { n with sealed := true } },
    writers := setWriter wd.writers wi { w with phase := .closed } }

/-- a failed Write: Close + Remove(staging) -/
abbrev gaveUp (wd : World) (wi : Nat) (w : Writer) : World :=
  { fs := ({ wd.fs with inodes := setInode wd.fs.inodes w.inode fun n => { n with sealed := true } }).unbind (.staging wi),
    writers := setWriter wd.writers wi { w with phase := .aborted } }

/-- os.Rename(staging, dest) with the shard directory present -/
abbrev renamed (wd : World) (wi : Nat) (w : Writer) : World :=
  { fs := wd.fs.rename (.staging wi) (.dest w.key), writers := setWriter wd.writers wi { w with phase := .done } }

/-- a phase change that leaves names and inodes alone: Rename's ENOENT (to `needDir`), Mkdir (back to `closed`) -/
abbrev rephased (wd : World) (wi : Nat) (w : Writer) (p : Phase) (dirs : List Bytes) : World :=
  { fs := { wd.fs with dirs := dirs }, writers := setWriter wd.writers wi { w with phase := p } }

theorem step_none {wd : World} {wi : Nat} (f : Fate) (h : wd.writers[wi]? = none) : stepWriter wd wi f = wd := by
  unfold stepWriter; rw [h]

section
variable {wd : World} {wi : Nat} {w : Writer} (h : wd.writers[wi]? = some w)
include h

theorem step_kill : stepWriter wd wi .kill = kill wd wi w := by
  unfold stepWriter kill; rw [h]; simp

theorem step_fail_dies (hp : w.phase = .start ∨ w.phase = .writing [] ∨ w.phase = .closed ∨ w.phase = .needDir) :
    stepWriter wd wi .fail = kill wd wi w := by
  unfold stepWriter kill; rw [h]
  rcases hp with hp | hp | hp | hp <;> simp [hp]

theorem step_start (hp : w.phase = .start) : stepWriter wd wi .ok = opened wd wi w := by
  unfold stepWriter; rw [h]; simp [hp]

theorem step_close (hp : w.phase = .writing []) : stepWriter wd wi .ok = sealedUp wd wi w := by
  unfold stepWriter; rw [h]; simp [hp]

theorem step_write {c : Bytes} {rest : List Bytes} (hp : w.phase = .writing (c :: rest)) :
    stepWriter wd wi .ok = wrote wd wi w c rest := by
  unfold stepWriter; rw [h]; simp [hp]

theorem step_abort {c : Bytes} {rest : List Bytes} (hp : w.phase = .writing (c :: rest)) :
    stepWriter wd wi .fail = gaveUp wd wi w := by
  unfold stepWriter; rw [h]; simp [hp]

theorem step_rename (hp : w.phase = .closed) (hd : wd.fs.dirs.contains w.key = true) :
    stepWriter wd wi .ok = renamed wd wi w := by
  unfold stepWriter; rw [h]; simp only [hp, hd]; simp

theorem step_enoent (hp : w.phase = .closed) (hd : wd.fs.dirs.contains w.key = false) :
    stepWriter wd wi .ok = rephased wd wi w .needDir wd.fs.dirs := by
  unfold stepWriter; rw [h]; simp only [hp, hd]; simp

theorem step_mkdir (hp : w.phase = .needDir) :
    stepWriter wd wi .ok = rephased wd wi w .closed (w.key :: wd.fs.dirs) := by
  unfold stepWriter; rw [h]; simp [hp]

theorem step_inert {f : Fate} (hf : f ≠ .kill) (hp : w.phase = .done ∨ w.phase = .aborted ∨ w.phase = .dead) :
    stepWriter wd wi f = wd := by
  unfold stepWriter; rw [h]
  rcases hp with hp | hp | hp <;> simp [hp, hf]

end


/-- the writer has an inode of its own: it has created its staging file and has neither aborted nor died
    (a finished writer keeps its inode; the destination name refers to it) -/
def Created : Phase → Prop
  | .writing _ | .closed | .needDir | .done => True
  | _ => False

/-- the writer's inode is closed and holds all its chunks: the state of a writer from `Close` on -/
def SealedFull (fs : Fs) (w : Writer) : Prop :=
  ∃ ino, fs.inodes[w.inode]? = some ino ∧ ino.sealed = true ∧ ino.content = w.chunks.flatten

/-- "writer ok": the part of the invariant that concerns writer `wi` alone, by its phase: what its staging name
    and its inode look like in `fs` -/
def WOk (fs : Fs) (wi : Nat) (w : Writer) : Prop :=
  match w.phase with
  | .writing left =>
      fs.lookup (.staging wi) = some w.inode ∧
      ∃ ino, fs.inodes[w.inode]? = some ino ∧ ino.sealed = false ∧ ino.content ++ left.flatten = w.chunks.flatten
  | .closed => fs.lookup (.staging wi) = some w.inode ∧ SealedFull fs w
  | .needDir => fs.lookup (.staging wi) = some w.inode ∧ SealedFull fs w
  | .done => SealedFull fs w
  | _ => True

/-- what C18 is about, for one directory entry `dest key ↦ i`: a sealed inode holding the complete content of some
    writer of `key` -/
def DestOk (fs : Fs) (ws : List Writer) (key : Bytes) (i : Nat) : Prop :=
  ∃ ino, fs.inodes[i]? = some ino ∧ ino.sealed = true ∧ ∃ w ∈ ws, w.key = key ∧ ino.content = w.chunks.flatten

structure Inv (wd : World) : Prop where
  names_ok : ∀ e ∈ wd.fs.names, e.2 < wd.fs.inodes.length
  wok : ∀ (wi : Nat) (w : Writer), wd.writers[wi]? = some w → WOk wd.fs wi w
  distinct : ∀ (wi wj : Nat) (w w' : Writer), wd.writers[wi]? = some w → wd.writers[wj]? = some w' → wi ≠ wj →
      Created w.phase → Created w'.phase → w.inode ≠ w'.inode
  dest : ∀ (key : Bytes) (i : Nat), (Name.dest key, i) ∈ wd.fs.names → DestOk wd.fs wd.writers key i

theorem WOk.writing {fs : Fs} {wi : Nat} {w : Writer} {left : List Bytes} (h : WOk fs wi w) (hp : w.phase = .writing left) :
    fs.lookup (.staging wi) = some w.inode ∧
      ∃ ino, fs.inodes[w.inode]? = some ino ∧ ino.sealed = false ∧ ino.content ++ left.flatten = w.chunks.flatten := by
  unfold WOk at h; simp only [hp] at h; exact h

theorem WOk.closed {fs : Fs} {wi : Nat} {w : Writer} (h : WOk fs wi w) (hp : w.phase = .closed ∨ w.phase = .needDir) :
    fs.lookup (.staging wi) = some w.inode ∧ SealedFull fs w := by
  unfold WOk at h; rcases hp with hp | hp <;> (simp only [hp] at h; exact h)

theorem WOk.done {fs : Fs} {wi : Nat} {w : Writer} (h : WOk fs wi w) (hp : w.phase = .done) : SealedFull fs w := by
  unfold WOk at h; simp only [hp] at h; exact h

theorem WOk.inode_exists {fs : Fs} {wi : Nat} {w : Writer} (h : WOk fs wi w) (hc : Created w.phase) :
    ∃ ino, fs.inodes[w.inode]? = some ino := by
  cases hp : w.phase with
  | writing left => obtain ⟨_, ino, e, _⟩ := h.writing hp; exact ⟨ino, e⟩
  | closed => obtain ⟨_, ino, e, _⟩ := h.closed (Or.inl hp); exact ⟨ino, e⟩
  | needDir => obtain ⟨_, ino, e, _⟩ := h.closed (Or.inr hp); exact ⟨ino, e⟩
  | done => obtain ⟨ino, e, _⟩ := h.done hp; exact ⟨ino, e⟩
  | start | aborted | dead => rw [hp] at hc; exact hc.elim

theorem WOk.frame {fs fs' : Fs} {wi : Nat} {w : Writer} (h : WOk fs wi w)
    (hf : Created w.phase → fs'.lookup (.staging wi) = fs.lookup (.staging wi) ∧ fs'.inodes[w.inode]? = fs.inodes[w.inode]?) :
    WOk fs' wi w := by
  unfold WOk SealedFull at *
  cases hp : w.phase with
  | start | aborted | dead => trivial
  | _ =>
    rw [hp] at h hf
    obtain ⟨e1, e2⟩ := hf trivial
    simp only [e1, e2]
    exact h

section
variable {wd : World} {wi : Nat} {w : Writer}

theorem WOk.opened : WOk (opened wd wi w).fs wi { w with inode := wd.fs.inodes.length, phase := .writing w.chunks } := by
  unfold WOk
  simp only [lookup_eq, lookupL_cons, if_true, true_and]
  exact ⟨{}, List.getElem?_concat_length, rfl, by simp⟩

theorem WOk.write {c : Bytes} {rest : List Bytes} (h : WOk wd.fs wi w) (hp : w.phase = .writing (c :: rest)) :
    WOk (wrote wd wi w c rest).fs wi { w with phase := .writing rest } := by
  obtain ⟨hl, ino, hi, hs, hcont⟩ := h.writing hp
  unfold WOk
  simp only
  refine ⟨hl, { ino with content := ino.content ++ c }, ?_, hs, ?_⟩
  · rw [setInode_getElem?, hi]; simp
  · simp only [List.append_assoc]; rw [← hcont]; simp

theorem WOk.close (h : WOk wd.fs wi w) (hp : w.phase = .writing []) :
    WOk (sealedUp wd wi w).fs wi { w with phase := .closed } := by
  obtain ⟨hl, ino, hi, _, hcont⟩ := h.writing hp
  unfold WOk SealedFull
  simp only
  refine ⟨hl, { ino with sealed := true }, ?_, rfl, ?_⟩
  · rw [setInode_getElem?, hi]; simp
  · simpa using hcont

end

theorem DestOk.frame {fs fs' : Fs} {ws : List Writer} {key : Bytes} {i : Nat} (h : DestOk fs ws key i)
    (hf : ∀ ino, fs.inodes[i]? = some ino → ino.sealed = true → fs'.inodes[i]? = some ino) : DestOk fs' ws key i := by
  obtain ⟨ino, e, hs, hw⟩ := h
  exact ⟨ino, hf ino e hs, hs, hw⟩

theorem DestOk.of_kc {fs : Fs} {ws ws' : List Writer} {key : Bytes} {i : Nat} (h : DestOk fs ws key i)
    (hkc : ws'.map kc = ws.map kc) : DestOk fs ws' key i := by
  obtain ⟨ino, e, hs, w, hm, hk, hc⟩ := h
  obtain ⟨v, hv, hk', hc'⟩ := exists_of_kc hkc.symm hm
  exact ⟨ino, e, hs, v, hv, hk'.trans hk, by rw [hc']; exact hc⟩

/-- the generic preservation lemma: writer `wi` moves from `w` to `w'` (same key and content), the file
    system from `wd.fs` to `fs'` -/
theorem Inv.update {wd : World} (hI : Inv wd) {wi : Nat} {w w' : Writer} {fs' : Fs}
    (hw : wd.writers[wi]? = some w) (hkey : w'.key = w.key) (hch : w'.chunks = w.chunks)
    (hnames : ∀ e ∈ fs'.names, e.2 < fs'.inodes.length)
    (hself : WOk fs' wi w')
    (hframe : ∀ wj w'', wd.writers[wj]? = some w'' → wj ≠ wi → Created w''.phase →
        fs'.lookup (.staging wj) = wd.fs.lookup (.staging wj) ∧ fs'.inodes[w''.inode]? = wd.fs.inodes[w''.inode]?)
    (hdist : Created w'.phase → ∀ wj w'', wd.writers[wj]? = some w'' → wj ≠ wi → Created w''.phase → w'.inode ≠ w''.inode)
    (hdest : ∀ (key : Bytes) (i : Nat), (Name.dest key, i) ∈ fs'.names → DestOk fs' wd.writers key i) :
    Inv { fs := fs', writers := setWriter wd.writers wi w' } := by
  have self_eq : ∀ x, (setWriter wd.writers wi w')[wi]? = some x → x = w' := by
    intro x hx; rw [setWriter_self w' hw] at hx; exact (Option.some.inj hx).symm
  refine ⟨hnames, ?_, ?_, ?_⟩
  · intro wj x hx
    by_cases e : wj = wi
    · subst e; rw [self_eq x hx]; exact hself
    · simp only at hx
      rw [setWriter_other e] at hx
      exact (hI.wok wj x hx).frame (fun hc => hframe wj x hx e hc)
  · intro a b x y hx hy hab cx cy
    simp only at hx hy
    by_cases ea : a = wi
    · subst ea
      have eb : b ≠ a := fun e => hab e.symm
      rw [setWriter_other eb] at hy
      rw [self_eq x hx] at cx ⊢
      exact hdist cx b y hy eb cy
    · rw [setWriter_other ea] at hx
      by_cases eb : b = wi
      · subst eb
        rw [self_eq y hy] at cy ⊢
        exact fun e => hdist cy a x hx ea cx e.symm
      · rw [setWriter_other eb] at hy
        exact hI.distinct a b x y hx hy hab cx cy
  · intro key i hm
    exact (hdest key i hm).of_kc (map_kc_setWriter hw hkey hch)


section
variable {wd : World} (hI : Inv wd) {wi : Nat} {w : Writer} (hw : wd.writers[wi]? = some w)
include hI hw

theorem Inv.dist_of_same {w' : Writer} (hc : Created w.phase) (hi : w'.inode = w.inode) :
    Created w'.phase → ∀ wj w'', wd.writers[wj]? = some w'' → wj ≠ wi → Created w''.phase → w'.inode ≠ w''.inode := by
  intro _ wj w'' hw'' hne hc''
  rw [hi]
  exact hI.distinct wi wj w w'' hw hw'' (fun e => hne e.symm) hc hc''

theorem Inv.kill : Inv (kill wd wi w) := by
  exact hI.update hw rfl rfl hI.names_ok (by simp [WOk]) (fun _ _ _ _ _ => ⟨rfl, rfl⟩)
    (fun hc => by simp [Created] at hc) hI.dest

theorem Inv.start : Inv (opened wd wi w) := by
  -- the new inode gets the first free number; whatever a writer owns or a name refers to is older, so none of it moves
  have old : ∀ (wj : Nat) (w'' : Writer), wd.writers[wj]? = some w'' → Created w''.phase → w''.inode < wd.fs.inodes.length := by
    intro wj w'' h hc
    obtain ⟨ino, e⟩ := (hI.wok wj w'' h).inode_exists hc
    exact (List.getElem?_eq_some_iff.mp e).1
  apply hI.update (w' := { w with inode := wd.fs.inodes.length, phase := .writing w.chunks }) hw rfl rfl
  · intro e he
    simp only [List.mem_cons, List.length_append, List.length_singleton] at he ⊢
    rcases he with rfl | he
    · simp
    · have := hI.names_ok e he; omega
  · exact WOk.opened
  · intro wj w'' h hne hc
    constructor
    · simp only [lookup_eq, lookupL_cons]
      have : ¬ Name.staging wi = Name.staging wj := fun e => hne (Name.staging.inj e).symm
      simp [this]
    · exact List.getElem?_append_left (old wj w'' h hc)
  · intro _ wj w'' h hne hc
    have := old wj w'' h hc
    simp only; omega
  · intro key i hm
    simp only [List.mem_cons, Prod.mk.injEq, reduceCtorEq, false_and, false_or] at hm
    apply (hI.dest key i hm).frame
    intro ino e _
    have := (List.getElem?_eq_some_iff.mp e).1
    simp only
    rw [List.getElem?_append_left this]; exact e

/-- a writer that is still writing may change its own inode in any way: the inode is unsealed, so no destination
    name refers to it, and no other writer owns it -/
theorem Inv.own_inode_frame {left : List Bytes} (hp : w.phase = .writing left) (g : Inode → Inode) :
    (∀ (wj : Nat) (w'' : Writer), wd.writers[wj]? = some w'' → wj ≠ wi → Created w''.phase →
        (setInode wd.fs.inodes w.inode g)[w''.inode]? = wd.fs.inodes[w''.inode]?) ∧
    (∀ (key : Bytes) (i : Nat), (Name.dest key, i) ∈ wd.fs.names →
        DestOk { wd.fs with inodes := setInode wd.fs.inodes w.inode g } wd.writers key i) := by
  obtain ⟨_, ino, hi, hs, _⟩ := (hI.wok wi w hw).writing hp
  have hcr : Created w.phase := by rw [hp]; trivial
  constructor
  · intro wj w'' h hne hc
    rw [setInode_getElem?, if_neg (hI.distinct wj wi w'' w h hw hne hc hcr)]
  · intro key i hm
    apply (hI.dest key i hm).frame
    intro ino' e hs'
    have : i ≠ w.inode := by
      intro x; subst x; rw [hi] at e; cases e; rw [hs] at hs'; cases hs'
    show (setInode wd.fs.inodes w.inode g)[i]? = some ino'
    rw [setInode_getElem?, if_neg this, e]

theorem Inv.write {c : Bytes} {rest : List Bytes} (hp : w.phase = .writing (c :: rest)) : Inv (wrote wd wi w c rest) := by
  have hcr : Created w.phase := by rw [hp]; trivial
  obtain ⟨f1, f2⟩ := hI.own_inode_frame hw hp fun n => { n with content := n.content ++ c }
  apply hI.update (w' := { w with phase := .writing rest }) hw rfl rfl
  · intro e he; simp only [setInode_length]; exact hI.names_ok e he
  · exact (hI.wok wi w hw).write hp
  · intro wj w'' h hne hc
    exact ⟨rfl, f1 wj w'' h hne hc⟩
  · exact hI.dist_of_same hw hcr rfl
  · exact f2


theorem Inv.close (hp : w.phase = .writing []) : Inv (sealedUp wd wi w) := by
  have hcr : Created w.phase := by rw [hp]; trivial
  obtain ⟨f1, f2⟩ := hI.own_inode_frame hw hp fun n => { n with sealed := true }
  apply hI.update (w' := { w with phase := .closed }) hw rfl rfl
  · intro e he; simp only [setInode_length]; exact hI.names_ok e he
  · exact (hI.wok wi w hw).close hp
  · intro wj w'' h hne hc
    exact ⟨rfl, f1 wj w'' h hne hc⟩
  · exact hI.dist_of_same hw hcr rfl
  · exact f2

theorem Inv.abort {c : Bytes} {rest : List Bytes} (hp : w.phase = .writing (c :: rest)) : Inv (gaveUp wd wi w) := by
  obtain ⟨f1, f2⟩ := hI.own_inode_frame hw hp fun n => { n with sealed := true }
  apply hI.update (w' := { w with phase := .aborted }) hw rfl rfl
  · intro e he
    rw [mem_unbind] at he
    rw [unbind_inodes]; simp only [setInode_length]; exact hI.names_ok e he.1
  · simp [WOk]
  · intro wj w'' h hne hc
    constructor
    · rw [lookup_unbind]
      have : ¬ Name.staging wj = Name.staging wi := fun e => hne (Name.staging.inj e)
      simp only [this, if_false]; rfl
    · rw [unbind_inodes]; exact f1 wj w'' h hne hc
  · intro hc; simp [Created] at hc
  · intro key i hm
    rw [mem_unbind] at hm
    exact f2 key i hm.1

theorem Inv.rephase {p : Phase} {dirs : List Bytes} (hp : w.phase = .closed ∨ w.phase = .needDir) (hp' : p = .closed ∨ p = .needDir) :
    Inv (rephased wd wi w p dirs) := by
  have hwok := (hI.wok wi w hw).closed hp
  have hcr : Created w.phase := by rcases hp with hp | hp <;> simp [hp, Created]
  apply hI.update (w' := { w with phase := p }) hw rfl rfl
  · exact hI.names_ok
  · unfold WOk
    rcases hp' with rfl | rfl <;> exact hwok
  · intro _ _ _ _ _; exact ⟨rfl, rfl⟩
  · exact hI.dist_of_same hw hcr rfl
  · intro key i hm; exact (hI.dest key i hm).frame (fun _ e _ => e)

end

theorem Inv.rename {wd : World} (hI : Inv wd) {wi : Nat} {w : Writer}
    (hw : wd.writers[wi]? = some w) (hp : w.phase = .closed) :
    Inv { fs := wd.fs.rename (.staging wi) (.dest w.key), writers := setWriter wd.writers wi { w with phase := .done } } := by
  obtain ⟨hl, hfull⟩ := (hI.wok wi w hw).closed (Or.inl hp)
  have hcr : Created w.phase := by rw [hp]; trivial
  obtain ⟨ino, hi, hs, hcont⟩ := hfull
  have hwm : w ∈ wd.writers := List.mem_of_getElem? hw
  rw [rename_of_lookup hl]
  apply hI.update (w' := { w with phase := .done }) hw rfl rfl
  · intro e he
    simp only [List.mem_cons] at he ⊢
    rcases he with rfl | he
    · exact (List.getElem?_eq_some_iff.mp hi).1
    · rw [mem_unbind, mem_unbind] at he; exact hI.names_ok e he.1.1
  · unfold WOk SealedFull; exact ⟨ino, hi, hs, hcont⟩
  · intro wj w'' h hne hc
    refine ⟨?_, rfl⟩
    have h1 : ¬ Name.dest w.key = Name.staging wj := by simp
    have h2 : ¬ Name.staging wj = Name.dest w.key := by simp
    have h3 : ¬ Name.staging wj = Name.staging wi := fun e => hne (Name.staging.inj e)
    simp only [lookup_eq, lookupL_cons, h1, if_false]
    rw [← lookup_eq, lookup_unbind, lookup_unbind]
    simp only [h2, h3, if_false]; rfl
  · exact hI.dist_of_same hw hcr rfl
  · intro key i hm
    simp only [List.mem_cons, Prod.mk.injEq, Name.dest.injEq] at hm
    rcases hm with ⟨rfl, rfl⟩ | hm
    · exact ⟨ino, hi, hs, w, hwm, rfl, hcont⟩
    · rw [mem_unbind, mem_unbind] at hm
      exact (hI.dest key i hm.1.1).frame (fun _ e _ => e)

theorem Inv.init (ws : List (Bytes × List Bytes)) : Inv (initWorld ws) := by
  have hstart : ∀ (wi : Nat) (w : Writer), (initWorld ws).writers[wi]? = some w → w.phase = .start := by
    intro wi w hw
    obtain ⟨e, _, rfl⟩ := List.mem_map.1 (List.mem_of_getElem? hw)
    rfl
  refine ⟨nofun, ?_, ?_, nofun⟩
  · intro wi w hw; unfold WOk; rw [hstart wi w hw]; trivial
  · intro wi wj w w' hw _ _ hc; rw [hstart wi w hw] at hc; exact hc.elim

/-- What one step of writer `wi` may do to the world: nothing (no such writer, or one that is finished, aborted or
    dead), the writer's death (killed, or a failing call other than a Write), or one file-system call.  `same` and
    `dies` do not say under which fate and in which phase they happen, so the relation holds of more than `stepWriter`
    does (`stepWriter_step`); the invariant is preserved by all of it. -/
inductive Step (wd : World) (wi : Nat) : Fate → World → Prop
  | same (f : Fate) : Step wd wi f wd
  | dies (f : Fate) (hw : wd.writers[wi]? = some w) : Step wd wi f (kill wd wi w)
  | start (hw : wd.writers[wi]? = some w) (hp : w.phase = .start) : Step wd wi .ok (opened wd wi w)
  | write (hw : wd.writers[wi]? = some w)
      (hp : w.phase = .writing (c :: rest)) : Step wd wi .ok (wrote wd wi w c rest)
  | abort (hw : wd.writers[wi]? = some w)
      (hp : w.phase = .writing (c :: rest)) : Step wd wi .fail (gaveUp wd wi w)
  | close (hw : wd.writers[wi]? = some w) (hp : w.phase = .writing []) : Step wd wi .ok (sealedUp wd wi w)
  | rename (hw : wd.writers[wi]? = some w) (hp : w.phase = .closed)
      (hd : wd.fs.dirs.contains w.key = true) : Step wd wi .ok (renamed wd wi w)
  | enoent (hw : wd.writers[wi]? = some w) (hp : w.phase = .closed)
      (hd : wd.fs.dirs.contains w.key = false) : Step wd wi .ok (rephased wd wi w .needDir wd.fs.dirs)
  | mkdir (hw : wd.writers[wi]? = some w) (hp : w.phase = .needDir) :
      Step wd wi .ok (rephased wd wi w .closed (w.key :: wd.fs.dirs))

theorem stepWriter_step (wd : World) (wi : Nat) (f : Fate) : Step wd wi f (stepWriter wd wi f) := by
  cases hw : wd.writers[wi]? with
  | none => rw [step_none f hw]; exact .same f
  | some w =>
    cases f with
    | kill => rw [step_kill hw]; exact .dies _ hw
    | fail =>
      cases hp : w.phase with
      | start => rw [step_fail_dies hw (Or.inl hp)]; exact .dies _ hw
      | writing left =>
        cases left with
        | nil => rw [step_fail_dies hw (Or.inr (Or.inl hp))]; exact .dies _ hw
        | cons c rest => rw [step_abort hw hp]; exact .abort hw hp
      | closed => rw [step_fail_dies hw (Or.inr (Or.inr (Or.inl hp)))]; exact .dies _ hw
      | needDir => rw [step_fail_dies hw (Or.inr (Or.inr (Or.inr hp)))]; exact .dies _ hw
      | done => rw [step_inert (f := .fail) hw nofun (Or.inl hp)]; exact .same _
      | aborted => rw [step_inert (f := .fail) hw nofun (Or.inr (Or.inl hp))]; exact .same _
      | dead => rw [step_inert (f := .fail) hw nofun (Or.inr (Or.inr hp))]; exact .same _
    | ok =>
      cases hp : w.phase with
      | start => rw [step_start hw hp]; exact .start hw hp
      | writing left =>
        cases left with
        | nil => rw [step_close hw hp]; exact .close hw hp
        | cons c rest => rw [step_write hw hp]; exact .write hw hp
      | closed =>
        cases hd : wd.fs.dirs.contains w.key with
        | true => rw [step_rename hw hp hd]; exact .rename hw hp hd
        | false => rw [step_enoent hw hp hd]; exact .enoent hw hp hd
      | needDir => rw [step_mkdir hw hp]; exact .mkdir hw hp
      | done => rw [step_inert (f := .ok) hw nofun (Or.inl hp)]; exact .same _
      | aborted => rw [step_inert (f := .ok) hw nofun (Or.inr (Or.inl hp))]; exact .same _
      | dead => rw [step_inert (f := .ok) hw nofun (Or.inr (Or.inr hp))]; exact .same _

theorem Inv.of_step {wd wd' : World} (hI : Inv wd) {wi : Nat} {f : Fate} (h : Step wd wi f wd') : Inv wd' := by
  cases h with
  | same => exact hI
  | dies _ hw => exact hI.kill hw
  | start hw => exact hI.start hw
  | write hw hp => exact hI.write hw hp
  | abort hw hp => exact hI.abort hw hp
  | close hw hp => exact hI.close hw hp
  | rename hw hp => exact hI.rename hw hp
  | enoent hw hp => exact hI.rephase hw (Or.inl hp) (Or.inr rfl)
  | mkdir hw hp => exact hI.rephase hw (Or.inr hp) (Or.inl rfl)

theorem Inv.step {wd : World} (hI : Inv wd) (wi : Nat) (f : Fate) : Inv (stepWriter wd wi f) :=
  hI.of_step (stepWriter_step wd wi f)

theorem Inv.run {wd : World} (hI : Inv wd) (sched : Schedule) : Inv (run wd sched) := by
  induction sched generalizing wd with
  | nil => exact hI
  | cons e r ih => exact ih (hI.step e.1 e.2)

theorem Step.kc {wd wd' : World} {wi : Nat} {f : Fate} (h : Step wd wi f wd') :
    wd'.writers.map kc = wd.writers.map kc := by
  cases h with
  | same => rfl
  | dies _ hw | start hw | write hw | abort hw | close hw | rename hw | enoent hw | mkdir hw =>
    exact map_kc_setWriter hw rfl rfl

theorem run_kc (wd : World) (sched : Schedule) : (run wd sched).writers.map kc = wd.writers.map kc := by
  induction sched generalizing wd with
  | nil => rfl
  | cons e r ih => exact (ih _).trans (stepWriter_step wd e.1 e.2).kc

theorem writeOnce_of_kc {ws ws' : List Writer} (h : ws'.map kc = ws.map kc) (hwo : WriteOnce ws) : WriteOnce ws' := by
  intro w₁ h₁ w₂ h₂ hk
  obtain ⟨v₁, hv₁, k₁, c₁⟩ := exists_of_kc h h₁
  obtain ⟨v₂, hv₂, k₂, c₂⟩ := exists_of_kc h h₂
  rw [← c₁, ← c₂]
  exact hwo v₁ hv₁ v₂ hv₂ (by rw [k₁, k₂, hk])

theorem committed_of_kc {wd wd' : World} (h : wd'.writers.map kc = wd.writers.map kc) (key : Bytes) :
    committed wd' key = committed wd key := by
  have e : ∀ wd : World, committed wd key =
      ((wd.writers.map kc).find? (fun e => e.1 = key)).map (fun e => e.2.flatten) := by
    intro wd; unfold committed; rw [List.find?_map, Option.map_map]; rfl
  rw [e, e, h]

theorem Inv.read_committed {wd : World} (hI : Inv wd) (hwo : WriteOnce wd.writers) {key b : Bytes}
    (h : readKey wd key = some b) : committed wd key = some b := by
  unfold readKey at h
  cases hl : wd.fs.lookup (.dest key) with
  | none => simp [hl] at h
  | some i =>
    simp only [hl] at h
    obtain ⟨ino, e, _, w, hw, hk, hc⟩ := hI.dest key i (lookupL_mem hl)
    rw [e] at h
    simp only [Option.map_some, Option.some.injEq] at h
    rw [← h, hc]
    exact find?_key_agree Writer.key (fun w => w.chunks.flatten) hwo hw hk

theorem run_append (wd : World) (a b : Schedule) : run wd (a ++ b) = run (run wd a) b := by
  induction a generalizing wd with
  | nil => rfl
  | cons e r ih => exact ih _

/-- a new `Put(key, chunks)` arrives -/
def addWriter (wd : World) (key : Bytes) (chunks : List Bytes) : World :=
  { wd with writers := wd.writers ++ [{ key := key, chunks := chunks }] }

/-- the steps from the closed staging file to the destination: Rename, or Rename (ENOENT), Mkdir, Rename -/
def moveSchedule (n : Nat) (dirExists : Bool) : Schedule :=
  if dirExists then [(n, .ok)] else [(n, .ok), (n, .ok), (n, .ok)]

/-- the complete undisturbed run of writer `n`: OpenFile, one Write per chunk, Close, then the move -/
def freshSchedule (n : Nat) (chunks : List Bytes) (dirExists : Bool) : Schedule :=
  [(n, .ok)] ++ chunks.map (fun _ => (n, Fate.ok)) ++ [(n, .ok)] ++ moveSchedule n dirExists

theorem Inv.addWriter {wd : World} (hI : Inv wd) (key : Bytes) (chunks : List Bytes) : Inv (Store.addWriter wd key chunks) := by
  have get : ∀ (wi : Nat) (w : Writer), (wd.writers ++ [{ key := key, chunks := chunks }])[wi]? = some w →
      wd.writers[wi]? = some w ∨ w.phase = .start := by
    intro wi w h
    rw [List.getElem?_append] at h
    split at h
    · exact Or.inl h
    · rw [List.mem_singleton.1 (List.mem_of_getElem? h)]; exact Or.inr rfl
  refine ⟨hI.names_ok, ?_, ?_, ?_⟩
  · intro wi w h
    rcases get wi w h with h | h
    · exact hI.wok wi w h
    · unfold WOk; simp [h]
  · intro wi wj w w' h h' hne hc hc'
    rcases get wi w h with h | h
    · rcases get wj w' h' with h' | h'
      · exact hI.distinct wi wj w w' h h' hne hc hc'
      · simp [h', Created] at hc'
    · simp [h, Created] at hc
  · intro k i hm
    obtain ⟨ino, e, hs, w, hw, hk, hc⟩ := hI.dest k i hm
    exact ⟨ino, e, hs, w, List.mem_append_left _ hw, hk, hc⟩

theorem WOk.at_rename {wd : World} {n : Nat} {w : Writer} (hok : WOk wd.fs n w) (hw : wd.writers[n]? = some w)
    (hp : w.phase = .closed) (hd : wd.fs.dirs.contains w.key = true) :
    readKey (stepWriter wd n .ok) w.key = some w.chunks.flatten := by
  obtain ⟨hl, ino, hi, hs, hcont⟩ := hok.closed (Or.inl hp)
  rw [step_rename hw hp hd, renamed, rename_of_lookup hl]
  unfold readKey
  simp only [lookup_eq, lookupL_cons, if_true, hi, Option.map_some, hcont]

theorem WOk.run_move {wd : World} {n : Nat} {w : Writer} (hok : WOk wd.fs n w) (hw : wd.writers[n]? = some w)
    (hp : w.phase = .closed) :
    readKey (Store.run wd (moveSchedule n (wd.fs.dirs.contains w.key))) w.key = some w.chunks.flatten := by
  unfold moveSchedule
  cases hd : wd.fs.dirs.contains w.key with
  | true => exact hok.at_rename hw hp hd
  | false =>
    -- Rename fails with ENOENT, Mkdir, Rename again
    have hw1 := setWriter_self { w with phase := .needDir } hw
    simp only [Bool.false_eq_true, if_false, Store.run]
    rw [step_enoent hw hp hd, step_mkdir (wd := rephased wd n w .needDir wd.fs.dirs) hw1 rfl]
    exact WOk.at_rename (w := { w with phase := .closed }) (by unfold WOk; exact hok.closed (Or.inl hp))
      (setWriter_self _ hw1) rfl (by simp)

theorem WOk.run_writes {left : List Bytes} : ∀ {wd : World} {n : Nat} {w : Writer}, WOk wd.fs n w →
    wd.writers[n]? = some w → w.phase = .writing left →
    readKey (Store.run wd (left.map (fun _ => (n, Fate.ok)) ++ [(n, .ok)] ++ moveSchedule n (wd.fs.dirs.contains w.key))) w.key
      = some w.chunks.flatten := by
  induction left with
  | nil =>
    intro wd n w hok hw hp
    simp only [List.map_nil, List.nil_append, List.cons_append, Store.run]
    rw [step_close hw hp]
    exact (hok.close hp).run_move (setWriter_self _ hw) rfl
  | cons c rest ih =>
    intro wd n w hok hw hp
    simp only [List.map_cons, List.cons_append, Store.run]
    rw [step_write hw hp]
    exact ih (w := { w with phase := .writing rest }) (hok.write hp) (setWriter_self _ hw) rfl

theorem fresh_completes (wd : World) (key : Bytes) (chunks : List Bytes) :
    readKey (Store.run (Store.addWriter wd key chunks) (freshSchedule wd.writers.length chunks (wd.fs.dirs.contains key))) key
      = some chunks.flatten := by
  have hw : (Store.addWriter wd key chunks).writers[wd.writers.length]? = some { key := key, chunks := chunks } :=
    List.getElem?_concat_length
  have es : freshSchedule wd.writers.length chunks (wd.fs.dirs.contains key) = (wd.writers.length, Fate.ok) ::
      (chunks.map (fun _ => (wd.writers.length, Fate.ok)) ++ [(wd.writers.length, .ok)] ++
        moveSchedule wd.writers.length (wd.fs.dirs.contains key)) := rfl
  rw [es, Store.run, step_start hw rfl]
  exact WOk.opened.run_writes (setWriter_self _ hw) rfl

end Ipld.Store

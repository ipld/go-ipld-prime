/-
  Floats as bit patterns.  Widening: whatever the field widths (at most 11 and 52 bits), the widened pattern fits
  64 bits.  The strict check: `checkFloat` refuses exactly the patterns that are not `finite64`.
-/
import IpldModel.Model.Cbor
import IpldModel.Spec.CborDenotes
namespace Ipld

theorem highBit_spec : ∀ (w m : Nat), m ≠ 0 → m < 2 ^ w →
    2 ^ highBit w m ≤ m ∧ m < 2 ^ (highBit w m + 1) ∧ highBit w m < w
  | 0, m, h0, h => absurd (Nat.lt_one_iff.mp h) h0
  | w + 1, m, h0, h => by
    simp only [highBit]
    split
    · rename_i hb
      refine ⟨Nat.le_of_not_lt fun hlt => ?_, h, Nat.lt_succ_self w⟩
      rw [Nat.div_eq_of_lt hlt] at hb
      cases hb
    · rename_i hb
      -- the quotient is below 2 and not odd, so it is 0
      have h2 : m / 2 ^ w < 2 := Nat.div_lt_of_lt_mul (by rw [← Nat.pow_succ]; exact h)
      rw [Nat.mod_eq_of_lt h2] at hb
      have h4 : m < 2 ^ w := Nat.lt_of_div_eq_zero (Nat.two_pow_pos w)
        (Nat.lt_one_iff.mp (Nat.lt_of_le_of_ne (Nat.le_of_lt_succ h2) hb))
      obtain ⟨a, b, c⟩ := highBit_spec w m h0 h4
      exact ⟨a, b, Nat.lt_succ_of_lt c⟩

theorem subnormal_frac_lt (mbits m : Nat) (h0 : m ≠ 0) (h : m < 2 ^ mbits) (hmb : mbits ≤ 52) :
    (m - 2 ^ highBit mbits m) * 2 ^ (52 - highBit mbits m) < 2 ^ 52 := by
  obtain ⟨h1, h2, h3⟩ := highBit_spec mbits m h0 h
  have hp : highBit mbits m ≤ 52 := Nat.le_trans (Nat.le_of_lt h3) hmb
  rw [← congrArg (2 ^ ·) (Nat.add_sub_of_le hp), Nat.pow_add]
  apply Nat.mul_lt_mul_of_pos_right _ (Nat.two_pow_pos _)
  rw [Nat.pow_succ] at h2
  omega

theorem f64_pack_lt {s e f : Nat} (hs : s < 2) (he : e < 2048) (hf : f < 2 ^ 52) :
    s * 2 ^ 63 + e * 2 ^ 52 + f < 2 ^ 64 := by omega

theorem widen_lt (ebits mbits : Nat) {s e m : Nat} (hE : ebits ≤ 11) (hM : mbits ≤ 52) (hs : s < 2)
    (he : e < 2 ^ ebits) (hm : m < 2 ^ mbits) : widen ebits mbits s e m < 2 ^ 64 := by
  unfold widen
  dsimp only
  split
  · split
    · exact Nat.mul_lt_mul_of_pos_right hs (Nat.two_pow_pos 63)
    · rename_i hm0
      have hp := (highBit_spec mbits m hm0 hm).2.2
      refine f64_pack_lt hs ?_ (subnormal_frac_lt mbits m hm0 hm hM)
      omega
  · split
    · split
      · exact f64_pack_lt (e := 2047) (f := 0) hs (by decide) (by decide)
      · rw [Nat.add_assoc (s * 2 ^ 63 + 2047 * 2 ^ 52)]
        exact f64_pack_lt (e := 2047) hs (by decide)
          (Nat.add_lt_add_left (Nat.mod_lt _ (Nat.two_pow_pos 51)) (2 ^ 51))
    · rename_i hne
      refine f64_pack_lt hs ?_ ?_
      · -- `e ≤ 2 ^ ebits - 2` and the bias is `2 ^ (ebits - 1) - 1`, with `2 ^ (ebits - 1) ≤ 1024`
        have ha : 2 ^ (ebits - 1) ≤ 2 ^ 10 := Nat.pow_le_pow_right (by decide) (Nat.sub_le_of_le_add hE)
        have hpos : 0 < 2 ^ (ebits - 1) := Nat.two_pow_pos _
        have hb : 2 ^ ebits ≤ 2 * 2 ^ (ebits - 1) := by
          cases ebits with
          | zero => decide
          | succ n => rw [Nat.add_sub_cancel, Nat.pow_succ, Nat.mul_comm]; exact Nat.le_refl _
        omega
      · rw [← congrArg (2 ^ ·) (Nat.add_sub_of_le hM), Nat.pow_add]
        exact Nat.mul_lt_mul_of_pos_right hm (Nat.two_pow_pos _)

theorem f16to64_lt (h : Nat) (hh : h < 2 ^ 16) : f16to64 h < 2 ^ 64 :=
  widen_lt 5 10 (by decide) (by decide) (Nat.div_lt_of_lt_mul hh) (Nat.mod_lt _ (by decide))
    (Nat.mod_lt _ (by decide))

theorem f32to64_lt (w : Nat) (hw : w < 2 ^ 32) : f32to64 w < 2 ^ 64 :=
  widen_lt 8 23 (by decide) (by decide) (Nat.div_lt_of_lt_mul hw) (Nat.mod_lt _ (by decide))
    (Nat.mod_lt _ (by decide))

theorem finite_of_not_nan_inf (b : Nat) (h1 : f64IsNaN b = false) (h2 : f64IsInf b = false) : Spec.finite64 b := by
  unfold Spec.finite64
  intro h
  simp [f64IsNaN, f64IsInf, h] at h1 h2
  omega

theorem not_nan_of_inf (b : Nat) (h : f64IsInf b = true) : f64IsNaN b = false := by
  simp only [f64IsInf, f64IsNaN, Bool.and_eq_true, decide_eq_true_eq] at h ⊢
  simp [h.2]

namespace Cbor
open Spec

theorem checkFloat_ok {strict : Bool} {b : Nat} {v : DM} (h : checkFloat strict b = .ok v) :
    v = .float (UInt64.ofNat b) ∧ (strict = true → finite64 b) := by
  unfold checkFloat at h
  split at h
  · cases h
  · split at h
    · cases h
    · rename_i h1 h2
      injection h with h
      refine ⟨h.symm, fun hs => ?_⟩
      subst hs
      exact finite_of_not_nan_inf b (by simpa using h1) (by simpa using h2)

theorem checkFloat_finite (strict : Bool) (b : Nat) (h : finite64 b) :
    checkFloat strict b = .ok (.float (UInt64.ofNat b)) := by
  unfold finite64 at h
  simp [checkFloat, f64IsNaN, f64IsInf, h]

theorem checkFloat_nan {b : Nat} (h : f64IsNaN b = true) : checkFloat true b = .error .nan := by
  simp [checkFloat, h]

theorem checkFloat_inf {b : Nat} (h : f64IsInf b = true) : checkFloat true b = .error .inf := by
  simp [checkFloat, h, not_nan_of_inf _ h]

end Cbor
end Ipld
